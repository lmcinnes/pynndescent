import PynnVerif.Proofs.SparseCorrelation
import PynnVerif.Proofs.GenMerge
import PynnVerif.Proofs.GenSparseMetrics
import PynnVerif.Proofs.GenMetrics
import PynnVerif.Proofs.Metrics

/-!
# C08 — sparse metrics agree with their dense counterparts

The property theorems with their immediate proofs (helper lemmas: `Proofs/Sparse.lean`,
`Proofs/SparseIndex.lean`, `Proofs/SparseMetrics.lean`, `Proofs/SparseCorrelation.lean`,
general list facts: `Proofs/Lists.lean`; the model of
`pynndescent/sparse.py` and the reference copies of the dense kernels: `Model/Sparse.lean`).

* a CSR row `(ind, data)` is `a : SVec α = List (Nat × α)`; `decode a i` is the value of the
  dense vector it stands for at coordinate `i`; `enc x` is the CSR encoding of the dense
  vector `x : List α`; `WF a` = indices strictly increasing and no stored zero;
* the merge theorems are stated for **all** sorted rows `a b`, i.e. for every relation of the
  two supports (empty, identical, disjoint, nested, overlapping) at once;
* the carrier `α` is any ring / ordered ring / ordered field (`ℤ`, `ℚ`, `ℝ`): the theorems are
  about the kernels' *arithmetic on exact numbers*.  Float rounding is not modelled (the harness
  compares the real float32 kernels on exactly representable data and within tolerance), nor is
  the `uint16` width of two cursor variables (rows with ≥ 65536 stored entries, cf. D13);
* metrics that finish with `sqrt` are proved at the level of the `sqrt` argument
  (`sqEuclidean`, `minkowskiSum`, …) or with `sqrt` an arbitrary function satisfying `IsSqrt`
  (multiplicative and zero only at zero on non-negative arguments — `Real.sqrt` is one).

* **tie between model and code** for the four two-pointer kernels `sparse_sum`, `sparse_mul`,
  `sparse_dot_product`, `fast_intersection_size`: section "the translated kernels" below —
  theorems about `Pynn.GenK.*` (`Gen/Kernels.lean`, regenerated from the source text of
  `sparse.py` by `harness/translate_kernels.py` on every run): for **every** input the translated
  kernel performs no out-of-bounds access, terminates within the stated fuel and returns exactly
  what the hand-written model returns.  Helper lemmas: `Proofs/GenMerge.lean`.

NOT proved here (no model, no theorem — left to the differential harness `harness/c08.py`):
`sparse_kantorovich`, `sparse_wasserstein_1d`,
`sparse_hellinger` beyond its accumulators (`hellinger_sums_agree`), `sparse_minkowski` for
non-integer `p`, the bodies of `jensen_shannon_divergence` / `symmetric_kl_divergence`
(only the reduction `dense_union` is proved: `dense_union_spec`), the `alternative_*` kernels
and their correction ufuncs (not named sparse metrics; C09).
-/
namespace Pynn.C08
open Pynn.Sparse

/-! ## encoding -/
section Enc
variable {α : Type} [DecidableEq α] [Zero α]

omit [DecidableEq α] in
/-- `WF` is what it is said to be: the index array strictly increasing, no stored zero. -/
theorem wf_iff (a : SVec α) :
    WF a ↔ (inds a).Pairwise (· < ·) ∧ ∀ v ∈ vals a, v ≠ 0 := by
  unfold WF NoZero vals
  rw [sorted_iff_pairwise, List.forall_mem_map]

/-- The CSR encoding of a dense vector is well formed and its indices are coordinates of the
vector (so the precondition of every theorem below is met by what the library feeds the
kernels: `scipy.sparse` CSR rows with sorted indices and eliminated zeros). -/
theorem enc_wf (x : List α) : WF (enc x) ∧ Below x.length (enc x) :=
  ⟨⟨sortedFrom_enc x, noZero_enc x⟩, Nat.zero_add x.length ▸ below_encFrom 0 x⟩

/-- Round trip: the encoding stands for the vector it was made from (0 beyond its length). -/
theorem decode_enc (x : List α) (i : Nat) : decode (enc x) i = x.getD i 0 :=
  Sparse.decode_enc x i

/-- Round trip, as lists. -/
theorem toDense_enc (x : List α) : toDense x.length (enc x) = x := by
  refine List.ext_getElem (length_toDense _ _) fun i _ h2 => ?_
  simp only [toDense, List.getElem_map, List.getElem_range, Sparse.decode_enc,
    List.getD_eq_getElem?_getD, List.getElem?_eq_getElem h2, Option.getD_some]

/-- Conversely every well-formed row with indices below `n` **is** the encoding of its
`n`-dimensional dense vector; hence each `…_agrees` theorem below, stated for `enc x`, `enc y`,
holds for all well-formed rows `a`, `b` with `x := toDense n a`, `y := toDense n b`. -/
theorem enc_toDense {n : Nat} {a : SVec α} (hw : WF a) (hb : Below n a) : enc (toDense n a) = a :=
  Sparse.enc_toDense hw.1 hw.2 hb

end Enc

/-! ## the merge kernels -/
section Merges
variable {α : Type} [DecidableEq α] [Ring α]

/-- **`sparse_sum`, `sparse_diff`, `sparse_mul` compute the pointwise sum, difference, product**
of the vectors their arguments stand for — for all rows with strictly increasing indices
(stored zeros allowed), every support relation at once. -/
theorem merge_decode {a b : SVec α} (ha : Sorted a) (hb : Sorted b) (i : Nat) :
    decode (sparseSum a b) i = decode a i + decode b i ∧
    decode (sparseDiff a b) i = decode a i - decode b i ∧
    decode (sparseMul a b) i = decode a i * decode b i :=
  ⟨decode_sparseSum ha hb i, decode_sparseDiff ha hb i, decode_sparseMul ha hb i⟩

/-- **The results are well-formed rows** (strictly increasing indices, *no stored zero* — also
when the inputs store zeros or the operation cancels), and no index is invented. -/
theorem merge_wf {a b : SVec α} (ha : Sorted a) (hb : Sorted b) :
    WF (sparseSum a b) ∧ WF (sparseDiff a b) ∧ WF (sparseMul a b) ∧
    ∀ n, Below n a → Below n b →
      Below n (sparseSum a b) ∧ Below n (sparseDiff a b) ∧ Below n (sparseMul a b) :=
  ⟨⟨sortedFrom_sparseSum ha hb, noZero_sparseSum a b⟩,
   ⟨sortedFrom_sparseDiff ha hb, noZero_sparseDiff a b⟩,
   ⟨sortedFrom_sparseMul ha hb, noZero_sparseMul a b⟩,
   fun _ h1 h2 => ⟨below_sparseSum h1 h2, below_sparseDiff h1 h2, below_sparseMul b h1⟩⟩

/-- Consequently, on encodings the merges return *exactly* the encoding of the dense result. -/
theorem merge_enc (x y : List α) (h : x.length = y.length) :
    sparseSum (enc x) (enc y) = enc (List.zipWith (· + ·) x y) ∧
    sparseDiff (enc x) (enc y) = enc (List.zipWith (· - ·) x y) ∧
    sparseMul (enc x) (enc y) = enc (List.zipWith (· * ·) x y) :=
  ⟨sparseSum_enc x y h, sparseDiff_enc x y h, sparseMul_enc x y h⟩

/-- **`sparse_dot_product` is the dense dot product** `Σ_i x[i]·y[i]` (`Dense.dot`: the loop
`for i in range(dim): result += x[i] * y[i]`) whenever both rows are non-empty; stored zeros are
irrelevant here. -/
theorem dot_product_agrees (x y : List α) (h : x.length = y.length)
    (hx : enc x ≠ []) (hy : enc y ≠ []) :
    sparseDotProduct (enc x) (enc y) = some (Dense.dot x y) := by
  rw [sparseDotProduct_eq hx hy, mulSum_enc x y h]

/-- The same for arbitrary well-formed rows of an `n`-dimensional space. -/
theorem dot_product_spec {n : Nat} {a b : SVec α} (ha : WF a) (hb : WF b)
    (hna : Below n a) (hnb : Below n b) (hae : a ≠ []) (hbe : b ≠ []) :
    sparseDotProduct a b = some (Dense.dot (toDense n a) (toDense n b)) := by
  have := dot_product_agrees (toDense n a) (toDense n b)
    (by rw [length_toDense, length_toDense])
  rw [enc_toDense ha hna, enc_toDense hb hnb] at this
  exact this hae hbe

omit [DecidableEq α] in
/-- **Guard**: with an empty row the kernel executes `ind[0]` on an empty array *before* any
length test — an out-of-bounds read (`none`), not the value `0`.  Reached from
`rp_trees.sparse_select_side` for an all-zero query row. -/
theorem dot_product_empty (a b : SVec α) :
    sparseDotProduct ([] : SVec α) b = none ∧ (a ≠ [] → sparseDotProduct a ([] : SVec α) = none) := by
  refine ⟨rfl, fun h => ?_⟩
  cases a with
  | nil => exact (h rfl).elim
  | cons p a => rfl

end Merges

/-! ## the index-array kernels -/
section Index
variable {α : Type} [DecidableEq α] [Zero α]

omit [DecidableEq α] [Zero α] in
/-- **`fast_intersection_size`** of the index arrays of two sorted rows is the number of common
indices. -/
theorem intersection_size_spec {a b : SVec α} (ha : Sorted a) (hb : Sorted b) :
    intersectionSize (inds a) (inds b) = ((inds a).filter (· ∈ inds b)).length :=
  intersectionSize_eq (incFrom_inds ha) (incFrom_inds hb)

/-- … i.e., for well-formed rows, the number of coordinates at which both vectors are non-zero. -/
theorem intersection_size_agrees (x y : List α) (h : x.length = y.length) :
    intersectionSize (inds (enc x)) (inds (enc y))
      = (x.zip y).countP (fun p => p.1 ≠ 0 ∧ p.2 ≠ 0) := by
  rw [intersection_size_spec (sortedFrom_enc x) (sortedFrom_enc y)]
  exact isect_count_encFrom 0 x y h

omit [DecidableEq α] [Zero α] in
/-- **`arr_union` / `arr_intersect`** of the index arrays of two sorted rows: strictly increasing,
and exactly the union / the intersection; `|union| + |intersection| = nnz₁ + nnz₂`. -/
theorem arr_union_intersect_spec {a b : SVec α} (ha : Sorted a) (hb : Sorted b) :
    (arrUnion (inds a) (inds b)).Pairwise (· < ·) ∧
    (∀ i, i ∈ arrUnion (inds a) (inds b) ↔ i ∈ inds a ∨ i ∈ inds b) ∧
    (arrIntersect (inds a) (inds b)).Pairwise (· < ·) ∧
    (∀ i, i ∈ arrIntersect (inds a) (inds b) ↔ i ∈ inds a ∧ i ∈ inds b) ∧
    (arrUnion (inds a) (inds b)).length + ((inds a).filter (· ∈ inds b)).length
      = a.length + b.length := by
  have pa := (incFrom_inds ha).pairwise
  have pb := (incFrom_inds hb).pairwise
  refine ⟨(arrUnion_spec pa pb).1, (arrUnion_spec pa pb).2, (arrIntersect_spec pa pb).1,
    (arrIntersect_spec pa pb).2, ?_⟩
  have := arrUnion_length pa pb
  rwa [length_inds, length_inds] at this

/-- **`dense_union`** (the whole of what `sparse_jensen_shannon_divergence` and
`sparse_symmetric_kl_divergence` do before calling the *dense* kernels): it returns the two
dense vectors restricted to the coordinates where `x[i] + y[i] ≠ 0`; when the vectors never
cancel (in particular for the non-negative data these divergences are defined on) that is the
restriction to the union of the supports. -/
theorem dense_union_spec {β : Type} [DecidableEq β] [AddZeroClass β] (x y : List β)
    (h : x.length = y.length) :
    denseUnion (enc x) (enc y) = (x.zip y).filter (fun p => p.1 + p.2 ≠ 0) ∧
    ((∀ p ∈ x.zip y, p.1 + p.2 = 0 → p.1 = 0 ∧ p.2 = 0) →
      denseUnion (enc x) (enc y) = (x.zip y).filter (fun p => p.1 ≠ 0 ∨ p.2 ≠ 0)) := by
  have hu := denseUnion_encFrom 0 x y h
  refine ⟨hu, fun hnc => hu.trans (List.filter_congr fun p hp => decide_eq_decide.2 ?_)⟩
  exact (not_congr ⟨hnc p hp, fun hz => by rw [hz.1, hz.2, add_zero]⟩).trans not_and_or

end Index

/-! ## metrics: Minkowski family, Hamming -/
section RingMetrics
variable {α : Type} [DecidableEq α] [Ring α]

/-- `sparse_squared_euclidean = squared_euclidean`; `sparse_euclidean` / `euclidean` are `sqrt`
of these two equal numbers. -/
theorem sqeuclidean_agrees (x y : List α) (h : x.length = y.length) :
    sqEuclidean (enc x) (enc y) = Dense.sqEuclidean x y := sqEuclidean_enc x y h

/-- `sparse_hamming(…, n_features) = hamming` with `n_features = dim`: the number of stored
entries of `sparse_diff` is the number of coordinates at which the vectors differ. -/
theorem hamming_agrees (x y : List α) (h : x.length = y.length) :
    hamming (enc x) (enc y) x.length = Dense.hamming x y := by
  unfold hamming Dense.hamming
  rw [sparseDiff_enc x y h, length_enc, countP_zipWith_sub,
    foldl_count (fun p : α × α => p.1 ≠ p.2), Nat.zero_add]

variable [LinearOrder α]

set_option linter.unusedSectionVars false in
/-- the model's `np.abs` / `max` are the absolute value and maximum of the ordered ring -/
theorem absV_maxV_std [IsStrictOrderedRing α] (r v : α) : absV v = |v| ∧ maxV r v = max r v :=
  ⟨absV_eq_abs v, maxV_eq_max r v⟩

/-- `sparse_manhattan = manhattan` -/
theorem manhattan_agrees (x y : List α) (h : x.length = y.length) :
    manhattan (enc x) (enc y) = Dense.manhattan x y :=
  foldl_merge_enc (fun r d : α => r + absV d) (fun r => by rw [absV_zero, add_zero]) _
    (sparseDiff_enc x y h) 0

/-- `sparse_chebyshev = chebyshev` (skipping the implicit zeros is sound because the running
maximum starts at `0.0` and never becomes negative) -/
theorem chebyshev_agrees [IsStrictOrderedRing α] (x y : List α) (h : x.length = y.length) :
    chebyshev (enc x) (enc y) = Dense.chebyshev x y := by
  unfold chebyshev Dense.chebyshev
  rw [sparseDiff_enc x y h, enc,
    foldl_encFrom _ (fun r d : α => maxV r (absV d)) (fun r => 0 ≤ r)
      (fun r v hr => maxV_nonneg hr (absV_nonneg v))
      (fun r hr => by rw [absV_zero]; exact maxV_zero hr) (fun _ _ _ => rfl) 0 _ 0 (le_refl 0)]
  exact List.zipWith_foldl_eq_zip_foldl

/-- `sparse_minkowski = minkowski` for integer `p ≥ 1`, before the final `** (1/p)`
(for `p = 0` the implicit zeros would each contribute `0**0 = 1` to the dense sum only) -/
theorem minkowski_agrees {p : Nat} (hp : 1 ≤ p) (x y : List α) (h : x.length = y.length) :
    minkowskiSum p (enc x) (enc y) = Dense.minkowskiSum p x y :=
  foldl_merge_enc (fun r d : α => r + powN (absV d) p)
    (fun r => by rw [absV_zero, powN_zero_of_pos hp, add_zero]) _ (sparseDiff_enc x y h) 0

end RingMetrics

/-! ## metrics: binary (support) metrics with their closed-form corrections -/
section Binary
variable {α : Type} [DecidableEq α] [Zero α]

/-- The three counts every binary sparse metric is computed from equal the dense loop counts:
`num_true_true` (`fast_intersection_size`), `num_non_zero = nnz₁ + nnz₂ − num_true_true`,
`num_not_equal = num_non_zero − num_true_true`. -/
theorem counts_agree (x y : List α) (h : x.length = y.length) :
    numTrueTrue (enc x) (enc y) = Dense.numTrueTrue x y ∧
    numNonZero (enc x) (enc y) = Dense.numNonZero x y ∧
    numNotEqual (enc x) (enc y) = Dense.numNotEqual x y :=
  ⟨numTrueTrue_enc x y h, numNonZero_enc x y h, numNotEqual_enc x y h⟩

/-- `sparse_jaccard = jaccard` -/
theorem jaccard_agrees (x y : List α) (h : x.length = y.length) :
    jaccard (enc x) (enc y) = Dense.jaccard x y := by
  simp only [jaccard, Dense.jaccard, numNonZero_enc x y h, numTrueTrue_enc x y h]

/-- `sparse_matching(…, n_features = dim) = matching` -/
theorem matching_agrees (x y : List α) (h : x.length = y.length) :
    matching (enc x) (enc y) x.length = Dense.matching x y := by
  simp only [matching, Dense.matching, numNotEqual_enc x y h]

/-- `sparse_dice = dice` -/
theorem dice_agrees (x y : List α) (h : x.length = y.length) :
    dice (enc x) (enc y) = Dense.dice x y := by
  simp only [dice, Dense.dice, numNotEqual_enc x y h, numTrueTrue_enc x y h]

/-- `sparse_kulsinski(…, n_features = dim) = kulsinski` -/
theorem kulsinski_agrees (x y : List α) (h : x.length = y.length) :
    kulsinski (enc x) (enc y) x.length = Dense.kulsinski x y := by
  simp only [kulsinski, Dense.kulsinski, numNotEqual_enc x y h, numTrueTrue_enc x y h]

/-- `sparse_rogers_tanimoto(…, n_features = dim) = rogers_tanimoto` -/
theorem rogerstanimoto_agrees (x y : List α) (h : x.length = y.length) :
    rogersTanimoto (enc x) (enc y) x.length = Dense.rogersTanimoto x y := by
  simp only [rogersTanimoto, Dense.rogersTanimoto, numNotEqual_enc x y h]

/-- `sparse_russellrao(…, n_features = dim) = russellrao`, including the sparse kernel's extra
early return on identical index arrays (the dense kernel then takes its own `0.0` branch) -/
theorem russellrao_agrees (x y : List α) (h : x.length = y.length) :
    russellrao (enc x) (enc y) x.length = Dense.russellrao x y := by
  unfold russellrao Dense.russellrao
  rw [countP_vals_enc, countP_vals_enc, ← numTrueTrue_enc x y h, ← length_enc, ← length_enc]
  -- identical index arrays: every stored index is common, so the remaining test (the dense
  -- kernel's "all true-true" branch) succeeds as well
  refine ite_eq_right_iff.2 fun hEq => ?_
  rw [numTrueTrue, intersection_size_spec (sortedFrom_enc x) (sortedFrom_enc y),
    ← length_inds (enc y), ← hEq, List.filter_eq_self.2 (fun i hi => decide_eq_true hi),
    length_inds, if_pos ⟨rfl, rfl⟩]

/-- `sparse_sokal_michener(…, n_features = dim) = sokal_michener` -/
theorem sokalmichener_agrees (x y : List α) (h : x.length = y.length) :
    sokalMichener (enc x) (enc y) x.length = Dense.sokalMichener x y := by
  simp only [sokalMichener, Dense.sokalMichener, numNotEqual_enc x y h]

/-- `sparse_sokal_sneath = sokal_sneath` -/
theorem sokalsneath_agrees (x y : List α) (h : x.length = y.length) :
    sokalSneath (enc x) (enc y) = Dense.sokalSneath x y := by
  simp only [sokalSneath, Dense.sokalSneath, numNotEqual_enc x y h, numTrueTrue_enc x y h]

end Binary

/-! ## metrics: cosine, Hellinger, Bray–Curtis, correlation -/
section Angular
variable {α : Type} [DecidableEq α]

/-- The three accumulators of `sparse_cosine` (`Σ sparse_mul`, `norm(data1)²`, `norm(data2)²`)
are those of `cosine` (`Σ x·y`, `Σ x²`, `Σ y²`). -/
theorem cosine_parts_agree [Ring α] (x y : List α) (h : x.length = y.length) :
    mulSum (enc x) (enc y) = Dense.dot x y ∧ normSq (enc x) = Dense.normSq x ∧
    normSq (enc y) = Dense.normSq y :=
  ⟨mulSum_enc x y h, normSq_enc x, normSq_enc y⟩

/-- The accumulators of `sparse_hellinger` (`Σ sqrt(x·y)` over `sparse_mul`, `Σ data1`,
`Σ data2`) are those of `hellinger`, for any function `sqrt` with `sqrt 0 = 0`. -/
theorem hellinger_sums_agree [Ring α] (sqrt : α → α) (h0 : sqrt 0 = 0) (x y : List α)
    (h : x.length = y.length) :
    hellingerSum sqrt (enc x) (enc y) = Dense.hellingerSum sqrt x y ∧
    dataSum (enc x) = Dense.sum x ∧ dataSum (enc y) = Dense.sum y :=
  ⟨hellingerSum_enc sqrt h0 x y h, dataSum_enc x, dataSum_enc y⟩

/-- **`sparse_correlation`'s accounting of the implicit coordinates is exact** (this is where
D17 lived): for *arbitrary* constants `mu_x`, `mu_y`, the four-part dot product
(common coordinates via `sparse_mul` of the shifted rows — dropped zero products included —,
coordinates stored only in row 1, only in row 2, and the `n_features − |arr_union|` coordinates
stored in neither, with `common` taken from `arr_intersect` of the index arrays) equals the dense
`Σ_i (x[i] − mu_x)(y[i] − mu_y)`, and `Σ shifted² + (n_features − nnz)·mu²` equals the dense
`Σ_i (x[i] − mu)²`.  In particular entries equal to the row mean (shifted value exactly 0) are
accounted once. -/
theorem correlation_accounting [CommRing α] (mx my : α) (x y : List α) (h : x.length = y.length) :
    corrDot mx my (enc x) (enc y) x.length
        = (x.zip y).foldl (fun r p => r + (p.1 - mx) * (p.2 - my)) 0 ∧
    corrNormSq mx (enc x) x.length = x.foldl (fun r u => r + (u - mx) * (u - mx)) 0 :=
  ⟨corrDot_enc mx my x y h, corrNormSq_enc mx x⟩

/-- The three accumulators of `sparse_correlation` (`dot_product`, `norm1²`, `norm2²`, with the
means `Σ data / n_features`) are those of `correlation`. -/
theorem correlation_parts_agree [Field α] (x y : List α) (h : x.length = y.length) :
    correlationParts (enc x) (enc y) x.length = Dense.correlationParts x y := by
  unfold correlationParts Dense.correlationParts
  simp only [dataSum_enc]
  rw [corrDot_enc _ _ x y h, corrNormSq_enc, h, corrNormSq_enc]

variable [Field α] [LinearOrder α] [IsStrictOrderedRing α]

/-- `sparse_cosine = cosine`, branches included (`1 − r/(√n₁·√n₂)` vs `1 − r/√(n₁·n₂)`). -/
theorem cosine_agrees {sqrt : α → α} (hs : IsSqrt sqrt) (x y : List α) (h : x.length = y.length) :
    cosine sqrt (enc x) (enc y) = Dense.cosine sqrt x y := by
  have nn (z : List α) : 0 ≤ Dense.normSq z := foldl_sq_nonneg (fun v => v) z 0 le_rfl
  unfold cosine Dense.cosine
  simp only [mulSum_enc x y h, normSq_enc, hs.eq_zero _ (nn x), hs.eq_zero _ (nn y),
    hs.mul _ _ (nn x) (nn y)]

/-- `sparse_bray_curtis = bray_curtis` (the sparse `denominator == 0` test against the dense
`denominator > 0`) -/
theorem braycurtis_agrees (x y : List α) (h : x.length = y.length) :
    brayCurtis (enc x) (enc y) = Dense.brayCurtis x y := by
  have eD := foldl_merge_enc (fun r d : α => r + absV d) (fun r => by rw [absV_zero, add_zero]) _
    (sparseSum_enc x y h) 0
  have eN := manhattan_agrees x y h
  have hden := foldl_add_nonneg (fun p : α × α => absV (p.1 + p.2)) (fun _ => absV_nonneg _)
    (x.zip y) 0 le_rfl
  unfold brayCurtis Dense.brayCurtis
  unfold manhattan Dense.manhattan at eN
  simp only [List.foldl_map, List.isEmpty_map]
  rw [eD, eN]
  -- the denominator is a sum of absolute values: zero (both kernels return 0) or positive
  rcases hden.eq_or_lt with hd | hd
  · rw [← hd, if_pos rfl, ite_self, if_neg (lt_irrefl 0)]
  · rw [if_neg hd.ne', if_pos hd, if_neg]
    -- the sparse kernel's emptiness test fails: an empty sum would be 0
    refine fun hE => hd.ne ?_
    rw [← eD, List.isEmpty_iff.1 hE]
    rfl

/-- `sparse_canberra = canberra`: `sparse_mul(|sparse_diff|, 1/sparse_sum(|data1|, |data2|))`
summed, against the dense loop with its `denominator > 0` guard -/
theorem canberra_agrees (x y : List α) (h : x.length = y.length) :
    canberra (enc x) (enc y) = Dense.canberra x y := by
  have hA : ∀ z : List α, _ := map_enc absV absV_eq_zero_iff
  unfold canberra Dense.canberra
  simp only []  -- zeta-reduces the `let`s of `canberra`
  rw [hA x, hA y,
    sparseSum_enc _ _ (by rw [List.length_map, List.length_map, h]), sparseDiff_enc x y h,
    map_enc (fun d : α => 1 / d) (fun v => by rw [one_div, inv_eq_zero]), hA,
    sparseMul_enc _ _ (by simp only [List.length_map, List.length_zipWith]),
    foldl_enc (fun r d : α => r + d) add_zero, canberra_lists, List.foldl_map]
  congr 1
  funext r p
  rw [mul_one_div]
  -- the dense denominator `|x[i]| + |y[i]|` is zero or positive; at zero Lean's `a / 0 = 0`
  rcases (add_nonneg (absV_nonneg p.1) (absV_nonneg p.2)).eq_or_lt with hd | hd
  · rw [← hd, if_neg (lt_irrefl 0), div_zero, add_zero]
  · rw [if_pos hd]

/-- **`sparse_correlation(…, n_features = dim) = correlation`** whenever neither row is empty. -/
theorem correlation_agrees {sqrt : α → α} (hs : IsSqrt sqrt) (x y : List α)
    (h : x.length = y.length) (hx : enc x ≠ []) (hy : enc y ≠ []) :
    correlation sqrt (enc x) (enc y) x.length = Dense.correlation sqrt x y := by
  unfold correlation Dense.correlation
  rw [correlation_parts_agree x y h]
  have n1 : 0 ≤ (Dense.correlationParts x y).2.1 := foldl_sq_nonneg _ x 0 le_rfl
  have n2 : 0 ≤ (Dense.correlationParts x y).2.2 := foldl_sq_nonneg _ y 0 le_rfl
  simp only [List.isEmpty_iff, hx, hy, false_and, false_or, if_false,
    hs.eq_zero _ n1, hs.eq_zero _ n2, hs.mul _ _ n1 n2]

set_option linter.unusedSectionVars false in
/-- **Both rows empty**: both kernels return `0`. -/
theorem correlation_agrees_both_empty {sqrt : α → α} (x y : List α) (hx : enc x = []) (hy : enc y = []) :
    correlation sqrt (enc x) (enc y) x.length = Dense.correlation sqrt x y := by
  rw [dense_correlation_of_zero x y hx]
  have : (Dense.correlationParts x y).2.2 = 0 := dense_normSq_of_zero y _ hy
  rw [if_pos this]
  unfold correlation
  simp [hx, hy]

set_option linter.unusedSectionVars false in
/-- **One row empty** (the second early return).  Exactly one empty:
`sparse_correlation` returns `1`; the dense kernel on the zero vector returns `1` unless the other
vector is constant (`norm_y = 0`), where it returns `0` — the two kernels then **disagree**
(finding D18: e.g. `x = (0,0)`, `y = (3,3)`, see the example below).
Full-strength statement `correlation (enc x) (enc y) n = Dense.correlation x y` is therefore
false in that corner; what holds is (row 1 empty; the case "row 2 empty" is the mirror image and
is not stated separately): -/
theorem correlation_empty_row_partial {sqrt : α → α} (x y : List α) (hx : enc x = []) :
    Dense.correlation sqrt x y = (if (Dense.correlationParts x y).2.2 = 0 then 0 else 1) ∧
    correlation sqrt (enc x) (enc y) x.length = (if enc y = [] then 0 else 1) := by
  refine ⟨dense_correlation_of_zero x y hx, ?_⟩
  unfold correlation
  rw [hx]
  cases hy : enc y <;> simp

end Angular

/-! ## the translated kernels (`Gen/Kernels.lean`) refine the model

`GenK.<kernel> fuel <arrays>` is the syntax-directed translation of the numba source: `Option`
monad, `none` = out-of-bounds load/store or fuel exhausted, integer cursors in `Int`.
A CSR row is a pair of parallel arrays `(ind : Array Int, data : Array α)`; `toSVec ind data` is
the model's row (`Int.toNat` on the indices, zipped with the data); `indArr a` / `valArr a` are the
arrays of a model row (`toSVec (indArr a) (valArr a) = a`).  Hypotheses: the two arrays of a row
have the same length and the indices are non-negative (`NonNeg`) — **no sortedness**: kernel and
model take the same branches on unsorted rows too.  The carrier `α` is arbitrary (`Zero`,
decidable equality, `+` / `*`): no arithmetic law is used, so the statements also cover a carrier
with float-like non-associative arithmetic (the comparison `val != 0` being decidable equality). -/
section KernelTie
open Pynn.GenMerge
variable {α : Type} [Zero α] [DecidableEq α]

/-- **`sparse_sum` (translated source) = `sparseSum` (model), and it is memory safe**: with
fuel `≥ n1 + n2 + 1` the kernel — `np.zeros(n1 + n2)` buffers, the `nnz` cursor, the main loop
with its three guarded stores, the two tail loops and the final `[:nnz]` slices — never loads or
stores out of bounds (invariant `nnz ≤ i1 + i2`) and returns the model's index and value lists. -/
theorem kernel_sparse_sum_refines [Add α] (ind1 ind2 : Array Int) (data1 data2 : Array α)
    (h1 : ind1.size = data1.size) (h2 : ind2.size = data2.size)
    (hn1 : NonNeg ind1) (hn2 : NonNeg ind2) (fuel : Nat) (hf : ind1.size + ind2.size + 1 ≤ fuel) :
    GenK.sparse_sum fuel ind1 data1 ind2 data2 =
      some (indArr (sparseSum (toSVec ind1 data1) (toSVec ind2 data2)),
            valArr (sparseSum (toSVec ind1 data1) (toSVec ind2 data2))) :=
  of_model (fun a b => sparse_sum_model a b fuel) h1 h2 hn1 hn2 hf

/-- **`sparse_mul` (translated source) = `sparseMul` (model), memory safe**: the two typed lists
the kernel appends to are the model's index and value lists. -/
theorem kernel_sparse_mul_refines [Mul α] (ind1 ind2 : Array Int) (data1 data2 : Array α)
    (h1 : ind1.size = data1.size) (h2 : ind2.size = data2.size)
    (hn1 : NonNeg ind1) (hn2 : NonNeg ind2) (fuel : Nat) (hf : ind1.size + ind2.size + 1 ≤ fuel) :
    GenK.sparse_mul fuel ind1 data1 ind2 data2 =
      some (indArr (sparseMul (toSVec ind1 data1) (toSVec ind2 data2)),
            valArr (sparseMul (toSVec ind1 data1) (toSVec ind2 data2))) :=
  of_model (fun a b => sparse_mul_model a b fuel) h1 h2 hn1 hn2 hf

set_option linter.unusedSectionVars false in
/-- **`sparse_dot_product` (translated source) = `dotLoop 0` (model) on non-empty operands,
memory safe**, fuel `≥ n1 + n2`; hence (second part) it equals the model's `sparseDotProduct`. -/
theorem kernel_sparse_dot_product_refines [Add α] [Mul α] (ind1 ind2 : Array Int)
    (data1 data2 : Array α) (h1 : ind1.size = data1.size) (h2 : ind2.size = data2.size)
    (hn1 : NonNeg ind1) (hn2 : NonNeg ind2) (c1 : 0 < ind1.size) (c2 : 0 < ind2.size)
    (fuel : Nat) (hf : ind1.size + ind2.size ≤ fuel) :
    GenK.sparse_dot_product fuel ind1 data1 ind2 data2
        = some (dotLoop 0 (toSVec ind1 data1) (toSVec ind2 data2)) ∧
    GenK.sparse_dot_product fuel ind1 data1 ind2 data2
        = sparseDotProduct (toSVec ind1 data1) (toSVec ind2 data2) := by
  have e := of_model (d := 0) (fun a b => sparse_dot_product_model a b fuel) h1 h2 hn1 hn2 hf
  refine ⟨?_, e⟩
  rw [e]
  obtain ⟨p, a, ha⟩ := List.exists_cons_of_length_pos (toSVec_length ind1 data1 h1 ▸ c1)
  obtain ⟨q, b, hb⟩ := List.exists_cons_of_length_pos (toSVec_length ind2 data2 h2 ▸ c2)
  rw [ha, hb]
  rfl

omit [DecidableEq α] in
/-- **`sparse_dot_product` with an empty operand reads out of bounds** (`ind1[0]` / `ind2[0]`
before any length test): the translated kernel is `none` for every fuel, whatever the other
arrays hold — and so is the model (`dot_product_empty`). -/
theorem kernel_sparse_dot_product_empty_oob [Add α] [Mul α] (ind1 ind2 : Array Int)
    (data1 data2 : Array α) (fuel : Nat) (h : ind1.size = 0 ∨ ind2.size = 0) :
    GenK.sparse_dot_product fuel ind1 data1 ind2 data2 = none :=
  sparse_dot_product_empty_oob ind1 ind2 data1 data2 fuel h

omit [Zero α] [DecidableEq α] in
/-- **`fast_intersection_size` (translated source) = `intersectionSize` (model), memory safe**,
fuel `≥ n1 + n2`, for all index arrays with non-negative entries, sorted or not. -/
theorem kernel_fast_intersection_size_refines (ar1 ar2 : Array Int) (hn1 : NonNeg ar1)
    (hn2 : NonNeg ar2) (fuel : Nat) (hf : ar1.size + ar2.size ≤ fuel) :
    GenK.fast_intersection_size fuel ar1 ar2
      = some ((intersectionSize (toNats ar1) (toNats ar2) : Nat) : Int) := by
  have := fast_intersection_size_model (toNats ar1) (toNats ar2) fuel
    (by rwa [toNats, toNats, List.length_map, List.length_map])
  rwa [ofNat_toNats ar1 hn1, ofNat_toNats ar2 hn2] at this

omit [Zero α] [DecidableEq α] in
/-- every model row is the abstraction of a pair of arrays the kernels accept (so the theorems
above are not vacuous for any model row, and the composed statements below can be phrased on
model rows) -/
theorem kernel_rows_exist (a : SVec α) :
    toSVec (indArr a) (valArr a) = a ∧ (indArr a).size = (valArr a).size ∧ NonNeg (indArr a) ∧
    toNats (indArr a) = inds a :=
  ⟨toSVec_indArr_valArr a, indArr_valArr_size a, nonNeg_indArr a, toNats_indArr a⟩

end KernelTie

/-! ### composed: the dense-agreement theorems, phrased on the translated source -/
section KernelComposed
open Pynn.GenMerge
variable {α : Type} [DecidableEq α] [Ring α]

/-- **The translated `sparse_sum` / `sparse_mul`, run on two rows with strictly increasing
indices, return (in bounds, fuel `≥ n1 + n2 + 1`) arrays that decode to the pointwise sum /
product** of the vectors the inputs stand for (`kernel_sparse_*_refines` + `merge_decode`). -/
theorem kernel_merge_decode (a b : SVec α) (ha : Sorted a) (hb : Sorted b) (fuel : Nat)
    (hf : a.length + b.length + 1 ≤ fuel) :
    ∃ si sv mi mv,
      GenK.sparse_sum fuel (indArr a) (valArr a) (indArr b) (valArr b) = some (si, sv) ∧
      GenK.sparse_mul fuel (indArr a) (valArr a) (indArr b) (valArr b) = some (mi, mv) ∧
      ∀ i, decode (toSVec si sv) i = decode a i + decode b i ∧
           decode (toSVec mi mv) i = decode a i * decode b i := by
  refine ⟨_, _, _, _, sparse_sum_model a b fuel hf, sparse_mul_model a b fuel hf, fun i => ?_⟩
  rw [toSVec_indArr_valArr, toSVec_indArr_valArr]
  exact ⟨(merge_decode ha hb i).1, (merge_decode ha hb i).2.2⟩

/-- **On the CSR encodings of two dense vectors of equal length the translated `sparse_sum` /
`sparse_mul` return exactly the encoding of `x + y` / `x * y`** (`merge_enc`), the translated
`sparse_dot_product` returns the dense dot product when neither encoding is empty
(`dot_product_agrees`), and the translated `fast_intersection_size` returns the number of
coordinates at which both vectors are non-zero (`intersection_size_agrees`). -/
theorem kernel_enc_agrees (x y : List α) (h : x.length = y.length) (fuel : Nat)
    (hf : x.length + y.length + 1 ≤ fuel) :
    GenK.sparse_sum fuel (indArr (enc x)) (valArr (enc x)) (indArr (enc y)) (valArr (enc y))
      = some (indArr (enc (List.zipWith (· + ·) x y)), valArr (enc (List.zipWith (· + ·) x y))) ∧
    GenK.sparse_mul fuel (indArr (enc x)) (valArr (enc x)) (indArr (enc y)) (valArr (enc y))
      = some (indArr (enc (List.zipWith (· * ·) x y)), valArr (enc (List.zipWith (· * ·) x y))) ∧
    (enc x ≠ [] → enc y ≠ [] →
      GenK.sparse_dot_product fuel (indArr (enc x)) (valArr (enc x)) (indArr (enc y)) (valArr (enc y))
        = some (Dense.dot x y)) ∧
    GenK.fast_intersection_size fuel (indArr (enc x)) (indArr (enc y))
      = some (((x.zip y).countP (fun p => p.1 ≠ 0 ∧ p.2 ≠ 0) : Nat) : Int) := by
  have hf' : (enc x).length + (enc y).length + 1 ≤ fuel :=
    Nat.le_trans (Nat.succ_le_succ (Nat.add_le_add (length_enc_le x) (length_enc_le y))) hf
  refine ⟨?_, ?_, fun hx hy => ?_, ?_⟩
  · rw [sparse_sum_model _ _ fuel hf', (merge_enc x y h).1]
  · rw [sparse_mul_model _ _ fuel hf', (merge_enc x y h).2.2]
  · rw [sparse_dot_product_model _ _ fuel (Nat.le_of_lt hf'), dot_product_agrees x y h hx hy]
  · rw [← intersection_size_agrees x y h]
    exact fast_intersection_size_model _ _ fuel
      (by rw [length_inds, length_inds]; exact Nat.le_of_lt hf')

end KernelComposed

/-! ## the translated sparse METRIC kernels (`Gen/SparseMetricKernels.lean`)

`sparse_diff`, `sparse_squared_euclidean`, `sparse_euclidean`, `sparse_manhattan`,
`sparse_chebyshev` of `sparse.py`, translated from their source text on every run
(`harness/translate_sparsemetrics.py`): thin wrappers that CALL the translated `sparse_sum` of
`Gen/Kernels.lean` (on `-data2`) and loop once over the merged row.  Same hypotheses as
`kernel_sparse_sum_refines` (parallel arrays, non-negative indices, no sortedness), fuel
`≥ n1 + n2 + 1`; the carrier is arbitrary (`0`, decidable `=` / `<`, `+`, `-·`, `*`).
Helper lemmas: `Proofs/GenSparseMetrics.lean`.  NOT translated (tied by sampling only):
`sparse_minkowski`, `sparse_hamming`, `sparse_canberra`, `sparse_bray_curtis`, the binary family,
`sparse_cosine`, `sparse_dot`, `sparse_hellinger`, `sparse_correlation`, … (whole-array numpy
operations, mixed integer / float arithmetic, `norm`). -/
section KernelMetricTie
open Pynn.GenMerge Pynn.GenSparseMetricProofs
variable {α : Type} [Zero α] [DecidableEq α] [Add α] [Neg α]

/-- **`sparse_diff` (translated) = `sparseDiff` (model), memory safe**: the call
`sparse_sum(ind1, data1, ind2, -data2)` of the translated `sparse_sum`. -/
theorem kernel_sparse_diff_refines (ind1 ind2 : Array Int) (data1 data2 : Array α)
    (h1 : ind1.size = data1.size) (h2 : ind2.size = data2.size)
    (hn1 : NonNeg ind1) (hn2 : NonNeg ind2) (fuel : Nat) (hf : ind1.size + ind2.size + 1 ≤ fuel) :
    GenSM.sparse_diff fuel ind1 data1 ind2 data2 =
      some (indArr (sparseDiff (toSVec ind1 data1) (toSVec ind2 data2)),
            valArr (sparseDiff (toSVec ind1 data1) (toSVec ind2 data2))) :=
  of_model (fun a b => sparse_diff_model a b fuel) h1 h2 hn1 hn2 hf

/-- **`sparse_squared_euclidean` (translated) = `sqEuclidean` (model), memory safe** -/
theorem kernel_sparse_squared_euclidean_refines [Mul α] (ind1 ind2 : Array Int) (data1 data2 : Array α)
    (h1 : ind1.size = data1.size) (h2 : ind2.size = data2.size)
    (hn1 : NonNeg ind1) (hn2 : NonNeg ind2) (fuel : Nat) (hf : ind1.size + ind2.size + 1 ≤ fuel) :
    GenSM.sparse_squared_euclidean fuel ind1 data1 ind2 data2
      = some (sqEuclidean (toSVec ind1 data1) (toSVec ind2 data2)) :=
  of_model (fun a b => sparse_squared_euclidean_model a b fuel) h1 h2 hn1 hn2 hf

/-- **`sparse_euclidean` (translated) = `sqrt (sqEuclidean …)`** for whatever `sqrt` it is run with -/
theorem kernel_sparse_euclidean_refines [Mul α] (sqrt : α → α) (ind1 ind2 : Array Int)
    (data1 data2 : Array α) (h1 : ind1.size = data1.size) (h2 : ind2.size = data2.size)
    (hn1 : NonNeg ind1) (hn2 : NonNeg ind2) (fuel : Nat) (hf : ind1.size + ind2.size + 1 ≤ fuel) :
    GenSM.sparse_euclidean sqrt fuel ind1 data1 ind2 data2
      = some (sqrt (sqEuclidean (toSVec ind1 data1) (toSVec ind2 data2))) :=
  of_model (fun a b => sparse_euclidean_model sqrt a b fuel) h1 h2 hn1 hn2 hf

/-- **`sparse_manhattan` (translated) = `manhattan` (model), memory safe** (`np.abs` = `absV`) -/
theorem kernel_sparse_manhattan_refines [Mul α] [LT α] [DecidableLT α] (ind1 ind2 : Array Int)
    (data1 data2 : Array α) (h1 : ind1.size = data1.size) (h2 : ind2.size = data2.size)
    (hn1 : NonNeg ind1) (hn2 : NonNeg ind2) (fuel : Nat) (hf : ind1.size + ind2.size + 1 ≤ fuel) :
    GenSM.sparse_manhattan fuel ind1 data1 ind2 data2
      = some (manhattan (toSVec ind1 data1) (toSVec ind2 data2)) :=
  of_model (fun a b => sparse_manhattan_model a b fuel) h1 h2 hn1 hn2 hf

/-- **`sparse_chebyshev` (translated) = `chebyshev` (model), memory safe** (Python `max` = `maxV`) -/
theorem kernel_sparse_chebyshev_refines [Mul α] [LT α] [DecidableLT α] (ind1 ind2 : Array Int)
    (data1 data2 : Array α) (h1 : ind1.size = data1.size) (h2 : ind2.size = data2.size)
    (hn1 : NonNeg ind1) (hn2 : NonNeg ind2) (fuel : Nat) (hf : ind1.size + ind2.size + 1 ≤ fuel) :
    GenSM.sparse_chebyshev fuel ind1 data1 ind2 data2
      = some (chebyshev (toSVec ind1 data1) (toSVec ind2 data2)) :=
  of_model (fun a b => sparse_chebyshev_model a b fuel) h1 h2 hn1 hn2 hf

end KernelMetricTie

/-! ### property C08 on BOTH regenerated kernels: translated sparse metric on the encodings =
translated dense metric on the vectors -/
section KernelBothSides
open Pynn.GenMerge

/-- on CSR encodings the translated sparse kernels return the model's DENSE reference values
(`sqeuclidean_agrees`, `manhattan_agrees`, `chebyshev_agrees` on the translated source) -/
theorem kernel_sparse_metrics_enc {α : Type} [DecidableEq α] [Ring α] [LinearOrder α]
    [IsStrictOrderedRing α] (x y : List α) (h : x.length = y.length) (fuel : Nat)
    (hf : x.length + y.length + 1 ≤ fuel) :
    GenSM.sparse_squared_euclidean fuel (indArr (enc x)) (valArr (enc x)) (indArr (enc y)) (valArr (enc y))
      = some (Dense.sqEuclidean x y) ∧
    GenSM.sparse_manhattan fuel (indArr (enc x)) (valArr (enc x)) (indArr (enc y)) (valArr (enc y))
      = some (Dense.manhattan x y) ∧
    GenSM.sparse_chebyshev fuel (indArr (enc x)) (valArr (enc x)) (indArr (enc y)) (valArr (enc y))
      = some (Dense.chebyshev x y) := by
  have hf' : (enc x).length + (enc y).length + 1 ≤ fuel :=
    Nat.le_trans (Nat.succ_le_succ (Nat.add_le_add (length_enc_le x) (length_enc_le y))) hf
  refine ⟨?_, ?_, ?_⟩
  · rw [GenSparseMetricProofs.sparse_squared_euclidean_model _ _ fuel hf', sqeuclidean_agrees x y h]
  · rw [GenSparseMetricProofs.sparse_manhattan_model _ _ fuel hf', manhattan_agrees x y h]
  · rw [GenSparseMetricProofs.sparse_chebyshev_model _ _ fuel hf', chebyshev_agrees x y h]

/-- **C08 stated on both regenerated kernels, over `ℝ`**: the translated `sparse_squared_euclidean` /
`sparse_manhattan` / `sparse_chebyshev` of `sparse.py`, run on the CSR encodings of two real vectors
of equal length, return exactly what the translated `squared_euclidean` / `manhattan` / `chebyshev`
of `distances.py` (`Gen/MetricKernels.lean`, `Props/C07.lean`) return on the vectors themselves —
all six runs without out-of-bounds access. -/
theorem kernel_sparse_eq_dense (x y : List ℝ) (h : x.length = y.length) (fs fd : Nat)
    (hfs : x.length + y.length + 1 ≤ fs) (hfd : x.length + 1 ≤ fd) :
    GenSM.sparse_squared_euclidean fs (indArr (enc x)) (valArr (enc x)) (indArr (enc y)) (valArr (enc y))
      = GenMetric.squared_euclidean fd x.toArray y.toArray ∧
    GenSM.sparse_manhattan fs (indArr (enc x)) (valArr (enc x)) (indArr (enc y)) (valArr (enc y))
      = GenMetric.manhattan fd x.toArray y.toArray ∧
    GenSM.sparse_chebyshev fs (indArr (enc x)) (valArr (enc x)) (indArr (enc y)) (valArr (enc y))
      = GenMetric.chebyshev fd x.toArray y.toArray := by
  obtain ⟨a1, a2, a3⟩ := kernel_sparse_metrics_enc x y h fs hfs
  rw [a1, a2, a3, GenMetricProofs.squared_euclidean_refines x.toArray y.toArray h fd hfd,
    GenMetricProofs.manhattan_refines x.toArray y.toArray h fd hfd,
    GenMetricProofs.chebyshev_refines x.toArray y.toArray h fd hfd]
  refine ⟨rfl, ?_, ?_⟩
  · simp only [Dense.manhattan, absV_eq_abs]
    rfl
  · simp only [Dense.chebyshev, absV_eq_abs, maxV_eq_max]
    rfl

end KernelBothSides

/-! ## non-vacuity: concrete runs of the model (`decide +kernel`: the merges are well-founded
recursions, which the elaborator's `decide` does not unfold; kernel evaluation adds no axioms) -/

/-- overlapping supports, a cancellation (index 2) and a stored zero in the input (index 9) -/
example : sparseSum ([(0, 1), (2, -2), (5, 3), (9, 0)] : SVec Int) [(1, 4), (2, 2), (7, 9)]
    = [(0, 1), (1, 4), (5, 3), (7, 9)] := by decide +kernel
example : sparseDiff ([(0, 1), (2, 2), (5, 3)] : SVec Int) [(0, 1), (2, 2), (5, 3)] = [] := by
  decide +kernel
example : sparseMul ([(0, 1), (2, -2), (5, 3)] : SVec Int) [(1, 4), (2, 2), (5, 0)] = [(2, -4)] := by
  decide +kernel
example : sparseDotProduct ([(0, 1), (2, -2), (5, 3)] : SVec Int) [(1, 4), (2, 2), (5, 2)] = some 2 := by
  decide +kernel
example : sparseDotProduct ([] : SVec Int) [(1, 4)] = none := by decide +kernel
example : arrUnion [1, 3, 5] [2, 3, 6] = [1, 2, 3, 5, 6] ∧ arrIntersect [1, 3, 5] [2, 3, 5] = [3, 5]
    ∧ intersectionSize [1, 3, 5] [2, 3, 5] = 2 := by decide +kernel
example : WF (enc ([0, 3, 0, -1] : List Int)) ∧ enc ([0, 3, 0, -1] : List Int) = [(1, 3), (3, -1)] := by
  decide +kernel
example : ¬ WF ([(1, 3), (1, 4)] : SVec Int) ∧ ¬ WF ([(1, 0)] : SVec Int) := by decide +kernel

/-- the D17 input `(1,2,3)` vs `(2,5,1)` (entry `2` equals its row mean): the current code's
accumulators are the dense ones, `dot = −1`, `‖·‖² = 2` and `26/3`
(so the distance is `1 + 1/√(52/3) ≈ 1.240`, not the `2.361` of the defective accounting) -/
example : correlationParts (enc ([1, 2, 3] : List Rat)) (enc [2, 5, 1]) 3 = (-1, 2, 26 / 3) ∧
    Dense.correlationParts ([1, 2, 3] : List Rat) [2, 5, 1] = (-1, 2, 26 / 3) := by decide +kernel

/-- D18, concretely (any `sqrt` with `sqrt 0 = 0`; here the identity): the empty row against a
constant row — sparse `1`, dense `0`. -/
example : correlation id (enc ([0, 0] : List Rat)) (enc [3, 3]) 2 = 1 ∧
    Dense.correlation id ([0, 0] : List Rat) [3, 3] = 0 := by decide +kernel

/-! non-vacuity of the kernel tie: the TRANSLATED kernels executed on small `Int` rows
(same rows as above, as parallel arrays) -/

/-- overlapping supports, a cancellation (index 2), a stored zero (index 9): all three loops and
the final slices run; result = the model's -/
example : GenK.sparse_sum 8 #[0, 2, 5, 9] #[(1 : Int), -2, 3, 0] #[1, 2, 7] #[4, 2, 9]
    = some (#[0, 1, 5, 7], #[1, 4, 3, 9]) := by decide +kernel
/-- fuel 3 where this input needs 6 (the theorem asks for `n1 + n2 + 1 = 8`): `none`, the fuel bound is
not idle -/
example : GenK.sparse_sum 3 #[0, 2, 5, 9] #[(1 : Int), -2, 3, 0] #[1, 2, 7] #[4, 2, 9] = none := by
  decide +kernel
example : GenK.sparse_mul 7 #[0, 2, 5] #[(1 : Int), -2, 3] #[1, 2, 5] #[4, 2, 0]
    = some (#[2], #[-4]) := by decide +kernel
example : GenK.sparse_dot_product 6 #[0, 2, 5] #[(1 : Int), -2, 3] #[1, 2, 5] #[4, 2, 2] = some 2 := by
  decide +kernel
example : GenK.sparse_dot_product 6 #[] (#[] : Array Int) #[1] #[4] = none := by decide +kernel
example : GenK.fast_intersection_size 6 #[1, 3, 5] #[2, 3, 5] = some 2 := by decide +kernel
/-- unsorted rows: kernel and model still agree (here both miss the common index 1) -/
example : GenK.fast_intersection_size 6 #[3, 1] #[1, 3] = some 1 ∧ intersectionSize [3, 1] [1, 3] = 1 := by
  decide +kernel
example : GenMerge.toSVec #[0, 2, 5] #[(1 : Int), -2, 3] = [(0, 1), (2, -2), (5, 3)] ∧
    GenMerge.NonNeg #[0, 2, 5] ∧ ¬ GenMerge.NonNeg #[0, -2] := by decide

/-- the translated sparse metric kernels executed (they call the translated `sparse_sum`): rows
`(0:1, 2:-2, 5:3)` and `(1:4, 2:2, 7:9)`, difference `(0:1, 1:-4, 2:-4, 5:3, 7:-9)` -/
example : GenSM.sparse_diff 7 #[0, 2, 5] #[(1 : Int), -2, 3] #[1, 2, 7] #[4, 2, 9]
    = some (#[0, 1, 2, 5, 7], #[1, -4, -4, 3, -9]) := by decide +kernel
example : GenSM.sparse_squared_euclidean 7 #[0, 2, 5] #[(1 : Int), -2, 3] #[1, 2, 7] #[4, 2, 9] = some 123 ∧
    GenSM.sparse_manhattan 7 #[0, 2, 5] #[(1 : Int), -2, 3] #[1, 2, 7] #[4, 2, 9] = some 21 ∧
    GenSM.sparse_chebyshev 7 #[0, 2, 5] #[(1 : Int), -2, 3] #[1, 2, 7] #[4, 2, 9] = some 9 := by
  decide +kernel

end Pynn.C08
