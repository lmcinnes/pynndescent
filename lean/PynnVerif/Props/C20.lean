import PynnVerif.Proofs.Connect
import PynnVerif.Proofs.AltSeen
import PynnVerif.Proofs.Search
import PynnVerif.Proofs.SearchReach
import PynnVerif.Props.C02

/-!
# C20 — `connect_graph` terminates and returns a connected supergraph

Property theorems only (helper lemmas live in `Proofs/Connect.lean`, the executable model in
`Model/Connect.lean`, the exact generator in `Model/Rng.lean`).

* `rejectionSampleG next n pool fuel s` is `utils.rejection_sample(n, pool, rng_state)` over any
  generator (`next s` = one `tau_rand_int` draw and the next state); `none` means "more than `fuel`
  draws were needed", i.e. the kernel's `while` loop is still running after `fuel` draws.
  `rejectionSample draw …` reads an abstract stream `draw : Nat → Nat`; `rejectionSampleRng` runs the
  exact Tausworthe generator and is what the driver compares with the numba kernel.
* `pool = 0` makes the kernel raise `ZeroDivisionError`; the theorems state `0 < pool`
  (a component is never empty).
-/
namespace Pynn.C20
open Pynn Pynn.Connect

/-! ## `rejection_sample` -/

/-- **Specification.** Whenever `rejection_sample` returns — for every generator, hence for the
abstract streams and for the exact generator alike — the samples are pairwise different, lie in
`[0, pool_size)`, and there are exactly `n_samples` of them. -/
theorem rejection_sample_spec {σ : Type} (next : σ → Int × σ) (nSamples pool fuel : Nat) (s : σ)
    (hpool : 0 < pool) (out : List Nat) (s' : σ)
    (h : rejectionSampleG next nSamples pool fuel s = some (out, s')) :
    out.Nodup ∧ (∀ x ∈ out, x < pool) ∧ out.length = nSamples := by
  obtain ⟨f', hr⟩ := (rejectionSampleG_eq_some_iff next nSamples pool fuel s out s').mp h
  obtain ⟨h1, h2, h3⟩ := rejLoop_spec next hpool _ _ _ _ hr List.nodup_nil nofun
  exact ⟨h1, h2, h3.trans (Nat.zero_add _)⟩

/-- **Divergence (D11).** Asked for more distinct samples than the pool holds,
`rejection_sample` never returns: for every generator, every start state and every number of
draws the loop is still running (pigeonhole on the specification).  This is the call the pinned
tree made for every component smaller than `search_size`. -/
theorem rejection_sample_diverges {σ : Type} (next : σ → Int × σ) (nSamples pool : Nat)
    (hpool : 0 < pool) (hlt : pool < nSamples) :
    ∀ (fuel : Nat) (s : σ), rejectionSampleG next nSamples pool fuel s = none := by
  intro fuel s
  cases h : rejectionSampleG next nSamples pool fuel s with
  | none => rfl
  | some r =>
    obtain ⟨h1, h2, h3⟩ := rejection_sample_spec next nSamples pool fuel s hpool r.1 r.2 h
    exact absurd (h3 ▸ nodup_bounded_length h1 h2) (Nat.not_le_of_lt hlt)

/-- In particular over every abstract stream and over the exact generator. -/
theorem rejection_sample_diverges_stream (draw : Nat → Nat) (nSamples pool : Nat)
    (hpool : 0 < pool) (hlt : pool < nSamples) (fuel : Nat) :
    rejectionSample draw nSamples pool fuel = none ∧
    ∀ s : RngState, rejectionSampleRng nSamples pool fuel s = none :=
  ⟨congrArg (Option.map Prod.fst) (rejection_sample_diverges _ nSamples pool hpool hlt fuel 0),
    rejection_sample_diverges _ nSamples pool hpool hlt fuel⟩

/-- **Termination.** If `n_samples ≤ pool_size` and the stream of draws is *fair* for the pool —
every residue modulo `pool_size` occurs again after every position (`Fair`) — then a finite number
of draws suffices: there are `draws` and `out` such that with every fuel `≥ draws` the model
returns exactly `out`, which has `n_samples` entries, no duplicates, all in range. -/
theorem rejection_sample_terminates (draw : Nat → Nat) (nSamples pool : Nat)
    (hle : nSamples ≤ pool) (hfair : Fair draw pool) :
    ∃ draws out, (∀ fuel, draws ≤ fuel → rejectionSample draw nSamples pool fuel = some out) ∧
      out.length = nSamples ∧ out.Nodup ∧ ∀ x ∈ out, x < pool := by
  obtain ⟨out, m, hrun⟩ := rejLoop_stream draw hfair nSamples [] 0 (by rwa [List.length_nil, Nat.zero_add])
  refine ⟨m, out, fun fuel hf => ?_, ?_⟩
  · rw [← Nat.sub_add_cancel hf, rejectionSample_eq_some_iff]
    exact ⟨_, _, hrun _⟩
  rcases Nat.eq_zero_or_pos pool with rfl | hp
  · obtain rfl : nSamples = 0 := Nat.le_zero.mp hle
    obtain rfl : [] = out := congrArg Prod.fst (Option.some.inj (hrun 0))
    exact ⟨rfl, List.nodup_nil, nofun⟩
  · obtain ⟨h1, h2, h3⟩ := rejLoop_spec _ hp _ _ _ _ (hrun 0) List.nodup_nil nofun
    exact ⟨h3.trans (Nat.zero_add _), h1, h2⟩

/-- The fairness hypothesis is satisfiable (the identity stream is fair for every pool) … -/
theorem fair_id (pool : Nat) : Fair (fun p => p) pool := by
  intro r hr N
  refine ⟨N * pool + r, ?_, ?_⟩
  · exact Nat.le_trans (Nat.le_mul_of_pos_right N (Nat.zero_lt_of_lt hr)) (Nat.le_add_right _ _)
  · simp only
    rw [Nat.mul_comm, Nat.mul_add_mod, Nat.mod_eq_of_lt hr]

/-- … and it cannot be dropped: over a constant stream (what the generator produces from a
degenerate state such as `[1, 2, 3]`, whose words vanish under the masks) a request for two or
more samples never finishes, although `n_samples ≤ pool_size`. -/
theorem rejection_sample_constant_stream_diverges (c nSamples pool : Nat) (h2 : 2 ≤ nSamples) :
    ∀ fuel, rejectionSample (fun _ => c) nSamples pool fuel = none := by
  have hslot : ∀ fuel pos, drawSlot (streamNext (fun _ => c)) pool [c % pool] fuel pos = none := by
    intro fuel
    induction fuel with
    | zero => intro pos; rfl
    | succ f ih => intro pos; simp [drawSlot, streamNext, residue_natCast, ih]
  intro fuel
  obtain ⟨m, rfl⟩ : ∃ m, nSamples = m + 2 := ⟨nSamples - 2, (Nat.sub_add_cancel h2).symm⟩
  unfold rejectionSample rejectionSampleG
  cases fuel with
  | zero => rfl
  | succ f => simp [rejLoop, drawSlot, streamNext, residue_natCast, hslot]

/-- **The clamp.** `min(search_size, |component|) ≤ |component|`: the sample size
`find_component_connection_edge` now passes meets the precondition of
`rejection_sample_terminates` … -/
theorem clamped_sample_size_le (searchSize componentSize : Nat) :
    clampedSamples searchSize componentSize ≤ componentSize := Nat.min_le_right _ _

/-- … so the seed sampling of every component, of any size ≥ 1, finishes over a fair stream and
yields `min(search_size, |component|)` distinct positions inside the component. -/
theorem clamped_call_terminates (draw : Nat → Nat) (searchSize componentSize : Nat)
    (hfair : Fair draw componentSize) :
    ∃ draws out, (∀ fuel, draws ≤ fuel →
        rejectionSample draw (clampedSamples searchSize componentSize) componentSize fuel = some out) ∧
      out.length = min searchSize componentSize ∧ out.Nodup ∧ ∀ x ∈ out, x < componentSize :=
  rejection_sample_terminates draw _ componentSize (clamped_sample_size_le _ _) hfair

/-- The unclamped call of the pinned tree, `rejection_sample(search_size, |component|)`, never
returns when the component is smaller than `search_size`. -/
theorem unclamped_call_diverges {σ : Type} (next : σ → Int × σ) (searchSize componentSize : Nat)
    (hne : 0 < componentSize) (hsmall : componentSize < searchSize) (fuel : Nat) (s : σ) :
    rejectionSampleG next searchSize componentSize fuel s = none :=
  rejection_sample_diverges next searchSize componentSize hne hsmall fuel s

/-! ## The graph returned by `connect_graph` -/

section Graph
variable {V : Type}

/-- **Weaker hypothesis (what would suffice).**  One edge per *pair* of labels (`connect_spec` below,
what `connect_graph` does) is more than connectedness needs: it is enough that the label graph — labels
adjacent when some output edge joins them — is connected, e.g. the `nComp - 1` edges of a spanning tree
of the components.  (`connect_graph` does not exploit this; it adds `nComp·(nComp-1)/2` edges.) -/
theorem connect_spec_spanning (G E : V → V → Prop) (comp : V → Nat)
    (hcomp : ∀ u v, comp u = comp v → Reachable (Sym G) u v)
    (hsub : ∀ a b, G a b → E a b) (hsym : ∀ a b, E a b → E b a)
    (hlabels : ∀ u v, Reachable (LabelAdj E comp) (comp u) (comp v)) :
    ∀ u v, Reachable E u v := by
  have hin : ∀ u v, comp u = comp v → Reachable E u v := fun u v h =>
    (hcomp u v h).mono (fun a b hab => hab.elim (hsub a b) (fun h' => hsym _ _ (hsub b a h')))
  intro u v
  -- along the path of labels from `comp u`, to every vertex that carries the label reached
  have hl := hlabels u v
  generalize hc : comp v = c at hl
  induction hl generalizing v with
  | refl => exact hin u v hc.symm
  | step _ e ih =>
    obtain ⟨a, b, ha, hb, hab⟩ := e
    exact ((ih a ha).step hab).trans (hin b v (hb.trans hc.symm))

/-- **Connectedness, as `connect_graph` achieves it.**  `G` = the input graph (any relation; it is read
undirected, `Sym G`, as `scipy.sparse.csgraph.connected_components` does), `comp` = the component
labels `0 … nComp-1` (every label class is connected inside the input), `E` = the output.  The code
runs `find_component_connection_edge` for *every* unordered pair of labels —
`combinations(range(n_components), 2)`, i.e. all `c1 < c2` — and inserts the edge found in both
directions.  If the output contains the input, is symmetric and, for every `c1 < c2`, contains an
edge from label `c1` to label `c2`, then every vertex reaches every vertex. -/
theorem connect_spec (G E : V → V → Prop) (comp : V → Nat) (nComp : Nat)
    (hlab : ∀ v, comp v < nComp)
    (hcomp : ∀ u v, comp u = comp v → Reachable (Sym G) u v)
    (hsub : ∀ a b, G a b → E a b) (hsym : ∀ a b, E a b → E b a)
    (hpairs : ∀ c1 c2, c1 < c2 → c2 < nComp → ∃ a b, comp a = c1 ∧ comp b = c2 ∧ E a b) :
    ∀ u v, Reachable E u v := by
  refine connect_spec_spanning G E comp hcomp hsub hsym ?_
  intro u v
  rcases Nat.lt_trichotomy (comp u) (comp v) with h | h | h
  · exact Reachable.single (hpairs _ _ h (hlab v))
  · rw [h]; exact Reachable.refl _
  · obtain ⟨a, b, ha, hb, hab⟩ := hpairs _ _ h (hlab u)
    exact Reachable.single ⟨b, a, hb, ha, hsym _ _ hab⟩

/-- **The insertion loop, literally.**  `M` = the input matrix (an entry is an edge iff it is not the
zero `z`), symmetric, with edges only inside label classes, every class connected; `new` = the list
`(i, j, d)` returned by the searches, one for every `c1 < c2` with `i` in `c1` and `j` in `c2`, every
entry joining two different classes with a **non-zero** weight.  Then the matrix after
`result[i, j] = d; result[j, i] = d` for all of them is symmetric, agrees with the input on every
input edge, is connected, every added edge joins two different classes, and its weight is the `d` of
a returned triple for exactly these endpoints.  The guard `d ≠ z` is needed: writing `0.0` into a
sparse matrix stores nothing, so a connecting edge of length 0 (duplicate points in different
components) would not connect. -/
theorem connect_graph_model {W : Type} [DecidableEq V] (z : W) (M : V → V → W) (comp : V → Nat) (nComp : Nat)
    (new : List (V × V × W))
    (hMsym : ∀ a b, M a b = M b a)
    (hMcomp : ∀ a b, M a b ≠ z → comp a = comp b)
    (hlab : ∀ v, comp v < nComp)
    (hcomp : ∀ u v, comp u = comp v → Reachable (Sym (IsEdge z M)) u v)
    (hnew : ∀ e ∈ new, e.2.2 ≠ z ∧ comp e.1 ≠ comp e.2.1)
    (hpairs : ∀ c1 c2, c1 < c2 → c2 < nComp → ∃ e ∈ new, comp e.1 = c1 ∧ comp e.2.1 = c2) :
    let R := addEdges M new
    (∀ a b, R a b = R b a) ∧
    (∀ a b, M a b ≠ z → R a b = M a b) ∧
    (∀ u v, Reachable (IsEdge z R) u v) ∧
    (∀ a b, M a b = z → R a b ≠ z → comp a ≠ comp b ∧
        ∃ e ∈ new, R a b = e.2.2 ∧ ((e.1 = a ∧ e.2.1 = b) ∨ (e.1 = b ∧ e.2.1 = a))) := by
  intro R
  have hsame : ∀ a b, comp a = comp b → R a b = M a b :=
    addEdges_same_label comp new (fun e he => (hnew e he).2) M
  have hsym : ∀ a b, R a b = R b a := addEdges_symm new M hMsym
  have hkeep : ∀ a b, M a b ≠ z → R a b = M a b := fun a b h => hsame a b (hMcomp a b h)
  -- a zero position that has changed: not inside a label class, and not among those no new edge joins
  refine ⟨hsym, hkeep, ?_, fun a b hz hr => ⟨fun h => hr ((hsame a b h).trans hz),
    (addEdges_cases new M a b).resolve_left fun h => hr (h.1.trans hz)⟩⟩
  refine connect_spec (IsEdge z M) (IsEdge z R) comp nComp hlab hcomp (fun a b h => (hkeep a b h).trans_ne h)
    (fun a b h => (hsym b a).trans_ne h) fun c1 c2 h1 h2 => ?_
  obtain ⟨e, he, hc1, hc2⟩ := hpairs c1 c2 h1 h2
  exact ⟨e.1, e.2.1, hc1, hc2, addEdges_written z new (fun e he => (hnew e he).1) M e he⟩

end Graph

/-! ## The alternating loop of `find_component_connection_edge` -/

/-
The loop as it stands in /repo (since the repair of D30) carries a cycle guard:

    seen_states = set()
    while changed[0] or changed[1]:
        state = (query_side, indices[0].tobytes(), indices[1].tobytes(), bool(changed[0]), bool(changed[1]))
        if state in seen_states: break
        seen_states.add(state)
        ...

`altLoopSeen srch fuel idx0 idx1` is that loop for an ARBITRARY deterministic restricted search
`srch side queries candidates` (= the column `inds[:, 0]` of what `custom_search_closure` returns):
approximate, seeded with the other side's current points, ties broken by heap position — nothing is
assumed about it except that it returns point numbers (`< N`).  The result is the loop key at exit,
whether the guard fired, and the number of searches performed.  harness/c20.py replays the real
loop's rounds against this function (same states round by round, same number of rounds, same
best edge).
-/

/-- **Termination of the alternating loop — full statement.**  Whatever the restricted search returns
(any deterministic function of the loop state into point numbers `< N`), the loop of
`find_component_connection_edge` exits, after at most `(altUniv N idx0 idx1).length` searches. -/
theorem alternating_loop_terminates (srch : Bool → List Nat → List Nat → List Nat) (N : Nat)
    (hs : ∀ side q c, ∀ x ∈ srch side q c, x < N) (idx0 idx1 : List Nat) :
    ∃ r, altLoopSeen srch (altUniv N idx0 idx1).length idx0 idx1 = some r :=
  seenLoop_terminates (altKeyStep srch) altKeyCont (altUniv N idx0 idx1) (altUniv_closed srch N hs idx0 idx1) _
    ((mem_altUniv_iff N idx0 idx1 _).mpr ⟨Or.inl rfl, Or.inl rfl⟩)

/-- **The guard is transparent.**  On every input on which the loop *without* the guard exits, the loop
with the guard exits in the same state after the same number of searches, and not through the guard:
the repair changes no result that existed before it. -/
theorem cycle_guard_transparent (srch : Bool → List Nat → List Nat → List Nat) (fuel : Nat)
    (idx0 idx1 : List Nat) (k' : AltKey)
    (h : plainLoop (altKeyStep srch) altKeyCont fuel (⟨idx0, idx1, false, true, true⟩, true, true) = some k') :
    ∃ n ≤ fuel, ∀ fuel' ≥ n, altLoopSeen srch fuel' idx0 idx1 = some (k', false, n) :=
  seenLoop_transparent fuel _ k' h

/-- **The guard fires only on divergence.**  If the loop leaves through `break`, the unguarded loop
would never have exited (the justification given in the `fix:` commit, proved). -/
theorem cycle_guard_fires_only_on_divergence (srch : Bool → List Nat → List Nat → List Nat) (fuel : Nat)
    (idx0 idx1 : List Nat) (k : AltKey) (r : Nat)
    (h : altLoopSeen srch fuel idx0 idx1 = some (k, true, r)) :
    ∀ fuel', plainLoop (altKeyStep srch) altKeyCont fuel' (⟨idx0, idx1, false, true, true⟩, true, true) = none :=
  seenLoop_break_sound fuel _ k r h

/-- **The exit state is the state after `r` searches**; every earlier state had a `changed` flag set, and on
a normal exit both flags are clear. -/
theorem alternating_loop_exit_state (srch : Bool → List Nat → List Nat → List Nat) (fuel : Nat)
    (idx0 idx1 : List Nat) (k : AltKey) (fired : Bool) (r : Nat)
    (h : altLoopSeen srch fuel idx0 idx1 = some (k, fired, r)) :
    k = (altKeyStep srch)^[r] (⟨idx0, idx1, false, true, true⟩, true, true) ∧
    (∀ i < r, altKeyCont ((altKeyStep srch)^[i] (⟨idx0, idx1, false, true, true⟩, true, true)) = true) ∧
    (fired = false → k.1.ch0 = false ∧ k.1.ch1 = false) := by
  obtain ⟨h1, h2, h3⟩ := seenLoop_on_path fuel _ k fired r h
  exact ⟨h1, h2, fun hf => Bool.or_eq_false_iff.mp (h3 hf)⟩

/-- **Exact search without ties: the guard never fires.**  Under the hypotheses of
`alternating_loop_terminates_partial` the repaired loop exits normally, in the state the unguarded loop
reaches. -/
theorem exact_search_guard_silent (nn : Bool → Nat → Nat) (d : Nat → Nat → Nat)
    (A B : Nat → Prop) (hnn : ExactNN nn d A B) (idx0 idx1 : List Nat) (h0 : ∀ a ∈ idx0, A a) :
    ∃ n k', ∀ fuel' ≥ n, altLoopSeen (nnSearch nn) fuel' idx0 idx1 = some (k', false, n) := by
  obtain ⟨fuel, st', hst⟩ := altLoop_terminates hnn ⟨idx0, idx1, false, true, true⟩ h0
  rw [altLoop_eq_plainLoop_key nn fuel _ true true] at hst
  obtain ⟨k', hp, _⟩ := Option.map_eq_some_iff.mp hst
  obtain ⟨n, _, hn⟩ := cycle_guard_transparent (nnSearch nn) fuel idx0 idx1 k' hp
  exact ⟨n, k', hn⟩

/-- **The restricted search never leaves the component of its candidates.**  `custom_search_closure` is the search of
C02 (`Model/Search.lean`; compared with the real closure bit for bit by harness/c20.py) started from
`candidate_indices` as its leaf with no random samples.  If every edge of the search graph joins two points with the
same label (the search graph is a subgraph of the symmetrised neighbour graph, C16, whose connected components the
labels are) and every candidate has label `L`, then every filled slot of the result has label `L` — the hypotheses
`hcl0` / `hcl1` of `alternating_loop_stays_in_components` and, with `best_edge_joins`, `hnew` of
`connect_graph_model`. -/
theorem restricted_search_stays_in_component {P : Type} [LinearOrder P] (top : P) (htop : ∀ x : P, x ≤ top)
    (scale : P → P) (n k : Nat) (indptr indices : Array Nat) (dq : Nat → P) (cands : List Nat) (fuel : Nat)
    (hin : Pynn.C02.InputsOk n k indptr indices cands []) (comp : Nat → Nat) (L : Nat)
    (hedge : ∀ u c, c ∈ nbrs indptr indices u → comp c = comp u) (hc : ∀ c ∈ cands, comp c = L) :
    ∀ e ∈ (search top scale n k 0 indptr indices dq cands [] fuel).1.heap, 0 ≤ e.idx → comp e.idx.toNat = L := by
  intro e he h0
  have hs := Pynn.C02.search_sound top htop scale n k 0 indptr indices dq cands [] fuel hin
  exact (search_stays top scale n k 0 indptr indices dq cands [] hin.leaf_nodup fuel (comp · = L)
    (fun c h => hc c (by rwa [List.take_nil, List.append_nil] at h))
    fun u c hu hcn => (hedge u c hcn).trans hu).1 _ (hs.2.2.1 e he h0).2.1

/-- **The index sets never leave their components.**  If the restricted search answers points of one component with
points of the other (it walks the search graph from seeds inside that component, C16), then at every iteration
`indices[0]` lies in the first and `indices[1]` in the second component. -/
theorem alternating_loop_stays_in_components (srch : Bool → List Nat → List Nat → List Nat) (A B : Nat → Prop)
    (hcl0 : ∀ q c, (∀ x ∈ q, A x) → ∀ y ∈ srch false q c, B y)
    (hcl1 : ∀ q c, (∀ x ∈ q, B x) → ∀ y ∈ srch true q c, A y)
    (idx0 idx1 : List Nat) (h0 : ∀ x ∈ idx0, A x) (h1 : ∀ x ∈ idx1, B x) (n : Nat) :
    (∀ x ∈ ((altKeyStep srch)^[n] (⟨idx0, idx1, false, true, true⟩, true, true)).1.idx0, A x) ∧
    (∀ x ∈ ((altKeyStep srch)^[n] (⟨idx0, idx1, false, true, true⟩, true, true)).1.idx1, B x) :=
  Function.Iterate.rec (fun k : AltKey => (∀ x ∈ k.1.idx0, A x) ∧ (∀ x ∈ k.1.idx1, B x)) ⟨h0, h1⟩
    (altKeyStep_in_components srch A B hcl0 hcl1) n

/-- **The recorded edge joins the two components** (hypothesis `hnew` of `connect_graph_model`): whatever holds of the
initial pair `(indices[0][0], indices[1][0])` and of every `(query point, result)` pair of a round holds of `best_edge`
after the round — in particular "the endpoints lie in different components". -/
theorem best_edge_joins {P : Type} [LT P] [DecidableLT P] (Q : Int → Int → Prop)
    (rows : List (Int × List (Int × P))) (b : Best P) (hb : Q b.a b.b) (hrows : ∀ r ∈ rows, ∀ e ∈ r.2, Q r.1 e.1) :
    Q (bestRound rows b).a (bestRound rows b).b := by
  rw [bestRound_eq_foldl]
  rcases foldl_better_mem (offers rows) b with h | ⟨o, ho, h⟩
  · rw [h]; exact hb
  · obtain ⟨r, hr, e, he, rfl⟩ := mem_offers.mp ho
    rw [h]; exact hrows r hr e he

/-- **Best-edge bookkeeping of one round** (`if dists[i, j] < best_dist: …`): the recorded edge is the previous
one or `(query point, result)` of an entry of this round with exactly that entry's distance; the recorded
distance bounds the previous best and every distance of the round from below (no NaN: a linear order). -/
theorem best_edge_round {P : Type} [LinearOrder P] (rows : List (Int × List (Int × P))) (b : Best P) :
    let b' := bestRound rows b
    (b' = b ∨ ∃ r ∈ rows, ∃ e ∈ r.2, b' = ⟨e.2, r.1, e.1⟩) ∧ b'.dist ≤ b.dist ∧
      ∀ r ∈ rows, ∀ e ∈ r.2, b'.dist ≤ e.2 := by
  simp only [bestRound_eq_foldl]
  obtain ⟨h1, h2⟩ := foldl_better_le (offers rows) b
  refine ⟨(foldl_better_mem (offers rows) b).imp_right fun ⟨o, ho, h⟩ => ?_, h1,
    fun r hr e he => h2 _ (mem_offers.mpr ⟨r, hr, e, he, rfl⟩)⟩
  obtain ⟨r, hr, e, he, rfl⟩ := mem_offers.mp ho
  exact ⟨r, hr, e, he, h⟩

/-- **Termination of the alternating loop, exact search, no ties** (`…_partial`: the real search is
approximate and breaks ties by heap position).  `A`, `B` = the two components, `d a b` = the
distance (ranked into `Nat`), `nn false a` = the point of `B` strictly nearest to `a`, `nn true b` =
the point of `A` strictly nearest to `b` (`ExactNN`: nearest and *strictly* closer than every other
candidate, i.e. no ties).  From the loop's initial state — any seeds `idx0 ⊆ A`, any `idx1`,
`query_side = 0`, `changed = [True, True]` — the loop exits after finitely many rounds.
(Each round every chain `a ↦ nn a ↦ nn (nn a) …` strictly decreases its distance until it reaches a
mutually nearest pair; once all chains have, both index sets repeat and both flags go false.) -/
theorem alternating_loop_terminates_partial (nn : Bool → Nat → Nat) (d : Nat → Nat → Nat)
    (A B : Nat → Prop) (hnn : ExactNN nn d A B) (idx0 idx1 : List Nat) (h0 : ∀ a ∈ idx0, A a) :
    ∃ fuel st', altLoop nn fuel ⟨idx0, idx1, false, true, true⟩ = some st' :=
  -- side 0 queries first: the querying set `q` of the initial state is `idx0`, its component `dom … false` is `A`
  altLoop_terminates hnn ⟨idx0, idx1, false, true, true⟩ h0

/-- **Ties break it.**  Four mutually equidistant points (two per component — e.g. duplicates),
ties resolved as `0 ↦ 10 ↦ 1 ↦ 11 ↦ 0`: the loop never exits, whatever the fuel.  The real code
shows exactly this period-4 cycle on duplicate points. -/
theorem alternating_loop_tie_cycle :
    ∃ (nn : Bool → Nat → Nat) (s0 : AltState), s0.ch0 = true ∧ s0.ch1 = true ∧ s0.side = false ∧
      ∀ fuel, altLoop nn fuel s0 = none := by
  let nn : Bool → Nat → Nat := fun side x =>
    if side then (if x = 10 then 1 else 0) else (if x = 0 then 10 else 11)
  refine ⟨nn, ⟨[0], [10], false, true, true⟩, rfl, rfl, rfl, fun fuel => ?_⟩
  -- the guarded loop leaves through its guard after 7 searches, so the unguarded one never exits
  have hfired : (altLoopSeen (nnSearch nn) 7 [0] [10]).map (·.2) = some (true, 7) := by decide +kernel
  obtain ⟨⟨k, _, _⟩, hk, he⟩ := Option.map_eq_some_iff.mp hfired
  cases he
  rw [altLoop_eq_plainLoop_key nn fuel _ true true,
    cycle_guard_fires_only_on_divergence (nnSearch nn) 7 [0] [10] k 7 hk fuel]
  rfl

/-! ## Non-vacuity -/

/-- a concrete stream with rejections: slots 3, (3 rejected) 1, (3 rejected) 0 — five draws -/
example : rejectionSample (fun p => [3, 7, 1, 3, 4, 1, 2].getD p 0) 3 4 5 = some [3, 1, 0] := by decide +kernel
/-- one draw short: still running -/
example : rejectionSample (fun p => [3, 7, 1, 3, 4, 1, 2].getD p 0) 3 4 4 = none := by decide +kernel
/-- `n_samples = pool_size`: a permutation of the pool -/
example : rejectionSample (fun p => 2 * p + 1) 3 3 10 = some [1, 0, 2] := by decide +kernel
/-- more samples than the pool holds: not finished after 200 draws (and never, by the theorem) -/
example : rejectionSample (fun p => p) 4 3 200 = none :=
  (rejection_sample_diverges_stream _ 4 3 (by decide) (by decide) 200).1
/-- negative draws use Python's `%`: `-7 % 5 = 3` -/
example : residue (-7) 5 = 3 := by decide
/-- the exact generator from a state with negative words (the driver prints the same line) -/
example : (rejectionSampleRng 3 10 100 (RngState.ofInts (-7) 8 (-9))).map (·.1) = some [4, 8, 9] := by
  decide +kernel

/-- `connect_spec` on a concrete graph: components `{0,1}`, `{2,3}`, `{4}`; one edge per pair. -/
example : ∀ u v : Fin 5, Reachable
    (fun a b : Fin 5 => (a.val, b.val) ∈ [(0, 1), (1, 0), (2, 3), (3, 2), (1, 2), (2, 1), (0, 4), (4, 0), (3, 4), (4, 3)]) u v := by
  refine connect_spec (fun a b : Fin 5 => (a.val, b.val) ∈ [(0, 1), (1, 0), (2, 3), (3, 2)]) _
    (fun v => v.val / 2) 3 (by decide) ?_ (by decide) (by decide) ?_
  · intro u v h
    have key : u = v ∨ (u.val, v.val) ∈ [(0, 1), (1, 0), (2, 3), (3, 2)] := by revert u v; decide
    rcases key with rfl | hk
    · exact .refl _
    · exact .single (Or.inl hk)
  · intro c1 c2 h1 h2
    have : (c1 = 0 ∧ c2 = 1) ∨ (c1 = 0 ∧ c2 = 2) ∨ (c1 = 1 ∧ c2 = 2) := by omega
    rcases this with ⟨rfl, rfl⟩ | ⟨rfl, rfl⟩ | ⟨rfl, rfl⟩
    · exact ⟨1, 2, by decide⟩
    · exact ⟨0, 4, by decide⟩
    · exact ⟨3, 4, by decide⟩

/-- `ExactNN` is satisfiable: `A = {0, 1}`, `B = {10, 11}`, `d 0 10 = 5, d 0 11 = 3, d 1 10 = 4,
d 1 11 = 2` (no ties); both points of `A` are nearest to `11`, both points of `B` to `1` … -/
example : ExactNN (fun side _ => if side then 1 else 11)
    (fun a b => if a = 0 then (if b = 10 then 5 else 3) else (if b = 10 then 4 else 2))
    (fun a => a = 0 ∨ a = 1) (fun b => b = 10 ∨ b = 11) := by
  constructor
  · intro a _; simp
  · intro b _; simp
  · rintro a b (rfl | rfl) (rfl | rfl) <;> simp
  · rintro b a (rfl | rfl) (rfl | rfl) <;> simp
/-- … and the loop really exits on it, at the mutually nearest pair `(1, 11)`. -/
example : altLoop (fun side _ => if side then 1 else 11) 6 ⟨[0, 1], [10, 11], false, true, true⟩
    = some ⟨[1], [11], false, false, false⟩ := by decide +kernel

/-- the tie cycle of `alternating_loop_tie_cycle` under the repaired loop: the key of the 4th search recurs
at the 8th, the guard fires after 7 searches -/
example : (altLoopSeen (nnSearch (fun side x =>
      if side then (if x = 10 then 1 else 0) else (if x = 0 then 10 else 11))) 20 [0] [10]).map (fun r => (r.2.1, r.2.2))
    = some (true, 7) := by decide +kernel
/-- the tie-free example exits normally after the same 4 searches as the unguarded loop -/
example : (altLoopSeen (nnSearch (fun side _ => if side then 1 else 11)) 20 [0, 1] [10, 11]).map (fun r => (r.1.1, r.2.1, r.2.2))
    = some (⟨[1], [11], false, false, false⟩, false, 4) := by decide +kernel
/-- best-edge bookkeeping on a concrete round: strict `<` keeps the first of two equal minima -/
example : (bestRound [((5 : Int), [((7 : Int), (3 : Nat)), (8, 2)]), (6, [(9, 2), (4, 6)])] ⟨10, -1, -1⟩ : Best Nat).b = 8 := by decide +kernel

end Pynn.C20
