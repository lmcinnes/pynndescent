import PynnVerif.Proofs.DescentInv
import Mathlib.Order.Fin.Basic  -- `LinearOrder (Fin 10)` for the concrete examples at the end

/-!
# C01 — the k-neighbour graph returned by NN-descent is well-formed and its distances are true

Property theorems only (the invariant proofs live in `Proofs/DescentInv.lean`).  `P` is any
linear order with greatest element `top` (`np.inf`); `C` is the priority type of the
candidate heaps and needs *no* order laws (the code uses `float32` draws); `dist` is any
**symmetric** function on row numbers; `nnDescent` is the literal model of `nn_descent`
(`Model/Descent.lean`, bit-exact against the numba kernels).  All of `cfg` (`k`,
`max_candidates`, `n_iters`, thread count — `0` included —, `low_memory`, block size), the
stop test, the generator state, the draw function and the leaf array are universally
quantified.
-/
namespace Pynn.C01
open Pynn
variable {P : Type} [LinearOrder P]
variable {C : Type} [LE C] [LT C] [DecidableLE C] [DecidableLT C]

/-- **Well-formed output.**  For every configuration, every generator state, every leaf array
whose entries are `< n` (negative entries are the `-1` padding of `leaf_array`) and either an
empty start (`init = none`: `make_heap`, optional `init_rp_tree`, `init_random`) or a supplied
heap that satisfies the invariant (`init_graph` with truthful `init_dist`), the graph returned
by `nn_descent` has `n` rows of `k` slots; each row is in ascending distance order, holds no
point twice, every slot is a real point `0 ≤ idx < n` at a finite distance or the sentinel
`(-1, top)`, and **the distance stored with a real point `q` in row `p` is `dist p q`**.

Hypotheses that matter for the code:
* `hsymm`: the second push of every update, `(row q, d, p)`, stores `d = dist p q` as the
  distance from `q` to `p`.  For an asymmetric `dist` the last conjunct is false.
* `htop` / `LinearOrder P`: no `NaN` (a `NaN` distance is outside this theorem).
* no `0 < n`, `0 < k`, `0 < nThreads` hypothesis is needed: with `n = 0` the `init_random` loop
  body never runs (`randIndex r n < n` is only used for `0 < n`); with `k = 0` every push is
  rejected; with `nThreads = 0` no candidate is built and no update is applied. -/
theorem descent_wellformed (top : P) (ctop : C) (htop : ∀ x : P, x ≤ top)
    (draw : RngState → C × RngState) (dist : Nat → Nat → P)
    (hsymm : ∀ p q, dist p q = dist q p) (n : Nat) (cfg : Cfg) (stop : Nat → Bool)
    (rng : RngState) (init : Option (Graph P))
    (hinit : ∀ g, init = some g → GraphInv top n cfg.k dist g)
    (rp : Bool) (leafArray : List (List Int))
    (hleaf : ∀ row ∈ leafArray, ∀ x ∈ row, x < (n : Int)) :
    let out := (nnDescent top ctop draw dist n cfg stop rng init rp leafArray).1
    out.size = n ∧ ∀ p (hp : p < out.size),
      out[p].size = cfg.k ∧
      (∀ i j (hi : i < out[p].size) (hj : j < out[p].size), i ≤ j →
          out[p][i].prio ≤ out[p][j].prio) ∧
      ((out[p].toList.filter (fun e => 0 ≤ e.idx)).map (·.idx)).Nodup ∧
      (∀ e ∈ out[p], (e.idx = -1 ∧ e.prio = top) ∨
          (0 ≤ e.idx ∧ e.idx < (n : Int) ∧ e.prio < top)) ∧
      (∀ e ∈ out[p], 0 ≤ e.idx → e.prio = dist p e.idx.toNat) := by
  obtain ⟨g, hg, hout⟩ :=
    nnDescent_graphInv htop ctop draw hsymm n cfg stop rng init hinit rp leafArray hleaf
  rw [hout]
  refine ⟨Array.size_map.trans hg.size, fun p hp => ?_⟩
  rw [Array.getElem_map]
  exact deheapSort_rowOk ((graphInv_iff.mp hg).2 p _ (Array.getElem?_eq_getElem (Array.size_map ▸ hp)))

/-- **Reported distances are the documented metric** (composition with C09): the index stores a
surrogate `surr` of the documented `metric` and reports `corr (stored value)`.  If the correction
inverts the surrogate (`corr (surr x y) = metric x y` — proved for every registered pair in
`Props/C09.lean`) and is monotone, then every real entry `(q, d)` of the reported row `p` has
`d = metric (data p) (data q)`, and reported rows still run closest-first.  `X` is the type of
data rows, `Q` the type of reported values. -/
theorem reported_distance_true {X Q : Type} [LinearOrder Q]
    (top : P) (ctop : C) (htop : ∀ x : P, x ≤ top)
    (draw : RngState → C × RngState) (data : Nat → X) (surr : X → X → P) (metric : X → X → Q)
    (corr : P → Q) (hinv : ∀ x y, corr (surr x y) = metric x y) (hmono : Monotone corr)
    (hsymm : ∀ x y, surr x y = surr y x)
    (n : Nat) (cfg : Cfg) (stop : Nat → Bool) (rng : RngState)
    (init : Option (Graph P))
    (hinit : ∀ g, init = some g → GraphInv top n cfg.k (fun p q => surr (data p) (data q)) g)
    (rp : Bool) (leafArray : List (List Int))
    (hleaf : ∀ row ∈ leafArray, ∀ x ∈ row, x < (n : Int)) :
    let out := (nnDescent top ctop draw (fun p q => surr (data p) (data q)) n cfg stop rng init rp leafArray).1
    ∀ p (hp : p < out.size),
      (∀ e ∈ out[p], 0 ≤ e.idx → corr e.prio = metric (data p) (data e.idx.toNat)) ∧
      (∀ i j (hi : i < out[p].size) (hj : j < out[p].size), i ≤ j →
          corr out[p][i].prio ≤ corr out[p][j].prio) := by
  intro out p hp
  obtain ⟨_, hsorted, _, _, htruth⟩ := (descent_wellformed top ctop htop draw (fun p q => surr (data p) (data q))
    (fun a b => hsymm _ _) n cfg stop rng init hinit rp leafArray hleaf).2 p hp
  refine ⟨fun e he hidx => ?_, fun i j hi hj hij => hmono (hsorted i j hi hj hij)⟩
  rw [htruth e he hidx, hinv]

/-- **Sentinels come last** (corollary): in every output row the real entries form a prefix —
once a slot is the sentinel `(-1, top)` every later slot is, and a real slot is preceded by
real slots only.  (A real entry has `prio < top`, a sentinel has `prio = top`, rows ascend.) -/
theorem sentinels_last (top : P) (ctop : C) (htop : ∀ x : P, x ≤ top)
    (draw : RngState → C × RngState) (dist : Nat → Nat → P)
    (hsymm : ∀ p q, dist p q = dist q p) (n : Nat) (cfg : Cfg) (stop : Nat → Bool)
    (rng : RngState) (init : Option (Graph P))
    (hinit : ∀ g, init = some g → GraphInv top n cfg.k dist g)
    (rp : Bool) (leafArray : List (List Int))
    (hleaf : ∀ row ∈ leafArray, ∀ x ∈ row, x < (n : Int)) :
    let out := (nnDescent top ctop draw dist n cfg stop rng init rp leafArray).1
    ∀ p (hp : p < out.size) i j (hi : i < out[p].size) (hj : j < out[p].size), i ≤ j →
      (out[p][i].idx = -1 → out[p][j].idx = -1 ∧ out[p][j].prio = top) ∧
      (0 ≤ out[p][j].idx → 0 ≤ out[p][i].idx) := by
  intro out p hp i j hi hj hij
  obtain ⟨_, hsorted, _, hrange, _⟩ := (descent_wellformed top ctop htop draw dist hsymm n cfg stop rng
    init hinit rp leafArray hleaf).2 p hp
  rcases hrange _ (Array.getElem_mem hi) with ⟨_, hpi⟩ | ⟨h0, _, _⟩
  · -- slot `i` is a sentinel, so slot `j`, at least as far, cannot be real
    have hsj := (hrange _ (Array.getElem_mem hj)).resolve_right fun h =>
      not_lt_of_ge (hpi ▸ hsorted i j hi hj hij) h.2.2
    exact ⟨fun _ => hsj, fun hreal => absurd (hsj.1 ▸ hreal) (by decide)⟩
  · exact ⟨fun hneg => absurd (hneg ▸ h0) (by decide), fun _ => h0⟩

/-- **The invariant is inductive** (what the previous theorem rests on): a truthful in-range
`checked_flagged_heap_push` into any row preserves `GraphInv`.  (`hr` is not used: a push into a
row that does not exist does nothing.) -/
theorem push_preserves_invariant (top : P) (htop : ∀ x : P, x ≤ top) (n k : Nat)
    (dist : Nat → Nat → P) (g : Graph P) (hg : GraphInv top n k dist g) (r : Nat) (hr : r < n)
    (q : Int) (hq0 : 0 ≤ q) (hqn : q < (n : Int)) (f : Bool) :
    GraphInv top n k dist (pushInto g r (dist r q.toNat) q f).1 :=
  pushInto_inv htop hg hq0 hqn rfl f

/-- **Every update the local join generates is truthful**: it carries `dist p q` and both
endpoints are non-negative entries of the vertex's candidate rows. -/
theorem updates_truthful (thr : Nat → P) (dist : Nat → Nat → P) (newRow oldRow : List Int) :
    ∀ u ∈ joinUpdates thr dist newRow oldRow,
      u.d = dist u.p u.q ∧ (u.p : Int) ∈ newRow ∧ ((u.q : Int) ∈ newRow ∨ (u.q : Int) ∈ oldRow) :=
  joinUpdates_truthful thr dist newRow oldRow

/-- **The heaps built from a user-supplied `init_graph` satisfy `hinit`**: from an empty heap,
`initalize_heap_from_graph_indices` (distances recomputed, negative indices skipped) needs only
indices `< n`; `init_from_neighbor_graph` / `…_indices_and_distances` need the documented
contract that `init_dist` is truthful (each pair is a hole at distance `top`, or an in-range
index with its true distance). -/
theorem init_graph_invariant (top : P) (htop : ∀ x : P, x ≤ top) (n k : Nat)
    (dist : Nat → Nat → P) (indices : List (List Int)) (dists : List (List P)) :
    ((∀ row ∈ indices, ∀ j ∈ row, j < (n : Int)) →
      GraphInv top n k dist (initFromIndices (mkGraph top n k) indices dist)) ∧
    ((∀ (r : Nat) (isds : List Int × List P), (indices.zip dists)[r]? = some isds →
        ∀ qd ∈ isds.1.zip isds.2,
          qd.2 = top ∨ (0 ≤ qd.1 ∧ qd.1 < (n : Int) ∧ qd.2 = dist r qd.1.toNat)) →
      GraphInv top n k dist (initFromNeighborGraph (mkGraph top n k) indices dists)) :=
  ⟨initFromIndices_inv htop (mkGraph_inv top n k dist) indices,
   initFromNeighborGraph_inv htop (mkGraph_inv top n k dist) indices dists⟩

/-! ## non-vacuity -/

/-- a symmetric "metric" on 5 points with ties: `|p − q| mod 9` in `Fin 10`, `top = 9` -/
def dist5 : Nat → Nat → Fin 10 := fun p q =>
  if p ≤ q then ⟨(q - p) % 9, by omega⟩ else ⟨(p - q) % 9, by omega⟩

theorem dist5_symm : ∀ p q, dist5 p q = dist5 q p := by
  intro p q
  unfold dist5
  by_cases h1 : p ≤ q <;> by_cases h2 : q ≤ p <;> simp only [h1, h2, if_true, if_false]
  · have : p = q := by omega
    subst this; rfl
  · omega

/-- candidate priorities: absolute value of the Tausworthe integer -/
def drawNat : RngState → Nat × RngState := fun s => let r := tauRandInt s; (r.1.natAbs, r.2)

def cfg5 : Cfg := { k := 2, maxCand := 3, nIters := 2, nThreads := 2, lowMemory := true }

/-- The hypotheses are satisfiable with a non-trivial leaf array (two leaves, `-1` padding)
and `init = none`; the theorem then applies to this run. -/
example :=
  descent_wellformed (9 : Fin 10) (10 ^ 12 : Nat) (fun x => by omega) drawNat dist5 dist5_symm 5
    cfg5 (fun c => c == 0) (RngState.ofInts 1 2 3) none (fun _ h => by simp at h) true
    [[0, 1, 2, -1], [3, 4, -1, -1]] (by decide)

/-- … and the run is not trivial: tree initialisation then two iterations fill every row
(`decide +kernel`: the model is executable; evaluated by the kernel). -/
example : (nnDescent (9 : Fin 10) (10 ^ 12 : Nat) drawNat dist5 5 cfg5 (fun c => c == 0)
      (RngState.ofInts 1 2 3) none true [[0, 1, 2, -1], [3, 4, -1, -1]]).1.toList.map
        (fun r => r.toList.map (fun e => (e.idx, e.prio)))
    = [[(0, 0), (1, 1)], [(1, 0), (0, 1)], [(2, 0), (1, 1)], [(3, 0), (4, 1)], [(4, 0), (3, 1)]] := by
  decide +kernel

/-- random initialisation only (no tree), high-memory path, one thread: `init_random` draws
the row itself and duplicates, so the last row keeps a sentinel — which comes last. -/
example : (nnDescent (9 : Fin 10) (10 ^ 12 : Nat) drawNat dist5 5
      { cfg5 with nThreads := 1, lowMemory := false } (fun c => c == 0)
      (RngState.ofInts 1 2 3) none false []).1.toList.map
        (fun r => r.toList.map (fun e => (e.idx, e.prio)))
    = [[(0, 0), (1, 1)], [(1, 0), (0, 1)], [(2, 0), (1, 1)], [(1, 2), (0, 3)], [(0, 4), (-1, 9)]] := by
  decide +kernel

/-- a supplied heap that satisfies the invariant and is not empty: the heap after the leaf
initialisation (by `initRpTree_inv`), so `hinit` is satisfiable with `init = some _`. -/
example : GraphInv (9 : Fin 10) 5 2 dist5
    (initRpTree 9 dist5 (mkGraph 9 5 2) [[0, 1, 2, -1], [3, 4, -1, -1]]) :=
  initRpTree_inv (fun x => by omega) dist5_symm (mkGraph_inv 9 5 2 dist5) _ _ (by decide)

example : (initRpTree (9 : Fin 10) dist5 (mkGraph 9 5 2) [[0, 1, 2, -1], [3, 4, -1, -1]]).toList.map
        (fun r => r.toList.map (fun e => (e.idx, e.prio)))
    = [[(2, 2), (1, 1)], [(2, 1), (0, 1)], [(0, 2), (1, 1)], [(-1, 9), (4, 1)], [(-1, 9), (3, 1)]] := by
  decide +kernel

/-- the symmetry hypothesis is needed: with an asymmetric `dist` one leaf update stores
`dist 0 1 = 1` in row 1 as the distance of point 0, although `dist 1 0 = 2`. -/
example : (initRpTree (9 : Fin 10) (fun p q => if p < q then 1 else 2) (mkGraph 9 2 1)
      [[0, 1]]).toList.map (fun r => r.toList.map (fun e => (e.idx, e.prio)))
    = [[(1, 1)], [(0, 1)]] := by
  decide +kernel

end Pynn.C01
