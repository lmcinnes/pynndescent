import PynnVerif.Proofs.Guarded

/-!
# C07 (continued) — guardedness under rounding

Part B of `Props/C07b.lean`; no real numbers occur, so this file and its helpers
(`Proofs/Guarded.lean`) do without Mathlib.

For every carrier satisfying `RArith` (sign / order facts shared by `ℝ` and IEEE
arithmetic on finite values, stable under `fastmath`; NOT `a ≤ b → a / b ≤ 1`, no exact
cancellation): the kernels that contain a partial operation behind a guard or clamp, rewritten over
`safeSqrt` / `safeDiv` / `safeLog` / `safeArccos` / `safeArcsin` (`…G`, `Model/Metrics2.lean`), never
return `none` on their domain.  Two grades:

* `RArith` alone — the CLAMPS and the direct guards: `hellinger_clamp_guarded`,
  `correct_alternative_hellinger_guarded`, `tsss_clamp_guarded`, `true_angular_clamp_guarded`,
  `haversine_guarded`,
  `canberra_guarded`, `bray_curtis_guarded`, `bit_jaccard_guarded`;
* `RArithNU` (= `RArith` + "a product / quotient of positive values is positive", i.e. no UNDERFLOW)
  — the kernels that test the factors (`norm_x == 0`, `l1_norm_x == 0`) and then divide by the
  square root of their product: `hellinger_guarded`, `cosine_guarded`, `true_angular_guarded`,
  `tsss_guarded`, `bit_jaccard_log_guarded`.  The extra assumption is necessary: the real float32
  `hellinger` raises `ZeroDivisionError` on `x = y = [1e-23]`.

`guarded_agree`: the `…G` kernels compute the values of the plain kernels.  `instance : RArithNU ℝ`
(`Proofs/Metrics2.lean`) shows the axioms are consistent; the `example`s at the end exhibit a
carrier satisfying every axiom on which the PRE-repair shapes (`hellinger` without `max`,
`haversine` without `min`) return `none`.

NOT REACHED: `correlation` is guarded only modulo Cauchy–Schwarz (`correlation_guarded_partial`);
`mahalanobis` has no guardedness statement (positive semi-definiteness does not survive rounding);
overflow to `±inf` is outside `RArith`.
-/
namespace Pynn.C07b
open Pynn.Metrics

section Guarded
open RArith

/-- **hellinger, the clamp**: for every carrier and EVERY value `q` of the quotient
`result / √(l1_norm_x·l1_norm_y)`, `np.sqrt(max(1 - q, 0.0))` is defined. -/
theorem hellinger_clamp_guarded {α : Type} [RArith α] (q : α) :
    safeSqrt (Arith.max (1 - q) 0) ≠ none :=
  ne_none_of_eq_some (safeSqrt_some (le_max_right _ _))

/-- `correct_alternative_hellinger` is defined for every `d`, whatever `pow(2.0, -d)` rounds to. -/
theorem correct_alternative_hellinger_guarded {α : Type} [RArith α] (d : α) :
    correctAlternativeHellingerG d ≠ none :=
  hellinger_clamp_guarded _

/-- **tsss, the clamp**: `np.arccos(min(max(c, -1.0), 1.0))` is defined for every `c`. -/
theorem tsss_clamp_guarded {α : Type} [RArith α] (c : α) : safeArccos (clampCos c) ≠ none :=
  ne_none_of_eq_some (safeArccos_some (clampCos_memG c))

/-- **true_angular, the clamp**: `np.arccos(min(q, 1.0))` is defined for every `q ≥ 0` (the branch
`result <= 0.0` having returned before). -/
theorem true_angular_clamp_guarded {α : Type} [RArith α] (q : α) (hq : 0 ≤ q) :
    safeArccos (Arith.min q 1) ≠ none :=
  ne_none_of_eq_some (safeArccos_some (min_one_memG hq))

/-- **haversine**: on latitudes whose cosine is `≥ 0` (the domain `[-π/2, π/2]`) the radicand is a
sum of non-negative terms, and the clamp `min(result, 1.0)` keeps the argument of `np.arcsin` in
`[-1, 1]` whatever the radicand rounds to. -/
theorem haversine_guarded {α : Type} [RArith α] (x0 x1 y0 y1 : α)
    (hx : 0 ≤ Trig.cos x0) (hy : 0 ≤ Trig.cos y0) : haversineG x0 x1 y0 y1 ≠ none :=
  have hr : 0 ≤ haversineRadicand x0 x1 y0 y1 :=
    add_nonneg (mul_self_nonneg _) (mul_nonneg (mul_nonneg hx hy) (mul_self_nonneg _))
  have hm := min_one_memG (sqrt_nonneg hr)
  bind_ne_none (safeSqrt_some hr) (bind_ne_none (safeArcsin_some hm) nofun)

/-- **canberra**: every division is behind `denominator > 0`. -/
theorem canberra_guarded {α : Type} [RArith α] (x y : List α) : canberraG x y ≠ none :=
  foldlM_ne_none _ (fun _ _ _ => ite_ne_none
    (fun h => map_ne_none (safeDiv_some _ (pos_ne_zero h)) _) fun _ => Option.some_ne_none _) _

/-- **bray_curtis**: the division is behind `denominator > 0.0`. -/
theorem bray_curtis_guarded {α : Type} [RArith α] (x y : List α) : brayCurtisG x y ≠ none :=
  ite_ne_none (fun h => ne_none_of_eq_some (safeDiv_some _ (pos_ne_zero h))) fun _ => nofun

/-- **bit_jaccard**: the division is behind `denom == 0.0` (no axiom needed at all). -/
theorem bit_jaccard_guarded {α : Type} [RArith α] (r d : α) : bitJaccardQuotientG r d ≠ none :=
  ite_ne_none nofun fun h => ne_none_of_eq_some (safeDiv_some _ (Bool.eq_false_iff.2 h))

/-- the logarithm of `bit_jaccard` is unguarded: it is defined when the strings share a set bit
(`result > 0`), barring underflow of the quotient. -/
theorem bit_jaccard_log_guarded {α : Type} [RArithNU α] (r d : α) (hr : 0 < r) (hd : 0 ≤ d) :
    bitJaccardOfCountsG r d ≠ none :=
  ite_ne_none nofun fun h =>
    have h' := Bool.eq_false_iff.2 h
    bind_ne_none (safeDiv_some _ h') <|
    bind_ne_none (safeLog_some (RArithNU.div_pos hr (pos_of_nonneg_of_ne hd h'))) nofun

/-- **hellinger** (non-negative vectors): every inner `np.sqrt(x[i]*y[i])` has a non-negative
argument; the outer `np.sqrt` is behind the clamp (`RArith` alone); the division by
`√(l1_norm_x·l1_norm_y)` is behind `l1_norm_x == 0` / `l1_norm_y == 0`, which guard the FACTORS —
that step needs `RArithNU` (no underflow of the product: `hellinger([1e-23f], [1e-23f])` raises
`ZeroDivisionError` in the real kernel). -/
theorem hellinger_guarded {α : Type} [RArithNU α] (x y : List α)
    (hx : ∀ a ∈ x, 0 ≤ a) (hy : ∀ a ∈ y, 0 ≤ a) : hellingerG x y ≠ none :=
  bind_ne_none' (sumByG_ne_none fun _ hp => ne_none_of_eq_some (safeSqrt_some
    (mul_nonneg (hx _ (List.of_mem_zip hp).1) (hy _ (List.of_mem_zip hp).2)))) fun _ =>
  ite_ne_none nofun fun _ => ite_ne_none nofun fun h2 =>
    have ⟨h5, h6⟩ := mul_nonneg_sqrt_pos_of_guard (l1_nonnegG hx) (l1_nonnegG hy) h2
    bind_ne_none (safeSqrt_some h5) <| bind_ne_none (safeDiv_some _ (pos_ne_zero h6)) <|
    hellinger_clamp_guarded _

/-- **cosine**: the division by `√(norm_x·norm_y)` is behind `norm_x == 0.0` / `norm_y == 0.0`
(guards on the factors: `RArithNU`). -/
theorem cosine_guarded {α : Type} [RArithNU α] (x y : List α) : cosineG x y ≠ none :=
  ite_ne_none nofun fun _ => ite_ne_none nofun fun h2 =>
    have ⟨h5, h6⟩ := mul_nonneg_sqrt_pos_of_guard (normSq_nonnegG x) (normSq_nonnegG y) h2
    bind_ne_none (safeSqrt_some h5) <| bind_ne_none (safeDiv_some _ (pos_ne_zero h6)) nofun

/-- **true_angular**: as `cosine` for the division; the argument of `np.arccos` is `min(q, 1.0)` with
`q ≥ 0` (a quotient of a positive by a positive value, `result ≤ 0.0` having been excluded), hence
in `[-1, 1]` whatever `q` rounds to; `np.pi` is non-zero. -/
theorem true_angular_guarded {α : Type} [RArithNU α] (x y : List α) : trueAngularG x y ≠ none :=
  ite_ne_none nofun fun _ => ite_ne_none nofun fun h2 => ite_ne_none nofun fun h7 =>
    have ⟨h5, h6⟩ := mul_nonneg_sqrt_pos_of_guard (normSq_nonnegG x) (normSq_nonnegG y) h2
    have hm := min_one_memG (div_nonneg (le_of_lt (lt_of_not_le h7)) h6)
    bind_ne_none (safeSqrt_some h5) <| bind_ne_none (safeDiv_some _ (pos_ne_zero h6)) <|
    bind_ne_none (safeArccos_some hm) <|
    bind_ne_none (safeDiv_some _ (pos_ne_zero (pi_pos (α := α)))) nofun

/-- **tsss** on vectors whose computed squared norms are non-zero (the code has NO guard for zero
vectors: D7g): the three `np.sqrt` have sums of squares as arguments, `np.arccos` is behind the clamp
(`tsss_clamp_guarded`, `RArith` alone), `2.0 ≠ 0`; the division by `norm_x * norm_y` needs
`RArithNU` (no underflow of the product). -/
theorem tsss_guarded {α : Type} [RArithNU α] (x y : List α)
    (hx : (normSq x == 0) = false) (hy : (normSq y == 0) = false) : tsssG x y ≠ none :=
  have hnx := normSq_nonnegG x
  have hny := normSq_nonnegG y
  have hp := RArithNU.mul_pos (sqrt_pos (pos_of_nonneg_of_ne hnx hx))
    (sqrt_pos (pos_of_nonneg_of_ne hny hy))
  bind_ne_none (safeSqrt_some hnx) <| bind_ne_none (safeSqrt_some hny) <|
  bind_ne_none (safeDiv_some _ (pos_ne_zero hp)) <|
  bind_ne_none (safeArccos_some (clampCos_memG _)) <|
  bind_ne_none (safeSqrt_some (sumBy_nonnegG _ x y fun _ _ => mul_self_nonneg _)) <|
  bind_ne_none (safeDiv_some _ (pos_ne_zero (ofNat_pos (α := α) (n := 2) (by decide)))) nofun

/-- **correlation**, PARTIAL.  Full statement (not provable from `RArithNU`):
`∀ x y, x ≠ [] → correlationG x y ≠ none`.  The code guards the division by `√(norm_x·norm_y)` with
`dot_product == 0.0`, not with a test of the norms; that `dot_product ≠ 0` implies
`norm_x ≠ 0 ∧ norm_y ≠ 0` is Cauchy–Schwarz (`C07.correlation_defined`, exact arithmetic) and is
not a consequence of the sign axioms — it is the hypothesis `hgap` here. -/
theorem correlation_guarded_partial {α : Type} [RArithNU α] (x y : List α) (hn : 0 < x.length)
    (hgap : ∀ mx my : α, (sumBy (fun a b => (a - mx) * (b - my)) x y == 0) = false →
      (sum1 (fun v => (v - mx) * (v - mx)) x == 0) = false ∧
      (sum1 (fun v => (v - my) * (v - my)) y == 0) = false) :
    correlationG x y ≠ none :=
  have hn' := fun a : α => safeDiv_some a (pos_ne_zero (ofNat_pos (α := α) hn))
  bind_ne_none (hn' _) <| bind_ne_none (hn' _) <|
  ite_ne_none nofun fun _ => ite_ne_none nofun fun h2 =>
    have ⟨h3, h4⟩ := hgap _ _ (Bool.eq_false_iff.2 h2)
    have ⟨h5, h6⟩ := mul_nonneg_sqrt_pos (sum1_nonnegG _ x fun _ _ => mul_self_nonneg _)
      (sum1_nonnegG _ y fun _ _ => mul_self_nonneg _) h3 h4
    bind_ne_none (safeSqrt_some h5) <| bind_ne_none (safeDiv_some _ (pos_ne_zero h6)) nofun

/-- the guarded kernels are the SAME computations as the kernels of `Model/Metrics.lean` /
`Model/Metrics2.lean` (the ones the driver executes against numba): whenever a guarded kernel returns
`some v`, `v` is the value of the plain kernel. -/
theorem guarded_agree {α : Type} [RArith α] :
    (∀ (x y : List α) v, hellingerG x y = some v → v = hellinger x y) ∧
    (∀ (d v : α), correctAlternativeHellingerG d = some v → v = correctAlternativeHellinger d) ∧
    (∀ (x y : List α) v, cosineG x y = some v → v = cosine x y) ∧
    (∀ (x y : List α) v, trueAngularG x y = some v → v = trueAngular x y) ∧
    (∀ (x y : List α) v, correlationG x y = some v → v = correlation x y) ∧
    (∀ (x y : List α) v, tsssG x y = some v → v = tsss x y) ∧
    (∀ (x0 x1 y0 y1 v : α), haversineG x0 x1 y0 y1 = some v → v = haversineCore x0 x1 y0 y1) ∧
    (∀ (x y : List α) v, canberraG x y = some v → v = canberra x y) ∧
    (∀ (x y : List α) v, brayCurtisG x y = some v → v = brayCurtis x y) ∧
    (∀ (r d v : α), bitJaccardOfCountsG r d = some v → v = bitJaccardOfCounts r d) :=
  ⟨agrees_hellingerG, agrees_correctAlternativeHellingerG, agrees_cosineG, agrees_trueAngularG,
   agrees_correlationG, agrees_tsssG, agrees_haversineG, agrees_canberraG, agrees_brayCurtisG,
   agrees_bitJaccardOfCountsG⟩

end Guarded


/-! ## the PRE-repair shapes are not guarded

A cooked-up carrier satisfying every axiom of `RArithNU` (`Metrics.cookedRArithNU`; the examples need its
`RArith` part, `cookedRArith`, only): the integers, with a division that
rounds UP by one unit in the last place (`a / b := ⌊a / b⌋ + 1` — over `ℤ` the unit is `1`; it is
still true that a quotient of non-negative values is non-negative, which is all `RArith` asks of
`/`), `sqrt := id` (exact on `0` and `1`, and sign-preserving), and `sin = cos = 1` (nothing in the
shared axioms bounds `sin² + cos·cos·sin²` by `1`; in IEEE arithmetic the excess is a rounding
residue at antipodal points). -/

/-- the PRE-repair `hellinger` (`sqrt(1 - r/s)`, no `max`) is NOT guarded: on identical inputs the
quotient rounds above `1` and the square root is taken of a negative number … -/
example : @hellingerUnclampedG Int cookedRArith [1] [1] = none := by decide
/-- … while the repaired kernel is defined on the same carrier and input (as
`hellinger_guarded` says it must be). -/
example : @hellingerG Int cookedRArith [1] [1] = some 0 := by decide

/-- the PRE-repair `haversine` (`arcsin(result)`, no `min`) is NOT guarded: the radicand exceeds `1` … -/
example : @haversineUnclampedG Int cookedRArith 0 0 0 0 = none := by decide
/-- … while the repaired kernel is defined. -/
example : @haversineG Int cookedRArith 0 0 0 0 = some 0 := by decide

end Pynn.C07b
