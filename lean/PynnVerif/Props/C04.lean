import PynnVerif.Proofs.Index

/-!
# C04 — the index is an index over the current logical dataset, after any history

Property text: *after any sequence of prepare, query, update (appending rows, replacing rows, or
both), compress and serialisation round-trips, the index behaves as an index over the current logical
dataset: the original rows with replacements applied, followed by appended rows in the order they were
added.  Its neighbor graph has exactly one row per logical point, and both the graph and every query
answer satisfy C01 and C02 against that logical dataset, with no trace of replaced rows.*

What is proved here is the *bookkeeping* half, on the life-cycle model `Model/Index.lean` (which
`harness/c04.py` compares with the real object after every operation of random histories): rows carry
a tag `(id, version)`, replacing a row bumps its version, and the invariant `Inv` says that every tag
stored anywhere (`_raw_data`, graph owners, graph neighbours, the rows the compiled search closure was
built over) is the *current* one and sits where `_vertex_order` says.  `Inv` holds after `build` and is
preserved by every operation, for every vertex order the forest may yield and every neighbour set
NN-descent may find (both are universally quantified oracle inputs).  The metric half (C01/C02 of
the rows, given that they are computed from current data) is checked on the real code by the harness.

Definitions used in the statements (`Proofs/Index.lean`, pinned below by `Iff.rfl` / `rfl` examples):

* `OpOk s op` — the vertex order an operation *consults* is a permutation of the row numbers its
  (re)prepare sees; nothing is asked of orders that are never looked at, of `replaced`, of `found`;
* `OpsOk s ops` — `OpOk` along a history, each at the state it is applied to;
* `spec ops pts` — the logical dataset the property text prescribes, defined without `step`.

Changes to `Inv` w.r.t. its first version (all three conjuncts hold on every reachable state, which
is what `history_inv` proves): `logical[i].id = i`; the closure exists iff `_vertex_order` exists;
a compressed index has no graph.  Without the first two the predicate is not inductive (examples at
the end).

DEFECTS FOUND while proving `step_inv` (both repaired in `/repo` by "fix: update() validates
updated_indices before touching the index"; the model describes the repaired code):
* a replaced row number `≥ n` raised `IndexError` only *after* `update` had executed
  `self._raw_data = self._raw_data[original_order, :]` and the earlier `_raw_data[i] = x` writes, while
  `_vertex_order` and the search structures stayed; `stepPreRepair` below models that and `Inv` breaks
  on `[prepare, update … [0, 7] …]`;
* a negative row number replaced the row it addresses but reset neither its graph row nor the
  references to it (outside the `Nat`-indexed model; now refused like any other bad row number).
-/
namespace Pynn.C04
open Pynn.Idx

/-! ## 1. restoring caller order: `_raw_data[np.argsort(_vertex_order)]` -/

/-- **`xs[p][argsort p] = xs`** for every list of rows `xs` and every permutation `p` of
`0 .. len(xs)-1`: indexing the stored rows by `np.argsort(self._vertex_order)`, the first thing
`update` does, gives back the rows in caller order. -/
theorem perm_roundtrip {α : Type} (xs : List α) (p : List Nat) (h : isPerm p xs.length = true) :
    permute (permute xs p) (argsort p) = xs :=
  Idx.perm_roundtrip xs p h

/-- reordering by a permutation keeps the number of rows (no row is dropped by the totalised
indexing `xs[i]?` of the model) -/
theorem permute_length {α : Type} (xs : List α) (p : List Nat) (h : isPerm p xs.length = true) :
    (permute xs p).length = xs.length := by
  rw [permute_length_of_lt xs (isPerm_lt h), isPerm_length h]

/-- … and is a rearrangement of the same rows -/
theorem permute_perm {α : Type} (xs : List α) (p : List Nat) (h : isPerm p xs.length = true) :
    (permute xs p).Perm xs :=
  ((isPerm_perm h).filterMap fun i => xs[i]?).symm.trans (.of_eq (permute_range xs))

/-- `np.argsort` of a permutation of `0..n-1` is a permutation of `0..n-1` -/
theorem argsort_is_perm (p : List Nat) (n : Nat) (h : isPerm p n = true) :
    isPerm (argsort p) n = true :=
  Idx.argsort_isPerm h

/-- `isPerm p n` is what it says: `n` entries, pairwise distinct, exactly the numbers below `n` -/
theorem isPerm_spec (p : List Nat) (n : Nat) :
    isPerm p n = true ↔ p.length = n ∧ p.Nodup ∧ ∀ i, i ∈ p ↔ i < n := by
  constructor
  · intro h
    exact ⟨isPerm_length h, isPerm_nodup h, fun i => ⟨isPerm_lt h i, isPerm_mem h⟩⟩
  · rintro ⟨hl, _, hm⟩
    exact isPerm_iff.2 ⟨hl, fun i => (hm i).2⟩

/-! ## 2. oracle side-conditions (definitions pinned) -/

example (s : St) (vo : List Nat) :
    OpOk s (.prepare vo) ↔ (s.searchRows = none → isPerm vo s.logical.length = true) := Iff.rfl
example (s : St) (vo : List Nat) :
    OpOk s (.pickle vo) ↔ (s.searchRows = none → isPerm vo s.logical.length = true) := Iff.rfl
example (s : St) (vo : List Nat) :
    OpOk s (.compress vo) ↔ (s.searchRows = none → isPerm vo s.logical.length = true) := Iff.rfl
example (s : St) : OpOk s .query ↔ True := Iff.rfl
example (s : St) (nFresh : Nat) (replaced : List Nat) (found : List (List Nat)) (vo : List Nat) :
    OpOk s (.update nFresh replaced found vo) ↔
      (s.graph ≠ none → (∀ i ∈ replaced, i < s.logical.length) → s.searchRows ≠ none →
        isPerm vo (s.logical.length + nFresh) = true) := Iff.rfl
example (s : St) : OpsOk s [] ↔ True := Iff.rfl
example (s : St) (op : Op) (ops : List Op) :
    OpsOk s (op :: ops) ↔ (OpOk s op ∧ OpsOk (step s op).1 ops) := Iff.rfl

/-- The plain reading of the side-condition — *every* supplied order is a permutation of the rows
the (re)prepare would see (`s.logical.length`, for `update`: `s.logical.length + nFresh`), looked at
or not — implies `OpOk`.  (`OpOk` is weaker because the harness passes the order the real object has
*after* the operation, which is stale or absent exactly when the operation does not consult it.) -/
theorem opOk_of_perm (s : St) (op : Op) (h : OpPerm s op) : OpOk s op := by
  cases op <;> simp_all [OpOk, OpPerm]

example (s : St) (nFresh : Nat) (replaced : List Nat) (found : List (List Nat)) (vo : List Nat) :
    OpPerm s (.update nFresh replaced found vo) ↔ isPerm vo (s.logical.length + nFresh) = true := Iff.rfl
example (s : St) (vo : List Nat) : OpPerm s (.prepare vo) ↔ isPerm vo s.logical.length = true := Iff.rfl

/-! ## 3. the invariant holds after every history -/

/-- **A freshly built index satisfies the invariant**, whatever neighbours NN-descent found. -/
theorem build_inv (n : Nat) (found : List (List Nat)) : Inv (build n found) = true :=
  (inv_iff _).2 (build_invP n found)

/-- **Every operation preserves the invariant** — `prepare`, `query`, `update` (append, replace,
both, refused, bad row number), `compress_index`, pickle round-trip — for every vertex order that is a
permutation when it is consulted and every `found`. -/
theorem step_inv (s : St) (op : Op) (h : Inv s = true) (hop : OpOk s op) :
    Inv (step s op).1 = true :=
  (inv_iff _).2 (step_invP ((inv_iff s).1 h) hop)

/-- **The invariant holds after any history** on any freshly built index. -/
theorem history_inv (n : Nat) (found : List (List Nat)) (ops : List Op)
    (hops : OpsOk (build n found) ops) : Inv (run (build n found) ops).1 = true :=
  (inv_iff _).2 (run_invP (build_invP n found) hops)

/-- the same from any state satisfying the invariant (e.g. an unpickled index) -/
theorem run_inv (s : St) (ops : List Op) (h : Inv s = true) (hops : OpsOk s ops) :
    Inv (run s ops).1 = true :=
  (inv_iff _).2 (run_invP ((inv_iff s).1 h) hops)

/-! ## 4. what the invariant says -/

/-- **`_raw_data` is the logical dataset in vertex order**: `raw = logical[_vertex_order]` when the
attribute exists (and then it is a permutation of the row numbers), `raw = logical` otherwise.  In
particular `_raw_data` has one row per logical point and holds exactly the current rows. -/
theorem raw_is_logical_in_vertex_order (s : St) (h : Inv s = true) :
    (∀ v, s.vo = some v → isPerm v s.logical.length = true ∧ s.raw = permute s.logical v) ∧
    (s.vo = none → s.raw = s.logical) ∧
    s.raw.length = s.logical.length ∧ s.raw.Perm s.logical := by
  have hP := (inv_iff s).1 h
  have hperm : s.raw.Perm s.logical := by
    cases hv : s.vo with
    | none => rw [hP.raw_none hv]
    | some v => obtain ⟨hp, hr⟩ := hP.raw_some v hv; rw [hr]; exact permute_perm _ _ hp
  exact ⟨hP.raw_some, hP.raw_none, hperm.length_eq, hperm⟩

/-- **Identities are row numbers and every logical point occurs once**: the tag of logical point `i`
has identity `i`, so "`q` is an element of `logical`" means "`q` is the *current* version of point
`q.id`" (`s.logical[q.id]? = some q`). -/
theorem logical_ids (s : St) (h : Inv s = true) :
    (∀ (i : Nat) (p : Pt), s.logical[i]? = some p → p.id = i) ∧ s.logical.Nodup ∧
    (∀ q ∈ s.logical, s.logical[q.id]? = some q) := by
  have hP := (inv_iff s).1 h
  exact ⟨hP.ids, idsOk_nodup hP.ids, fun q hq => mem_current hP.ids hq⟩

/-- **One graph row per logical point**: the neighbour graph, while it exists, has exactly
`len(logical)` rows and row `i` is owned by the current version of logical point `i` (rows are in
caller numbering: appended points own the last rows, in the order they were added; the row of a
replaced point is owned by the replacement). -/
theorem graph_one_row_per_point (s : St) (h : Inv s = true) (g : List GRow) (hg : s.graph = some g) :
    g.length = s.logical.length ∧
    ∀ (i : Nat) (hi : i < g.length) (hi' : i < s.logical.length), g[i].owner = s.logical[i] := by
  have hrows := (((inv_iff s).1 h).graph_some hg).2
  exact ⟨hrows.length_eq, fun i hi hi' => (hrows.get hi hi').1⟩

/-- **No trace of replaced rows**: every tag in the graph — the owner of each row and every
neighbour entry — is the current version of a logical point.  An entry whose distance was computed
against a value that has since been replaced would carry the old version and cannot occur. -/
theorem no_trace_of_replaced_rows (s : St) (h : Inv s = true) (g : List GRow) (hg : s.graph = some g) :
    ∀ row ∈ g, s.logical[row.owner.id]? = some row.owner ∧
      ∀ q ∈ row.nbrs, s.logical[q.id]? = some q := by
  have hP := (inv_iff s).1 h
  have hrows := (hP.graph_some hg).2
  intro row hrow
  obtain ⟨i, hi, rfl⟩ := List.mem_iff_getElem.1 hrow
  have hi' : i < s.logical.length := hrows.length_eq ▸ hi
  obtain ⟨hown, hn⟩ := hrows.get hi hi'
  exact ⟨hown ▸ mem_current hP.ids (List.getElem_mem hi'), fun q hq => mem_current hP.ids (hn q hq)⟩

/-- **The search structures are current**: a compiled search closure exists iff `_vertex_order`
exists, and it was built over exactly the rows `_raw_data` holds now (so a query searches the current
logical dataset, in the current vertex order; answers are translated back by the same order). -/
theorem search_structures_current (s : St) (h : Inv s = true) :
    (∀ r, s.searchRows = some r → r = s.raw) ∧ s.searchRows.isSome = s.vo.isSome := by
  have hP := (inv_iff s).1 h
  refine ⟨fun r hr => (hP.search_some r hr).1, ?_⟩
  cases hs : s.searchRows with
  | none => simp [hP.search_none hs]
  | some r => simp [(hP.search_some r hs).2]

/-- **A compressed index has no neighbour graph and vice versa** -/
theorem compressed_iff_no_graph (s : St) (h : Inv s = true) : s.compressed = true ↔ s.graph = none := by
  have hG := ((inv_iff s).1 h).graph
  cases hg : s.graph with
  | none => rw [hg] at hG; exact iff_of_true hG rfl
  | some g => rw [hg] at hG; simp [hG.1]

/-! ### the logical dataset is the one the property text prescribes -/

example (nFresh : Nat) (replaced : List Nat) (pts : List Pt) :
    specUpdate nFresh replaced pts =
      pts.mapIdx (fun i p => if i ∈ replaced then ⟨p.id, p.ver + 1⟩ else p) ++
      (List.range nFresh).map (fun j => ⟨pts.length + j, 0⟩) := rfl
example (ops : List Op) (pts : List Pt) : spec ops pts = specGo false ops pts := rfl
example (c : Bool) (pts : List Pt) : specGo c [] pts = pts := rfl
example (c : Bool) (vo : List Nat) (ops : List Op) (pts : List Pt) :
    specGo c (.compress vo :: ops) pts = specGo true ops pts := rfl
example (c : Bool) (k : Nat) (r : List Nat) (f : List (List Nat)) (vo : List Nat) (ops : List Op) (pts : List Pt) :
    specGo c (.update k r f vo :: ops) pts =
      if c = true ∨ ∃ i ∈ r, pts.length ≤ i then specGo c ops pts
      else specGo c ops (specUpdate k r pts) := rfl
example (c : Bool) (vo : List Nat) (ops : List Op) (pts : List Pt) :
    specGo c (.prepare vo :: ops) pts = specGo c ops pts := rfl
example (c : Bool) (ops : List Op) (pts : List Pt) : specGo c (.query :: ops) pts = specGo c ops pts := rfl
example (c : Bool) (vo : List Nat) (ops : List Op) (pts : List Pt) :
    specGo c (.pickle vo :: ops) pts = specGo c ops pts := rfl

/-- **The logical dataset after a history** is the original rows with replacements applied in place
(each replacement bumps the version of that row and nothing else), followed by the appended rows in
the order they were added; updates that fail (compressed index, row number out of range) change
nothing; no other operation changes it.  `spec` is defined by recursion on the history alone. -/
theorem logical_dataset_spec (n : Nat) (found : List (List Nat)) (ops : List Op)
    (hops : OpsOk (build n found) ops) :
    (run (build n found) ops).1.logical = spec ops ((List.range n).map (fun i => (⟨i, 0⟩ : Pt))) :=
  run_logical (build_invP n found) hops

/-- the same from any state satisfying the invariant -/
theorem logical_dataset_spec_from (s : St) (ops : List Op) (h : Inv s = true) (hops : OpsOk s ops) :
    (run s ops).1.logical = specGo s.graph.isNone ops s.logical :=
  run_logical ((inv_iff s).1 h) hops

/-- **A successful `update`, written out**: it succeeds whenever the graph exists and the replaced
row numbers are in range; the logical dataset becomes `specUpdate`; `_raw_data` is that dataset in
caller order if the index was never prepared, and in the *new* vertex order if it was (the index is
re-prepared); the graph is kept. -/
theorem update_result (s : St) (h : Inv s = true) (g : List GRow) (hg : s.graph = some g)
    (nFresh : Nat) (replaced : List Nat) (hr : ∀ i ∈ replaced, i < s.logical.length)
    (found : List (List Nat)) (vo : List Nat) :
    let s' := (step s (.update nFresh replaced found vo)).1
    (step s (.update nFresh replaced found vo)).2 = .ok ∧
    s'.logical = specUpdate nFresh replaced s.logical ∧
    s'.raw = (if s.searchRows.isSome then permute s'.logical vo else s'.logical) ∧
    s'.vo = (if s.searchRows.isSome then some vo else none) ∧
    s'.graph.isSome = true ∧ s'.searchRows.isSome = s.searchRows.isSome := by
  have hP := (inv_iff s).1 h
  rw [step_update_ok hg nFresh (any_ge_false_iff.2 hr) found vo, updState_eq hP, specUpdate_eq]
  cases hs : s.searchRows with
  | none => simp [hP.search_none hs]
  | some sr => simp [doPrepare_of_none, (hP.graph_some hg).1]

/-! ## 5. a compressed index refuses `update` before touching anything -/

/-- **Refused before anything is touched**: without a neighbour graph (`compress_index` was called)
`update` raises `ValueError` and the state is *identical* — in particular `_raw_data` keeps the
vertex order the search structures were built for.  (The code before the repair restored caller
order, wrote replacements and appended rows, and only then failed on the missing graph.) -/
theorem update_refused_leaves_state (s : St) (hg : s.graph = none) (nFresh : Nat)
    (replaced : List Nat) (found : List (List Nat)) (vo : List Nat) :
    step s (.update nFresh replaced found vo) = (s, .err "ValueError:compressed") :=
  step_update_none hg nFresh replaced found vo

/-- the pre-repair behaviour: `_raw_data` is restored to caller order, replacements written, rows
appended, *then* the missing `_neighbor_graph` raises -/
def stepBuggy (s : St) : Op → St × Out
  | .update nFresh replaced found vo =>
    match s.graph with
    | none =>
      let restored := match s.vo with
        | some v => permute s.raw (argsort v)
        | none => s.raw
      let fresh := (List.range nFresh).map (fun i => (⟨restored.length + i, 0⟩ : Pt))
      ({ s with raw := bump replaced restored ++ fresh }, .err "AttributeError")
    | some _ => step s (.update nFresh replaced found vo)
  | op => step s op

/-- with the pre-repair `update`, `[compress, update]` leaves `_raw_data` in caller order (plus a
row nobody accepted) under search structures built for the vertex order: `Inv` is false -/
example :
    let s1 := (stepBuggy (build 3 []) (.compress [2, 0, 1])).1
    let s2 := (stepBuggy s1 (.update 1 [] [] [])).1
    Inv s1 = true ∧ s1.raw = [⟨2, 0⟩, ⟨0, 0⟩, ⟨1, 0⟩] ∧
    Inv s2 = false ∧ s2.raw = [⟨0, 0⟩, ⟨1, 0⟩, ⟨2, 0⟩, ⟨3, 0⟩] ∧ s2.logical = s1.logical ∧
    (step s1 (.update 1 [] [] [])).1 = s1 := by
  decide +kernel

/-- **A bad row number is refused before anything is touched**: if some replaced row number is not
a row of the current data, `update` raises `ValueError` and the state is *identical* (no reordering of
`_raw_data`, none of the other replacements written, nothing appended). -/
theorem update_bad_index_leaves_state (s : St) (g : List GRow) (hg : s.graph = some g) (nFresh : Nat)
    (replaced : List Nat) (i : Nat) (hi : i ∈ replaced) (hbad : s.logical.length ≤ i)
    (found : List (List Nat)) (vo : List Nat) :
    step s (.update nFresh replaced found vo) = (s, .err "ValueError:index-range") :=
  step_update_oor hg nFresh (List.any_eq_true.2 ⟨i, hi, decide_eq_true hbad⟩) found vo

/-- … and these are the only two ways an `update` fails: with a graph and all replaced row numbers in
range the outcome is `ok` (`update_result`). -/
theorem update_fails_iff (s : St) (h : Inv s = true) (nFresh : Nat) (replaced : List Nat)
    (found : List (List Nat)) (vo : List Nat) :
    (step s (.update nFresh replaced found vo)).2 ≠ .ok ↔
      (s.graph = none ∨ ∃ i ∈ replaced, s.logical.length ≤ i) := by
  rw [Ne, step_update_out, not_and_or, not_not]
  simp only [not_forall, Nat.not_lt, exists_prop]

/-- the pre-repair behaviour for a replaced row number out of range: `_raw_data` has been put in
caller order and the replacements *before* the offending one written when numpy raises `IndexError`;
`_vertex_order` and the search structures stay -/
def stepPreRepair (s : St) : Op → St × Out
  | .update nFresh replaced found vo =>
    match s.graph with
    | none => step s (.update nFresh replaced found vo)
    | some _ =>
      if replaced.any (fun i => i ≥ s.logical.length) then
        let restored := match s.vo with
          | some v => permute s.raw (argsort v)
          | none => s.raw
        let written := replaced.takeWhile (fun i => i < s.logical.length)
        ({ s with raw := bump written restored }, .err "IndexError")
      else step s (.update nFresh replaced found vo)
  | op => step s op

/-- `[prepare, update replacing rows 0 and 7 of 3]`: now the state is unchanged; before the repair
`_raw_data` ended in caller order with row 0 already replaced while the caller's update had failed —
`Inv` is false, and the next successful `update` applied `argsort(_vertex_order)` to rows that were no
longer in vertex order (reproduced on the real code: 60 untruthful graph entries on a 40-point index). -/
example :
    let s1 := (step (build 3 []) (.prepare [2, 0, 1])).1
    let s2 := (stepPreRepair s1 (.update 0 [0, 7] [] [2, 0, 1])).1
    Inv s1 = true ∧ s1.raw = [⟨2, 0⟩, ⟨0, 0⟩, ⟨1, 0⟩] ∧
    step s1 (.update 0 [0, 7] [] [2, 0, 1]) = (s1, .err "ValueError:index-range") ∧
    Inv s2 = false ∧ s2.raw = [⟨0, 1⟩, ⟨1, 0⟩, ⟨2, 0⟩] ∧ s2.logical = s1.logical := by
  decide +kernel

/-! ## 6. caller order is restored iff `_vertex_order` exists -/

/-- **The data-preparation step of `update` yields the logical dataset in caller order**, always:
`updRestored s` is the model's `self._raw_data[original_order]`, i.e. `raw[argsort vo]` when
`_vertex_order` exists and `raw` itself (the all-true mask) when it does not. -/
theorem update_restores_caller_order (s : St) (h : Inv s = true) :
    updRestored s = s.logical ∧
    (∀ v, s.vo = some v → updRestored s = permute s.raw (argsort v)) ∧
    (s.vo = none → updRestored s = s.raw) :=
  ⟨updRestored_eq ((inv_iff s).1 h), fun v hv => by rw [updRestored, hv], fun hv => by rw [updRestored, hv]⟩

/-- **Never prepared: nothing to restore** — without `_vertex_order` the stored rows already are in
caller order, and `update` leaves their order alone. -/
theorem update_without_vo_keeps_order (s : St) (h : Inv s = true) (hv : s.vo = none) :
    s.raw = s.logical ∧ updRestored s = s.raw :=
  ⟨((inv_iff s).1 h).raw_none hv, by rw [updRestored, hv]⟩

/-- **Prepared: restoring is necessary unless the vertex order is the identity** — with
`_vertex_order = v` the stored rows are in caller order iff `v = [0, 1, …, n-1]`; for every other
order, skipping the `argsort` step would write replacements into the wrong rows. -/
theorem stored_order_is_caller_order_iff (s : St) (h : Inv s = true) (v : List Nat) (hv : s.vo = some v) :
    s.raw = s.logical ↔ v = List.range s.logical.length := by
  have hP := (inv_iff s).1 h
  obtain ⟨hp, hr⟩ := hP.raw_some v hv
  rw [hr]
  exact permute_eq_self_iff hP.ids hp

/-- the `update` of the model is built from `updRestored` (pins the name used above to `step`) -/
example (s : St) (g : List GRow) (hg : s.graph = some g) (nFresh : Nat) (replaced : List Nat)
    (hr : replaced.any (fun i => i ≥ s.logical.length) = false) (found : List (List Nat)) (vo : List Nat) :
    step s (.update nFresh replaced found vo) =
      match s.searchRows with
      | some _ => (doPrepare { updState s g nFresh replaced found with searchRows := none } vo, .ok)
      | none => (updState s g nFresh replaced found, .ok) :=
  step_update_ok hg nFresh hr found vo
example (s : St) (g : List GRow) (k : Nat) (r : List Nat) (f : List (List Nat)) :
    (updState s g k r f).raw = bump r (updRestored s) ++ updFresh (updRestored s).length k := rfl

/-! ## 7. non-vacuity: a concrete history -/

/-- the stored rows and the outcome after each operation of a history -/
def trace (s : St) : List Op → List (List Pt × Bool)
  | [] => []
  | op :: ops => let r := step s op; (r.1.raw, r.2 == .ok) :: trace r.1 ops

/-- 3 rows; neighbours found at build time -/
def s0 : St := build 3 [[1, 2], [0], [1, 0]]

/-- prepare with a non-identity order; replace row 0 and append one row (the re-prepare yields another
order; NN-descent re-finds row 0 for rows 1 and 3); pickle; compress; an update that is refused;
a second pickle -/
def hist : List Op :=
  [.prepare [2, 0, 1],
   .update 1 [0] [[1], [0], [], [0, 2]] [3, 1, 0, 2],
   .pickle [],
   .query,
   .compress [],
   .update 1 [1] [] [0, 1, 2, 3, 4],
   .pickle [9, 9]]

/-- the oracles of `hist` are OK (the orders of the no-op prepares are never consulted, so `[]`,
`[9, 9]` and the 5-element order of the refused update are fine) -/
example : OpsOk s0 hist := by decide +kernel

/-- `_raw_data` after each step: vertex order `[2,0,1]`; caller order restored, row 0 replaced
(`0.1`), row 3 appended, new vertex order `[3,1,0,2]`; unchanged by pickle, query, compress, by the
refused update (outcome `false`) and by the last pickle -/
example : trace s0 hist =
    [([⟨2, 0⟩, ⟨0, 0⟩, ⟨1, 0⟩], true),
     ([⟨3, 0⟩, ⟨1, 0⟩, ⟨0, 1⟩, ⟨2, 0⟩], true),
     ([⟨3, 0⟩, ⟨1, 0⟩, ⟨0, 1⟩, ⟨2, 0⟩], true),
     ([⟨3, 0⟩, ⟨1, 0⟩, ⟨0, 1⟩, ⟨2, 0⟩], true),
     ([⟨3, 0⟩, ⟨1, 0⟩, ⟨0, 1⟩, ⟨2, 0⟩], true),
     ([⟨3, 0⟩, ⟨1, 0⟩, ⟨0, 1⟩, ⟨2, 0⟩], false),
     ([⟨3, 0⟩, ⟨1, 0⟩, ⟨0, 1⟩, ⟨2, 0⟩], true)] := by decide +kernel

/-- the graph after the update (before `compress` deletes it): row 0 was reset and is owned by the
replacement `0.1`; the stale references `0.0` in rows 1 and 2 are gone; what NN-descent re-found is
tagged with the current versions; row 3 is the appended point -/
example : (run s0 (hist.take 2)).1.graph =
    some [⟨⟨0, 1⟩, [⟨1, 0⟩]⟩, ⟨⟨1, 0⟩, [⟨0, 1⟩]⟩, ⟨⟨2, 0⟩, [⟨1, 0⟩]⟩, ⟨⟨3, 0⟩, [⟨0, 1⟩, ⟨2, 0⟩]⟩] := by
  decide +kernel

/-- final state: logical dataset as specified, invariant true, compressed, no graph, outcomes -/
example :
    (run s0 hist).1.logical = [⟨0, 1⟩, ⟨1, 0⟩, ⟨2, 0⟩, ⟨3, 0⟩] ∧
    spec hist s0.logical = [⟨0, 1⟩, ⟨1, 0⟩, ⟨2, 0⟩, ⟨3, 0⟩] ∧
    Inv (run s0 hist).1 = true ∧ (run s0 hist).1.graph = none ∧ (run s0 hist).1.compressed = true ∧
    (run s0 hist).1.vo = some [3, 1, 0, 2] ∧
    (run s0 hist).2 = [.ok, .ok, .ok, .ok, .ok, .err "ValueError:compressed", .ok] := by
  decide +kernel

/-- the hypothesis of `step_inv` is needed: an order that is not a permutation (here a row number
repeated, so a row is duplicated and another lost) breaks the invariant -/
example : Inv (step s0 (.prepare [0, 0, 1])).1 = false ∧ ¬ OpOk s0 (.prepare [0, 0, 1]) := by
  decide +kernel

/-! ### the first version of `Inv` was not inductive -/

/-- `Inv` as first written (no `id = row number`, no "closure iff vertex order", no
"compressed ⇒ no graph") -/
def origInv (s : St) : Bool :=
  (match s.vo with
   | some v => isPerm v s.logical.length && s.raw == permute s.logical v
   | none => s.raw == s.logical) &&
  (match s.graph with
   | some g => g.length == s.logical.length &&
       (g.zip s.logical).all (fun (row, p) => row.owner == p && row.nbrs.all (fun q => s.logical.contains q))
   | none => s.compressed) &&
  (match s.searchRows with
   | some r => r == s.raw
   | none => true)

/-- every state satisfying `Inv` satisfies the first version -/
theorem inv_implies_origInv (s : St) (h : Inv s = true) : origInv s = true := by
  simp only [Idx.Inv, Bool.and_eq_true] at h
  obtain ⟨⟨⟨_, h2⟩, h3⟩, h4⟩ := h
  simp only [origInv, Bool.and_eq_true]
  refine ⟨⟨h2, ?_⟩, ?_⟩
  · cases hg : s.graph with
    | none => simpa [hg] using h3
    | some g =>
      simp only [hg, Bool.and_eq_true] at h3 ⊢
      exact ⟨h3.1.2, h3.2⟩
  · cases hs : s.searchRows with
    | none => rfl
    | some r => simp only [hs, Bool.and_eq_true] at h4 ⊢; exact h4.1

/-- identities that are not row numbers (unreachable): `update` filters references by `q.id`, keeps
the reference to the replaced row, and the first version is violated after one step -/
example :
    let s : St := { logical := [⟨1, 0⟩, ⟨0, 0⟩], raw := [⟨1, 0⟩, ⟨0, 0⟩], vo := none,
                    graph := some [⟨⟨1, 0⟩, [⟨0, 0⟩]⟩, ⟨⟨0, 0⟩, []⟩], searchRows := none, compressed := false }
    origInv s = true ∧ OpOk s (.update 0 [1] [] []) ∧ origInv (step s (.update 0 [1] [] [])).1 = false ∧
    Inv s = false := by
  decide +kernel

/-- a vertex order without search structures (unreachable): `prepare` permutes the already permuted
rows again, and the first version is violated after one step -/
example :
    let s : St := { logical := [⟨0, 0⟩, ⟨1, 0⟩, ⟨2, 0⟩], raw := [⟨1, 0⟩, ⟨2, 0⟩, ⟨0, 0⟩], vo := some [1, 2, 0],
                    graph := some [⟨⟨0, 0⟩, []⟩, ⟨⟨1, 0⟩, []⟩, ⟨⟨2, 0⟩, []⟩], searchRows := none,
                    compressed := false }
    origInv s = true ∧ OpOk s (.prepare [1, 2, 0]) ∧ origInv (step s (.prepare [1, 2, 0])).1 = false ∧
    Inv s = false := by
  decide +kernel

end Pynn.C04
