import PynnVerif.Proofs.Par
import PynnVerif.Model.Footprint
import PynnVerif.Gen.Prange

/-!
# C05 — seeded runs are bit-reproducible under every thread schedule

Two layers.  (1) `schedule_independent` (proved once, for every state, every
number of iterations and every interleaving): a `prange` loop whose iterations
only touch rows they own yields, under *any* schedule, the state of the
sequential loop.  (2) `all_index_loops_noninterfering`: a `decide` over
`Gen.prangeLoops`, the per-iteration memory footprints that
`translate_prange.py` regenerates from /repo on every run — every write, every
mutator call, every reduction and every read of a co-written array in every
`prange` loop used by build / prepare / query / update falls in an owned class.
What ties the two layers (that an effect classified `loopVar`, `guardedMod`,
`csrSeg`, `privateAlloc` really is an operation on a row no other iteration
touches, and that `intReduction` is exact and commutative) is the translator's
contract.  The ownership part of that contract is validated on every run on the
running code by `harness/footprint_trace.py` (interpreter-mode recorder: every
element read / written by every iteration of every `prange` loop it reaches,
`W(i) ∩ W(j) = ∅` and `W(i) ∩ R(j) = ∅` for `i ≠ j`); the reduction part and the
loops / inputs the recorder does not reach stay in the trusted base.
-/
namespace Pynn.C05
open Pynn.Par Pynn.FP

/-- Every schedule of a non-interfering loop equals the sequential run. -/
theorem schedule_independent {R : Type} (owner : Nat → Nat) (its : List (List (Op R)))
    (hown : Owned owner its) (s : Array R) (m : List (Op R)) (hm : IsMerge its m) :
    run s m = run s its.flatten := Par.schedule_independent owner its hown s m hm

/-- Any two schedules agree (so repeating a run cannot change the result). -/
theorem schedules_agree {R : Type} (owner : Nat → Nat) (its : List (List (Op R)))
    (hown : Owned owner its) (s : Array R) (m1 m2 : List (Op R))
    (h1 : IsMerge its m1) (h2 : IsMerge its m2) : run s m1 = run s m2 :=
  Par.schedules_agree owner its hown s m1 m2 h1 h2

/-- Obligation over today's source: every `prange` loop of the index code paths is
non-interfering (no shared write, no shared generator state, no order-dependent
reduction, no read of a row another iteration writes). -/
theorem all_index_loops_noninterfering :
    ∀ l ∈ Gen.prangeLoops, l.scope = "index" → l.nonInterfering = true := by decide +kernel

/-- The loops named by the property's quantifier are present in the generated table
(so the obligation above is not vacuous for them). -/
theorem quantified_loops_present :
    ∀ n ∈ ["utils.new_build_candidates#0", "utils.new_build_candidates#1",
           "utils.apply_graph_updates_low_memory#0", "utils.deheap_sort#0",
           "pynndescent_.generate_leaf_updates#0", "pynndescent_.generate_graph_updates#0",
           "sparse_nndescent.generate_leaf_updates#0", "sparse_nndescent.generate_graph_updates#0",
           "pynndescent_.diversify#0", "pynndescent_.diversify_csr#0",
           "sparse.diversify#0", "sparse.diversify_csr#0",
           "pynndescent_.degree_prune_internal#0",
           "pynndescent_._init_search_function.search_closure#0",
           "pynndescent_._init_sparse_search_function.search_closure#0"],
      ∃ l ∈ Gen.prangeLoops, l.name = n ∧ l.scope = "index" ∧ l.effects ≠ [] := by decide +kernel

/-- Non-vacuity of the check: the pre-repair footprint of `diversify` (a `tau_rand` on the
index-wide generator state inside the loop) is rejected. -/
example : ({ name := "diversify (pinned)", scope := "index",
             effects := [⟨.write, "rng_state <- tau_rand()", .shared⟩,
                         ⟨.write, "indices[i, j] <- store", .loopVar⟩] } : Loop).nonInterfering = false := by
  decide

end Pynn.C05
