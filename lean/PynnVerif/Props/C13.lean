import PynnVerif.Proofs.DescentInv
import PynnVerif.Proofs.GenInit
import Mathlib.Order.Fin.Basic  -- `LinearOrder (Fin 10)` for the concrete examples at the end

/-!
# C13 — neighbour lists only improve

Everything the modelled `nn_descent` (and `init_rp_tree`, `init_random`) does to a row of the
graph heap is a heap push or a flag change.  A push replaces the root by a strictly closer
entry or does nothing; hence, **for every threshold `t`, the number of entries of a row
within `t` never decreases**.  No well-formedness of the heap, no truthfulness of the updates,
no symmetry of `dist` is needed for this chain: it holds for *arbitrary* graphs and update
lists.  `countLe row t = #{e ∈ row | e.prio ≤ t}` (`Proofs/GraphInv.lean`);
`RankLe g g'` (`Proofs/DescentInv.lean`) says: same number of rows, row sizes equal, and
`countLe g[r] t ≤ countLe g'[r] t` for every row `r` and threshold `t`.
-/
namespace Pynn.C13
open Pynn
variable {P : Type} [LinearOrder P]
variable {C : Type} [LE C] [LT C] [DecidableLE C] [DecidableLT C]

/-- **One push never makes a row worse** (`simple_heap_push`, `checked_heap_push`,
`checked_flagged_heap_push`; accepted or rejected; any row, heap or not): for every threshold
`t` the number of entries within `t` does not decrease.

Equivalence with order statistics: write `a₍₀₎ ≤ a₍₁₎ ≤ …` for the sorted priorities of a row.
`a₍ⱼ₎ ≤ t ↔ countLe a t > j`, so "`countLe a t ≤ countLe b t` for all `t`" is the same as
"`b₍ⱼ₎ ≤ a₍ⱼ₎` for all `j`" (take `t = a₍ⱼ₎` for `→`; for `←` the first `countLe a t` sorted
entries of `b` are `≤ t`).  Both directions are proved for ascending rows below
(`rank_le_iff_count_le`). -/
theorem push_rank_le (c : Bool) (h : Row P) (p : P) (n : Int) (f : Bool) (t : P) :
    countLe h t ≤ countLe (push c h p n f).1 t :=
  push_count_le c h p n f t

/-- **Counts within thresholds = order statistics**: for two ascending rows of the same size,
`b` holds at least as many entries within every threshold as `a` iff the `j`-th smallest
priority of `b` is at most the `j`-th smallest of `a`, for every `j`. -/
theorem rank_le_iff_count_le (a b : Row P) (hsize : b.size = a.size)
    (ha : ∀ i j (hi : i < a.size) (hj : j < a.size), i ≤ j → a[i].prio ≤ a[j].prio)
    (hb : ∀ i j (hi : i < b.size) (hj : j < b.size), i ≤ j → b[i].prio ≤ b[j].prio) :
    (∀ t, countLe a t ≤ countLe b t) ↔
      (∀ j (hja : j < a.size) (hjb : j < b.size), b[j].prio ≤ a[j].prio) :=
  ⟨sorted_rank_le_of_countLe ha hb, countLe_le_of_sorted_rank_le hsize ha hb⟩

/-- **`pushInto` on a graph**: the pushed row keeps its size and no count decreases; every
other row is untouched; out-of-range row numbers do nothing. -/
theorem pushInto_rank_le (g : Graph P) (r : Nat) (d : P) (q : Int) (f : Bool) (t : P) :
    ∀ (r' : Nat) (row : Row P), g[r']? = some row →
      ∃ row', (pushInto g r d q f).1[r']? = some row' ∧ countLe row t ≤ countLe row' t := by
  intro r' row hr'
  obtain ⟨row', h1, _, h3⟩ := (pushInto_rankLe g r d q f).2 r' row hr'
  exact ⟨row', h1, h3 t⟩

/-- **NN-descent never makes a supplied row worse.**  For *every* supplied initial heap `g0`
(no well-formedness assumed: duplicates, wrong distances, broken heap order are all allowed),
every configuration (iterations, `max_candidates`, threads, low/high memory, block size), stop
test, generator state, draw function and `dist` (symmetric or not): the output has the shape
of `g0`, and every row holds, for every threshold `t`, at least as many entries within `t` as
the supplied row did.  This includes the final `deheap_sort` (a permutation of each row). -/
theorem descent_rank_le (top : P) (ctop : C) (draw : RngState → C × RngState)
    (dist : Nat → Nat → P) (n : Nat) (cfg : Cfg) (stop : Nat → Bool) (rng : RngState)
    (g0 : Graph P) (rp : Bool) (leafArray : List (List Int)) :
    let out := (nnDescent top ctop draw dist n cfg stop rng (some g0) rp leafArray).1
    out.size = g0.size ∧ ∀ p (h0 : p < g0.size) (h1 : p < out.size),
      out[p].size = g0[p].size ∧ ∀ t, countLe g0[p] t ≤ countLe out[p] t := by
  intro out
  have h : RankLe g0 out := nnDescent_rankLe top ctop draw dist n cfg stop rng g0 rp leafArray
  exact ⟨h.1, fun p h0 h1 => ⟨(h.getElem p h0 h1 top).1, fun t => (h.getElem p h0 h1 t).2⟩⟩

/-- **Rank-wise form** (what the API-level oracle compares): if the supplied rows are
max-heaps (as `make_heap` + pushes always are), every output row is ascending and its `j`-th
entry is at most the `j`-th smallest priority of the supplied row (`deheapSort g0[p]` is the
supplied row sorted). -/
theorem descent_rank_le_sorted (top : P) (ctop : C) (draw : RngState → C × RngState)
    (dist : Nat → Nat → P) (n : Nat) (cfg : Cfg) (stop : Nat → Bool) (rng : RngState)
    (g0 : Graph P) (hheap : ∀ p (hp : p < g0.size), IsHeap g0[p]) (rp : Bool)
    (leafArray : List (List Int)) :
    let out := (nnDescent top ctop draw dist n cfg stop rng (some g0) rp leafArray).1
    ∀ p (h0 : p < g0.size) (h1 : p < out.size) j (hj : j < out[p].size)
      (hj0 : j < (deheapSort g0[p]).size), out[p][j].prio ≤ (deheapSort g0[p])[j].prio := by
  intro out p h0 h1 j hj hj0
  refine sorted_rank_le_of_countLe (deheapSort_sorted g0[p] (hheap p h0))
    (nnDescent_sorted top ctop draw dist n cfg stop rng g0 (fun r row hr => ?_) rp leafArray p out[p]
      (Array.getElem?_eq_getElem h1)) (fun t => ?_) j hj0 hj
  · obtain ⟨hlt, rfl⟩ := Array.getElem?_eq_some_iff.mp hr
    exact hheap r hlt
  · rw [countLe_perm (deheapSort_perm g0[p])]
    exact ((nnDescent_rankLe top ctop draw dist n cfg stop rng g0 rp leafArray).getElem p h0 h1 t).2

/-- **One more iteration never makes any row worse** (loop body =
`new_build_candidates`, flag clearing, local join over all blocks; any graph, any `in_graph`
record). -/
theorem iteration_rank_le (top : P) (ctop : C) (draw : RngState → C × RngState)
    (dist : Nat → Nat → P) (cfg : Cfg) (rng : RngState) (g : Graph P) (s : InGraph) :
    RankLe g (descentIter top ctop draw dist cfg rng g s).1.1 :=
  descentIter_rankLe top ctop draw dist cfg rng g s

/-- **The loop is prefix-closed and monotone in `n_iters`**: with the same seed, the state
after `it + 1` allowed iterations is the state after `it` — when the stop test fired — or
exactly one more loop body applied to it; in both cases it is rank-wise at least as good.
(`new_build_candidates` receives the *same* generator state in every iteration — `rng_state + n`
builds a fresh array, the index-wide state is never advanced inside `nn_descent` — which is
what makes runs with different `n_iters` comparable.) -/
theorem more_iterations_rank_le (top : P) (ctop : C) (draw : RngState → C × RngState)
    (dist : Nat → Nat → P) (cfg : Cfg) (stop : Nat → Bool) (rng : RngState) (it : Nat)
    (g : Graph P) (s : InGraph) :
    (descentLoop top ctop draw dist cfg stop rng (it + 1) g s =
          descentLoop top ctop draw dist cfg stop rng it g s ∨
      ∃ s', descentLoop top ctop draw dist cfg stop rng (it + 1) g s =
          (descentIter top ctop draw dist cfg rng
            (descentLoop top ctop draw dist cfg stop rng it g s) s').1.1) ∧
    RankLe (descentLoop top ctop draw dist cfg stop rng it g s)
      (descentLoop top ctop draw dist cfg stop rng (it + 1) g s) :=
  ⟨descentLoop_succ_cases top ctop draw dist cfg stop rng it g s,
   descentLoop_succ_rankLe top ctop draw dist cfg stop rng it g s⟩

/-- **`n_iters = t + 1` is rank-wise at least as good as `n_iters = t`** for the whole
`nn_descent` (same seed, same initialisation — tree, random or supplied —, sorted outputs). -/
theorem niters_rank_le (top : P) (ctop : C) (draw : RngState → C × RngState)
    (dist : Nat → Nat → P) (n : Nat) (cfg : Cfg) (stop : Nat → Bool) (rng : RngState)
    (init : Option (Graph P)) (rp : Bool) (leafArray : List (List Int)) :
    RankLe (nnDescent top ctop draw dist n cfg stop rng init rp leafArray).1
      (nnDescent top ctop draw dist n { cfg with nIters := cfg.nIters + 1 } stop rng init rp
        leafArray).1 := by
  rw [nnDescent_eq, nnDescent_eq, descentLoop_cfg_nIters top ctop draw dist cfg (cfg.nIters + 1)]
  -- the two records differ in `nIters` only, which neither `startGraph` nor the `in_graph` record reads: both runs
  -- enter the loop in the same state
  exact (descentLoop_succ_rankLe top ctop draw dist cfg stop _ cfg.nIters _ _).map_deheapSort

/-- **Initialisation never makes a row worse either**: `init_rp_tree` and `init_random` on any
heap (used with the empty heap, where every count within `t < top` starts at 0). -/
theorem init_rank_le (top : P) (dist : Nat → Nat → P) (k n : Nat) (g : Graph P)
    (leafArray : List (List Int)) (blockSize : Nat) (rng : RngState) :
    RankLe g (initRpTree top dist g leafArray blockSize) ∧
    RankLe g (initRandom k n dist g rng).1 :=
  ⟨initRpTree_lift (rankLe_pushClosed g) top dist g leafArray blockSize
      (fun _ _ _ u _ => updOk_true u) (RankLe.refl g),
    initRandom_lift (rankLe_pushClosed g) k n dist g rng (fun _ _ _ _ => trivial) (RankLe.refl g)⟩

/-- **Re-insertion reproduces a well-formed row.**  Push the entries of a duplicate-free
well-formed row (real entries `0 ≤ idx` with `prio < top`, sentinels `(-1, top)`) — in the
order they are stored, sorted or not — into an empty heap of the same size with
`checked_flagged_heap_push(…, flag)` as `init_from_neighbor_graph` does: the result holds the
same multiset of `(index, distance)` pairs.  Sentinels are rejected because `top ≥ top`; every
real entry is accepted because the heap still has a `top` root while fewer than `k` real
entries are in, and the scan finds no duplicate.  (Sortedness is not needed; the flags of the
result are all `flag`.) -/
theorem reinsert_eq (top : P) (htop : ∀ x : P, x ≤ top) (flag : Bool) (row : Row P)
    (hnodup : ((row.toList.filter (fun e => 0 ≤ e.idx)).map (·.idx)).Nodup)
    (hwf : ∀ e ∈ row, (e.idx = -1 ∧ e.prio = top) ∨ (0 ≤ e.idx ∧ e.prio < top)) :
    ((row.toList.foldl (fun h e => (pushFlagged h e.prio e.idx flag).1)
        (mkRow top row.size)).toList.map (fun e => (e.idx, e.prio))).Perm
      (row.toList.map (fun e => (e.idx, e.prio))) := by
  have h := (reinsert_fold htop row.size flag row.toList [] _ (reInv_mkRow top row.size)
    (Nat.le_of_eq Array.length_toList) hnodup fun e he => hwf e (Array.mem_toList_iff.mp he)).keys
  rwa [List.nil_append, Array.length_toList, Nat.sub_self, List.replicate_zero, List.append_nil] at h

/-- **`update()` starts from the old lists**: `init_from_neighbor_graph` on an empty heap with
`n'` rows, given the index and distance arrays of an old graph whose rows are well-formed
(C01), returns every old row as the same multiset of `(index, distance)` pairs and leaves the
appended rows `old.size ≤ r < n'` empty. -/
theorem update_reinsert (top : P) (htop : ∀ x : P, x ≤ top) (old : Graph P) (n' k : Nat)
    (hold : ∀ (r : Nat) (row : Row P), old[r]? = some row → row.size = k ∧
      ((row.toList.filter (fun e => 0 ≤ e.idx)).map (·.idx)).Nodup ∧
      (∀ e ∈ row, (e.idx = -1 ∧ e.prio = top) ∨ (0 ≤ e.idx ∧ e.prio < top))) :
    ∀ r, r < n' → ∃ row',
      (initFromNeighborGraph (mkGraph top n' k) (idxRows old) (prioRows old))[r]? = some row' ∧
      match old[r]? with
      | some row => (row'.toList.map (fun e => (e.idx, e.prio))).Perm
                      (row.toList.map (fun e => (e.idx, e.prio)))
      | none => row' = mkRow top k := by
  intro r hr
  rw [initFromNeighborGraph_getElem?, mkGraph_getElem?, if_pos hr, idxRows, prioRows, List.zip_map',
    List.getElem?_map, Array.getElem?_toList]
  cases hrow : old[r]? with
  | none => exact ⟨_, rfl, rfl⟩
  | some row =>
    refine ⟨_, rfl, ?_⟩
    obtain ⟨hsz, hnd, hwf⟩ := hold r row hrow
    simp only [Option.map_some]
    rw [List.zip_map', List.foldl_map, ← hsz]
    exact reinsert_eq top htop false row hnd hwf

/-! ## The generated `init_from_neighbor_graph`

`Gen/Kernels.lean` (regenerated from `pynndescent_.py` on every run by `harness/translate_kernels.py`) contains
the translation of `init_from_neighbor_graph`: two nested loops over `indices` / `distances`, every entry pushed
with flag `0` — without looking at the index — into row `p` of the heap by the translated
`checked_flagged_heap_push`, with write-back. -/

/-- **`pynndescent_.init_from_neighbor_graph` is the model's `initFromNeighborGraph`.**  For a rectangular heap
(`n` rows of `k ≥ 1` slots in the three arrays), `m ≤ n` rows of `w` entries in `indices` and `distances`, and
`fuel ≥ m + w + k + 2`, the translated kernel never leaves an array, keeps the heap's shape, and the arrays it
returns are, row for row, the model's graph.  No order axioms (`Q`: any type with decidable `≤`, `<`). -/
theorem kernel_init_from_neighbor_graph_refines {Q : Type} [LE Q] [LT Q] [DecidableLE Q] [DecidableLT Q]
    (k : Nat) (hk : 0 < k) (I : Array (Array Int)) (D : Array (Array Q)) (F : Array (Array Int))
    (indices : Array (Array Int)) (distances : Array (Array Q)) (w : Nat)
    (hI : I.size = D.size) (hF : F.size = D.size)
    (hrect : ∀ r (h : r < D.size), D[r].size = k ∧ (I[r]'(by omega)).size = k ∧ (F[r]'(by omega)).size = k)
    (hsz : distances.size = indices.size) (hn : indices.size ≤ D.size)
    (hw : ∀ r (h : r < indices.size), indices[r].size = w ∧ (distances[r]'(by omega)).size = w)
    (fuel : Nat) (hf : indices.size + w + k + 2 ≤ fuel) :
    ∃ I' D' F', GenK.init_from_neighbor_graph fuel I D F indices distances = some (I', D', F') ∧
      D'.size = D.size ∧ I'.size = D.size ∧ F'.size = D.size ∧
      (∀ r (h : r < D'.size) (h' : r < I'.size) (h'' : r < F'.size),
        D'[r].size = k ∧ I'[r].size = k ∧ F'[r].size = k) ∧
      zipGraph D' I' F' = initFromNeighborGraph (zipGraph D I F) (indices.toList.map (·.toList))
        (distances.toList.map (·.toList)) := by
  obtain ⟨_, ⟨D', I', F', _, hR'⟩, e⟩ := nbr_loop0 D.size k hk indices distances w hsz hn hw fuel (D, I, F)
    (zipGraph D I F) (.mk _ _ _ _ (Rep.of_rect k D I F hI hF hrect))
    (by rw [← Nat.add_assoc]; exact Nat.lt_of_succ_lt (Nat.lt_of_succ_le hf))
  obtain ⟨a1, a2, a3, a4, a5⟩ := Rep.explicit hR'
  refine ⟨I', D', F', ?_, a1, a2, a3, fun r h h' h'' => ?_, a5⟩
  · simp only [GenK.init_from_neighbor_graph, Option.bind_eq_bind, e, Option.bind_some]
    rfl
  · obtain ⟨b1, b2, b3, _⟩ := a4 r h h' h''
    exact ⟨b1, b2, b3⟩

/-- **`update()` starts from the old lists — on the generated kernel.**  Run the translated
`init_from_neighbor_graph` on `make_heap(n', k)`'s arrays with the index and distance arrays of an old graph
whose rows are well-formed (C01): it stays in bounds, and the arrays it returns hold every old row as the same
multiset of `(index, distance)` pairs, the appended rows staying empty. -/
theorem kernel_update_reinsert (top : P) (htop : ∀ x : P, x ≤ top) (old : Graph P) (n' k : Nat) (hk : 0 < k)
    (hold : ∀ (r : Nat) (row : Row P), old[r]? = some row → row.size = k ∧
      ((row.toList.filter (fun e => 0 ≤ e.idx)).map (·.idx)).Nodup ∧
      (∀ e ∈ row, (e.idx = -1 ∧ e.prio = top) ∨ (0 ≤ e.idx ∧ e.prio < top)))
    (indices : Array (Array Int)) (distances : Array (Array P))
    (hIdx : indices.toList.map (·.toList) = idxRows old) (hPr : distances.toList.map (·.toList) = prioRows old)
    (hn : old.size ≤ n') (fuel : Nat) (hf : old.size + k + k + 2 ≤ fuel) :
    ∃ I' D' F', GenK.init_from_neighbor_graph fuel (Array.replicate n' (Array.replicate k (-1)))
        (Array.replicate n' (Array.replicate k top)) (Array.replicate n' (Array.replicate k 0)) indices distances
        = some (I', D', F') ∧
      ∀ r, r < n' → ∃ row', (zipGraph D' I' F')[r]? = some row' ∧
        match old[r]? with
        | some row => (row'.toList.map (fun e => (e.idx, e.prio))).Perm
                        (row.toList.map (fun e => (e.idx, e.prio)))
        | none => row' = mkRow top k := by
  obtain ⟨hm1, hs1⟩ := rows_shape hIdx
  obtain ⟨hm2, hs2⟩ := rows_shape hPr
  obtain ⟨I', D', F', h1, _, _, _, _, hz⟩ := kernel_init_from_neighbor_graph_refines k hk
    (Array.replicate n' (Array.replicate k (-1))) (Array.replicate n' (Array.replicate k top))
    (Array.replicate n' (Array.replicate k 0)) indices distances k
    (Array.size_replicate.trans Array.size_replicate.symm) (Array.size_replicate.trans Array.size_replicate.symm)
    (fun r h => by simp only [Array.getElem_replicate, Array.size_replicate, and_self])
    (hm2.trans hm1.symm) (by rw [hm1, Array.size_replicate]; exact hn)
    (fun r h =>
      have hr : r < old.size := hm1 ▸ h
      have hk' := (hold r old[r] (Array.getElem?_eq_getElem hr)).1
      ⟨(hs1 r h hr).trans hk', (hs2 r (hm2 ▸ hr) hr).trans hk'⟩)
    fuel (by rw [hm1]; exact hf)
  refine ⟨I', D', F', h1, ?_⟩
  rw [hz, zipGraph_replicate, hIdx, hPr]
  exact update_reinsert top htop old n' k hold

/-! ## non-vacuity -/

/-- the generated `init_from_neighbor_graph` executed by the Lean kernel: two rows of two slots re-seeded from a sorted
old graph (`Nat` priorities, `top = 100`); the `-1` sentinel of row 1 is offered too and rejected (`100 ≥ 100`);
a third row of `indices` for a two-row heap makes the kernel read outside the heap (`none`) -/
example : GenK.init_from_neighbor_graph 8 #[#[-1, -1], #[-1, -1]] #[#[(100 : Nat), 100], #[100, 100]] #[#[0, 0], #[0, 0]]
    #[#[1, 0], #[0, -1]] #[#[2, 5], #[3, 100]]
    = some (#[#[0, 1], #[-1, 0]], #[#[5, 2], #[100, 3]], #[#[0, 0], #[0, 0]]) := by decide +kernel
example : (GenK.init_from_neighbor_graph 8 #[#[-1], #[-1]] #[#[(100 : Nat)], #[100]] #[#[0], #[0]]
    #[#[1], #[0], #[0]] #[#[2], #[3], #[4]]).isSome = false := by decide +kernel


/-- `|p − q| mod 9` in `Fin 10`, `top = 9` -/
def dist5 : Nat → Nat → Fin 10 := fun p q =>
  if p ≤ q then ⟨(q - p) % 9, by omega⟩ else ⟨(p - q) % 9, by omega⟩

def drawNat : RngState → Nat × RngState := fun s => let r := tauRandInt s; (r.1.natAbs, r.2)

def cfg5 : Cfg := { k := 2, maxCand := 3, nIters := 1, nThreads := 2, lowMemory := true }

/-- a supplied heap that is *not* well-formed: row 0 stores distance 1 for point 4 (true: 4)
and 5 for point 3 (true: 3), row 2 stores distance 7 for its neighbour 4 (true: 2) -/
def bad : Graph (Fin 10) :=
  #[#[⟨5, 3, true⟩, ⟨1, 4, true⟩], #[⟨9, -1, false⟩, ⟨1, 2, true⟩], #[⟨7, 4, true⟩, ⟨1, 1, true⟩],
    #[⟨9, -1, false⟩, ⟨9, -1, false⟩], #[⟨2, 2, true⟩, ⟨1, 3, true⟩]]

/-- one iteration from `bad`: every row improves rank-wise; the too-small wrong entry of row 0,
`(4, 1)`, survives (it even keeps the true neighbour `(1, 1)` out: `1 ≥ 1` is rejected) — C13
promises "never worse", not "correct" (that is C01, which needs the invariant). -/
example : (nnDescent (9 : Fin 10) (10 ^ 12 : Nat) drawNat dist5 5 cfg5 (fun _ => false)
      (RngState.ofInts 1 2 3) (some bad) false []).1.toList.map
        (fun r => r.toList.map (fun e => (e.idx, e.prio)))
    = [[(0, 0), (4, 1)], [(1, 0), (2, 1)], [(2, 0), (1, 1)], [(3, 0), (4, 1)], [(4, 0), (3, 1)]] := by
  decide +kernel

/-- the counts within `t = 1` before and after that run: nowhere smaller, mostly larger -/
example :
    (bad.toList.map (fun r => countLe r (1 : Fin 10)),
     (nnDescent (9 : Fin 10) (10 ^ 12 : Nat) drawNat dist5 5 cfg5 (fun _ => false)
      (RngState.ofInts 1 2 3) (some bad) false []).1.toList.map (fun r => countLe r (1 : Fin 10)))
    = ([1, 1, 1, 0, 1], [2, 2, 2, 2, 2]) := by
  decide +kernel

/-- `reinsert_eq` on a sorted row with a sentinel: the heap layout differs, the pairs agree -/
example : ((#[⟨1, 4, true⟩, ⟨3, 0, false⟩, ⟨3, 7, true⟩, ⟨9, -1, false⟩] : Row (Fin 10)).toList.foldl
      (fun h e => (pushFlagged h e.prio e.idx false).1) (mkRow 9 4)).toList.map
        (fun e => (e.idx, e.prio))
    = [(-1, 9), (0, 3), (7, 3), (4, 1)] := by
  decide +kernel

/-- the hypothesis `prio < top` of `reinsert_eq` is needed: a real neighbour stored at distance
`top` (an `inf` distance) is rejected like a sentinel and is lost by the re-insertion -/
example : ((#[⟨1, 4, true⟩, ⟨9, 6, true⟩] : Row (Fin 10)).toList.foldl
      (fun h e => (pushFlagged h e.prio e.idx false).1) (mkRow 9 2)).toList.map
        (fun e => (e.idx, e.prio))
    = [(-1, 9), (4, 1)] := by
  decide +kernel

/-- `push_rank_le` is about *all* thresholds at once: an accepted push strictly increases the
count at the pushed priority when the evicted root was farther -/
example : (countLe (#[⟨8, 3, true⟩, ⟨5, 2, true⟩] : Row (Fin 10)) 6,
           countLe (push true (#[⟨8, 3, true⟩, ⟨5, 2, true⟩] : Row (Fin 10)) 6 1 true).1 6)
    = (1, 2) := by
  decide +kernel

end Pynn.C13
