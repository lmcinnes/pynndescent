import PynnVerif.Gen.Tables

/-!
# C06 — serialisation round-trips preserve the index (metric re-selection part)

`Gen.selection` is regenerated on every run by executing the real selection
statements of `NNDescent.__init__` and the real `__setstate__` on a stub for
every public metric name and both data kinds.  A loaded index answers queries
with the distance function and correction that `__setstate__` installs; the
obligations below say these are *the same* as the ones construction chose, so
the compiled search closure of the loaded index computes the same priorities
and reports the same corrected distances.  (The rest of the round-trip — that
`__getstate__` drops only the build forest and that every other attribute is
carried by pickle unchanged — is exercised on real pickle/joblib round-trips by
the harness.)

The obligations are stated as Boolean checks over the generated table and decided
together by one kernel evaluation (`selection_checked`: `decide +kernel`, no axioms).
-/
namespace Pynn.C06
open Pynn.Gen

abbrev Row := String × Bool × Outcome × Outcome
def Row.name (r : Row) := r.1
def Row.sparse (r : Row) := r.2.1
def Row.build (r : Row) := r.2.2.1
def Row.load (r : Row) := r.2.2.2

/-- load = build -/
def chkLoadEqBuild (r : Row) : Bool := r.load == r.build

/-- a CSR index runs a kernel from one of the two sparse tables -/
def chkSparseKernel (r : Row) : Bool :=
  !(r.sparse && r.build.ok) ||
    (sparseNamedDistances.any (fun e => e.2.1 == r.build.kernel) ||
     sparseFastAlternatives.any (fun e => e.2.1 == r.build.kernel))

/-- surrogate/correction pairing follows the alternatives table of the data kind -/
def chkPairing (r : Row) : Bool :=
  !r.build.ok ||
  (if r.sparse then
     (sparseFastAlternatives.contains (r.name, r.build.kernel, r.build.correction)) ||
     (sparseFastAlternatives.all (fun e => e.1 != r.name) &&
        sparseNamedDistances.any (fun e => e.1 == r.name && e.2.1 == r.build.kernel) &&
        r.build.correction == "none")
   else
     (fastAlternatives.contains (r.name, r.build.kernel, r.build.correction)) ||
     (fastAlternatives.all (fun e => e.1 != r.name) &&
        namedDistances.contains (r.name, r.build.kernel) && r.build.correction == "none"))

/-- `n_features` is supplied exactly to the sparse kernels that take it -/
def chkNFeatures (r : Row) : Bool :=
  !(r.sparse && r.build.ok) ||
    sparseNamedDistances.all (fun e => !(e.1 == r.name && e.2.1 == r.build.kernel) ||
      e.2.2 == r.build.needsNFeatures)

/-- All four obligations in one evaluation of the table: most of the kernel's work here is decoding
the string literals, which it does once per declaration. -/
theorem selection_checked : ∀ r ∈ Gen.selection,
    chkLoadEqBuild r = true ∧ chkSparseKernel r = true ∧ chkPairing r = true ∧ chkNFeatures r = true := by
  have h : Gen.selection.all (fun r =>
      chkLoadEqBuild r && (chkSparseKernel r && (chkPairing r && chkNFeatures r))) = true := by
    decide +kernel
  simpa only [List.all_eq_true, Bool.and_eq_true] using h

/-- After a pickle round-trip the index uses exactly the kernel, the correction and the
`n_features` convention chosen at construction — for every built-in metric name, dense
and CSR data alike (construction errors stay construction errors). -/
theorem select_load_eq_build : ∀ r ∈ Gen.selection, r.2.2.2 = r.2.2.1 := fun r hr =>
  eq_of_beq (selection_checked r hr).1

/-- A CSR index never runs a dense kernel (neither after construction nor after load). -/
theorem sparse_uses_sparse_kernel : ∀ r ∈ Gen.selection, chkSparseKernel r = true := fun r hr =>
  (selection_checked r hr).2.1

/-- When the public name has an entry in the alternatives table of its data kind, the index
uses *that* surrogate with *that* correction; otherwise the named kernel and no correction. -/
theorem selection_matches_tables : ∀ r ∈ Gen.selection, chkPairing r = true := fun r hr =>
  (selection_checked r hr).2.2.1

theorem n_features_iff_kernel_takes_it : ∀ r ∈ Gen.selection, chkNFeatures r = true := fun r hr =>
  (selection_checked r hr).2.2.2

set_option maxRecDepth 100000 in
/-- Non-vacuity: the surrogate metrics are in the table, for both data kinds. -/
example : Gen.selection.any (fun r => r.1 == "cosine" && r.2.1 &&
    r.2.2.1 == ⟨true, "sparse_alternative_cosine", "sparse_correct_alternative_cosine", false⟩) = true := by
  decide +kernel

/-- …and the check rejects the pre-repair behaviour (a CSR index re-selecting the dense kernel on load). -/
example : chkLoadEqBuild ("cosine", true,
    ⟨true, "sparse_alternative_cosine", "sparse_correct_alternative_cosine", false⟩,
    ⟨true, "alternative_cosine", "correct_alternative_cosine", false⟩) = false := by decide +kernel

end Pynn.C06
