import PynnVerif.Proofs.Metrics
import PynnVerif.Proofs.MetricsBridge
import PynnVerif.Proofs.SparseMetrics
import PynnVerif.Gen.Tables
import PynnVerif.Proofs.GenMetrics

/-!
# C09 — surrogates preserve order and corrections invert

Property theorems only (model of the kernels: `Model/Metrics.lean`; helpers: `Proofs/Metrics.lean`,
`Proofs/MetricsBridge.lean` with C08's `Proofs/SparseMetrics.lean` for §6, `Gen/Tables.lean` for §7).
Everything is over `ℝ`: the theorems are about the kernels' *arithmetic on exact numbers*; float
rounding is outside them (the harness compares the real float32 kernels / ufuncs with float64
references under a tolerance and sweeps the correction ufuncs over float32 bit patterns).

Vocabulary.  Each surrogate is `d = −log₂ s` (`surrogateOf s`) of a *similarity* `s` and is used on
the live range `s > 0`:

| metric        | `s`                                   | documented metric as a function of `s` |
|---------------|---------------------------------------|----------------------------------------|
| cosine        | `⟨x,y⟩/√(‖x‖²‖y‖²)` (`cosSim`)         | `1 − s`                                |
| dot           | `⟨x,y⟩` (unit-norm input)              | `1 − s`                                |
| true_angular  | `cosSim` (clamped `min(·,1)`)          | `1 − arccos s / π` (similarity-like)   |
| hellinger     | `Σ√(xᵢyᵢ)/√(Σx Σy)` (`hellSim`)        | `√(max(1 − s, 0))`                     |
| jaccard       | `|x∧y| / |x∨y|`                        | `1 − s`                                |
| euclidean, l2 | —                                     | `√(squared_euclidean)`                 |

For `s ≤ 0` (and for exactly one zero vector) the cosine / dot / hellinger surrogates return
`FLOAT32_MAX`; §3 states exactly what the corrections make of it.

What is NOT proved here (listed, no theorem):
* the *final expressions* of the sparse surrogate kernels (`sparse_alternative_cosine`,
  `sparse_alternative_dot`, `sparse_alternative_hellinger`, `sparse_alternative_jaccard`,
  `sparse_squared_euclidean`) are not modelled: they are the same real functions of their
  accumulators as the dense twins (`norm(data1)·norm(data2)` instead of `√(norm_x·norm_y)`, the
  merges instead of the coordinate loop).  That the accumulators agree with the dense ones is
  property C08's business and is imported here as `sparse_accumulators_are_dense` (§6).  What *differs* on the sparse
  side are the two correction ufuncs (`sparse_correct_alternative_cosine` / `_hellinger`: a dead
  band `|d| ≤ 10⁻⁷ → 0`), and these ARE modelled and proved (§4).  `sparse_alternative_jaccard`
  returns `FLOAT32_MAX` for disjoint supports — and so does the dense `alternative_jaccard` since
  repository commit d428a58 (`elif num_equal == 0.0: return FLOAT32_MAX`; before, it evaluated
  `−log₂ 0 = +∞`, which no heap push accepts): modelled, and proved in
  `alternative_jaccard_disjoint_finite` (§5) and `saturation_cosine` (§3);
* order preservation *across* the saturation boundary needs `s > 2^(−FLOAT32_MAX)` for the live
  candidate (`surrogate_lt_f32max_iff`); for float32 data this always holds (`s ≥ 2⁻¹⁴⁹·2⁻¹²⁸`),
  which is not a statement about `ℝ` and is left to the harness;
* float32 rounding of `pow`, `log2`, `arccos` (harness sweep), `fastmath`.
-/
namespace Pynn.C09
open Pynn.Metrics

/-! ## 1. scalar level: correction ∘ surrogate = metric, surrogate strictly decreasing in `s` -/

/-- cosine, dot: `1 − 2^(−(−log₂ s)) = 1 − s` for every similarity `s > 0`. -/
theorem correct_cosine_of_surrogate (s : ℝ) (hs : 0 < s) :
    correctAlternativeCosine (surrogateOf s) = 1 - s := by
  rw [correctAlternativeCosine_real, two_rpow_neg_surrogateOf hs]

/-- jaccard: the same identity for `correct_alternative_jaccard`. -/
theorem correct_jaccard_of_surrogate (s : ℝ) (hs : 0 < s) :
    correctAlternativeJaccard (surrogateOf s) = 1 - s := by
  rw [correctAlternativeJaccard_real, two_rpow_neg_surrogateOf hs]

/-- hellinger: `√(max(1 − 2^(−(−log₂ s)), 0)) = √(max(1 − s, 0))`, which is `√(1 − s)` on `s ≤ 1`
(and `0`, the clamp, if rounding pushed `s` above 1). -/
theorem correct_hellinger_of_surrogate (s : ℝ) (hs : 0 < s) :
    correctAlternativeHellinger (surrogateOf s) = Real.sqrt (max (1 - s) 0) ∧
    (s ≤ 1 → correctAlternativeHellinger (surrogateOf s) = Real.sqrt (1 - s)) ∧
    (1 ≤ s → correctAlternativeHellinger (surrogateOf s) = 0) := by
  rw [correctAlternativeHellinger_real, two_rpow_neg_surrogateOf hs]
  exact ⟨rfl, fun h1 => by rw [max_eq_left (sub_nonneg.2 h1)],
    fun h1 => by rw [max_eq_right (sub_nonpos.2 h1), Real.sqrt_zero]⟩

/-- true_angular: `1 − arccos(min(2^(−(−log₂ s)), 1))/π = 1 − arccos(min(s,1))/π`, which is
`1 − arccos s/π` on `s ≤ 1`. -/
theorem true_angular_of_surrogate (s : ℝ) (hs : 0 < s) :
    trueAngularFromAltCosine (surrogateOf s) = 1 - Real.arccos (min s 1) / Real.pi ∧
    (s ≤ 1 → trueAngularFromAltCosine (surrogateOf s) = 1 - Real.arccos s / Real.pi) := by
  rw [trueAngularFromAltCosine_real, two_rpow_neg_surrogateOf hs]
  exact ⟨rfl, fun h1 => by rw [min_eq_left h1]⟩

/-- `s ↦ −log₂ s` is strictly decreasing on the live range `s > 0` (strictly increasing in every
distance that is a decreasing function of `s`). -/
theorem surrogate_strictAnti : StrictAntiOn surrogateOf (Set.Ioi 0) :=
  fun _ hs _ ht hst => (surrogateOf_lt_iff ht hs).2 hst

/-- cosine / dot / jaccard (`metric = 1 − s`): the surrogate orders two candidates exactly as the
metric does. -/
theorem surrogate_order_one_minus (s t : ℝ) (hs : 0 < s) (ht : 0 < t) :
    (surrogateOf s ≤ surrogateOf t ↔ 1 - s ≤ 1 - t) ∧
    (surrogateOf s < surrogateOf t ↔ 1 - s < 1 - t) :=
  surrogate_order (I := Set.univ) (fun _ _ _ _ h => sub_lt_sub_left h 1) hs ht trivial trivial

/-- hellinger (`metric = √(1 − s)`, `s ∈ (0,1]`). -/
theorem surrogate_order_hellinger (s t : ℝ) (hs : 0 < s) (ht : 0 < t) (hs1 : s ≤ 1) (ht1 : t ≤ 1) :
    (surrogateOf s ≤ surrogateOf t ↔ Real.sqrt (1 - s) ≤ Real.sqrt (1 - t)) ∧
    (surrogateOf s < surrogateOf t ↔ Real.sqrt (1 - s) < Real.sqrt (1 - t)) :=
  surrogate_order (I := Set.Iic 1)
    (fun _ _ _ hb h => Real.sqrt_lt_sqrt (sub_nonneg.2 hb) (sub_lt_sub_left h 1)) hs ht hs1 ht1

/-- true_angular (`metric = 1 − arccos s/π`, similarity-like, `s ∈ (0,1]`): a *smaller* surrogate
is a *larger* `true_angular` value. -/
theorem surrogate_order_true_angular (s t : ℝ) (hs : 0 < s) (ht : 0 < t) (hs1 : s ≤ 1) (ht1 : t ≤ 1) :
    (surrogateOf s ≤ surrogateOf t ↔
      1 - Real.arccos s / Real.pi ≥ 1 - Real.arccos t / Real.pi) ∧
    (surrogateOf s < surrogateOf t ↔
      1 - Real.arccos s / Real.pi > 1 - Real.arccos t / Real.pi) := by
  rw [ge_iff_le, gt_iff_lt, sub_le_sub_iff_left, sub_lt_sub_iff_left,
    div_le_div_iff_of_pos_right Real.pi_pos, div_lt_div_iff_of_pos_right Real.pi_pos]
  exact surrogate_order Real.strictAntiOn_arccos hs ht ⟨(neg_one_lt_zero.trans hs).le, hs1⟩
    ⟨(neg_one_lt_zero.trans ht).le, ht1⟩

/-! ## 2. euclidean / l2: `squared_euclidean` with `np.sqrt` -/

/-- `np.sqrt(squared_euclidean(x, y)) = euclidean(x, y)`, and the argument of the square root is
non-negative. -/
theorem sqrt_squared_euclidean (x y : List ℝ) :
    Real.sqrt (squaredEuclidean x y) = euclidean x y ∧ 0 ≤ squaredEuclidean x y :=
  ⟨(euclidean_real x y).symm, squaredEuclidean_nonneg x y⟩

/-- the squared distance orders candidates exactly as the distance does. -/
theorem squared_euclidean_order (x y z : List ℝ) :
    (squaredEuclidean x y ≤ squaredEuclidean x z ↔ euclidean x y ≤ euclidean x z) ∧
    (squaredEuclidean x y < squaredEuclidean x z ↔ euclidean x y < euclidean x z) := by
  rw [euclidean_real, euclidean_real, Real.sqrt_le_sqrt_iff (squaredEuclidean_nonneg x z),
    Real.sqrt_lt_sqrt_iff (squaredEuclidean_nonneg x y)]
  exact ⟨Iff.rfl, Iff.rfl⟩

/-! ## 3. saturation: `FLOAT32_MAX` through the corrections -/

/-- cosine / dot / jaccard (dense `alternative_jaccard` — its `num_equal == 0.0` branch — and
sparse `sparse_alternative_jaccard` alike): the corrected saturation value is `1 − 2^(−FLOAT32_MAX)`, not
the far end `1`: it is below `1` by `2^(−FLOAT32_MAX)`, a positive real smaller than `2⁻¹⁰⁷⁵` — half
the smallest positive double (and far below half the smallest positive float32, `2⁻¹⁵⁰`), so
`pow(2.0, -FLOAT32_MAX)` evaluates to `0.0` and the *computed* value is exactly `1.0`. -/
theorem saturation_cosine :
    correctAlternativeCosine (Arith.f32max : ℝ) = 1 - (2 : ℝ) ^ (-(f32maxNat : ℝ)) ∧
    correctAlternativeJaccard (Arith.f32max : ℝ) = 1 - (2 : ℝ) ^ (-(f32maxNat : ℝ)) ∧
    (0 : ℝ) < (2 : ℝ) ^ (-(f32maxNat : ℝ)) ∧ (2 : ℝ) ^ (-(f32maxNat : ℝ)) < (2 : ℝ) ^ (-(1075 : ℝ)) :=
  ⟨by rw [correctAlternativeCosine_real]; rfl, by rw [correctAlternativeJaccard_real]; rfl,
   two_rpow_neg_f32max_pos, two_rpow_neg_f32max_lt⟩

/-- hellinger: the corrected saturation value is `√(1 − ε)` with `ε = 2^(−FLOAT32_MAX)`: strictly
below the far end `1`, at least `1 − ε`. -/
theorem saturation_hellinger :
    correctAlternativeHellinger (Arith.f32max : ℝ) = Real.sqrt (1 - (2 : ℝ) ^ (-(f32maxNat : ℝ))) ∧
    correctAlternativeHellinger (Arith.f32max : ℝ) < 1 ∧
    1 - (2 : ℝ) ^ (-(f32maxNat : ℝ)) ≤ correctAlternativeHellinger (Arith.f32max : ℝ) := by
  rw [correctAlternativeHellinger_real, f32max_real,
    max_eq_left (sub_nonneg.2 two_rpow_neg_f32max_lt_one.le)]
  exact ⟨rfl, sqrt_one_sub_bounds two_rpow_neg_f32max_pos two_rpow_neg_f32max_lt_one⟩

/-- true_angular: similarity `≤ 0` is reported through the surrogate path as
`1 − arccos(ε)/π = 1/2 + arcsin(ε)/π` with `ε = 2^(−FLOAT32_MAX)`: within `ε/2` above `1/2`, the
value of a right angle (the clamped far end of the surrogate path: every angle `≥ 90°` reads `1/2`;
the named kernel `true_angular` itself returns the sentinel `FLOAT32_MAX` there — recorded finding). -/
theorem saturation_true_angular :
    trueAngularFromAltCosine (Arith.f32max : ℝ) =
      1 - Real.arccos ((2 : ℝ) ^ (-(f32maxNat : ℝ))) / Real.pi ∧
    1 / 2 < trueAngularFromAltCosine (Arith.f32max : ℝ) ∧
    trueAngularFromAltCosine (Arith.f32max : ℝ) ≤ 1 / 2 + (2 : ℝ) ^ (-(f32maxNat : ℝ)) / 2 := by
  have hle := two_rpow_neg_f32max_lt_one.le
  rw [trueAngularFromAltCosine_real, f32max_real, min_eq_left hle]
  exact ⟨rfl, one_sub_arccos_div_pi_bounds two_rpow_neg_f32max_pos hle⟩

/-- A live candidate sorts strictly before every saturated one iff its similarity exceeds
`2^(−FLOAT32_MAX)`. -/
theorem surrogate_lt_f32max_iff (s : ℝ) (hs : 0 < s) :
    surrogateOf s < (f32maxNat : ℝ) ↔ (2 : ℝ) ^ (-(f32maxNat : ℝ)) < s := by
  have h2 : surrogateOf ((2 : ℝ) ^ (-(f32maxNat : ℝ))) = (f32maxNat : ℝ) := by
    unfold surrogateOf; rw [Real.logb_rpow (by norm_num) (by norm_num), neg_neg]
  rw [← h2, surrogateOf_lt_iff hs two_rpow_neg_f32max_pos, h2]

/-! ## 4. the corrections of `sparse.py`: a dead band around `d = 0` -/

/-- `sparse_correct_alternative_cosine` is `correct_alternative_cosine` for `d > 10⁻⁷`; it returns
`0` on `d ≤ 10⁻⁷` (the `isclose` dead band and every negative `d`), where the dense correction is
`1 − 2^(−d) ∈ [0, 10⁻⁷]` for `d ≥ 0`: the two differ by at most `10⁻⁷`, and only inside the band. -/
theorem sparse_correct_cosine (d : ℝ) :
    (1 / 10000000 < d → sparseCorrectAlternativeCosine d = correctAlternativeCosine d) ∧
    (d ≤ 1 / 10000000 → sparseCorrectAlternativeCosine d = 0) ∧
    (0 ≤ d → d ≤ 1 / 10000000 →
      0 ≤ correctAlternativeCosine d ∧ correctAlternativeCosine d ≤ 1 / 10000000) := by
  rw [sparseCorrectAlternativeCosine_real, correctAlternativeCosine_real]
  exact ⟨fun h => if_neg (not_le.2 h), fun h => if_pos h, fun h0 h =>
    ⟨sub_nonneg.2 (one_sub_two_rpow_neg_bounds h0).1, (one_sub_two_rpow_neg_bounds h0).2.trans h⟩⟩

/-- `sparse_correct_alternative_hellinger` is `correct_alternative_hellinger` for `d > 10⁻⁷` and `0`
on `d ≤ 10⁻⁷`, where the dense correction is `√(1 − 2^(−d)) ≤ √(10⁻⁷)` (`≈ 3.2·10⁻⁴`) for `d ≥ 0`. -/
theorem sparse_correct_hellinger (d : ℝ) :
    (1 / 10000000 < d → sparseCorrectAlternativeHellinger d = correctAlternativeHellinger d) ∧
    (d ≤ 1 / 10000000 → sparseCorrectAlternativeHellinger d = 0) ∧
    (0 ≤ d → d ≤ 1 / 10000000 →
      correctAlternativeHellinger d ≤ Real.sqrt (1 / 10000000)) := by
  rw [sparseCorrectAlternativeHellinger_real, correctAlternativeHellinger_real]
  refine ⟨fun h => ?_, fun h => if_pos h, fun h0 h => Real.sqrt_le_sqrt
    (max_le ((one_sub_two_rpow_neg_bounds h0).2.trans h) (by norm_num))⟩
  rw [if_neg (not_le.2 h), max_eq_left (sub_nonneg.2
    (one_sub_two_rpow_neg_bounds (le_trans (by norm_num) h.le)).1)]

/-- The dead band contains no surrogate value a float32 kernel can produce other than `0`: the
surrogates are `log₂ r` of a float32 ratio `r`, and already the smallest float32 above `1`,
`r = 1 + 2⁻²³`, has `log₂ r > 10⁻⁷` (`≈ 1.72·10⁻⁷`); `r ≤ 1` gives `d ≤ 0`, which both families of
corrections map to `0` (the dense ones through `max(·, 0)` for hellinger; for cosine the dense
correction of a negative `d` is negative — rounding noise below zero that the sparse one clips). -/
theorem dead_band_below_first_float32 (r : ℝ) (hr : 1 + (2 : ℝ) ^ (-(23 : ℤ)) ≤ r) :
    1 / 10000000 < Real.logb 2 r := by
  have hx : (0 : ℝ) < 1 + (2 : ℝ) ^ (-(23 : ℤ)) := by norm_num
  have hv : (1 : ℝ) / 10000000 < 1 - (1 + (2 : ℝ) ^ (-(23 : ℤ)))⁻¹ := by norm_num
  have hc : (0 : ℝ) ≤ 1 / 10000000 := by norm_num
  have h1 : (1 : ℝ) / 10000000 < Real.logb 2 (1 + (2 : ℝ) ^ (-(23 : ℤ))) := by
    rw [Real.logb, lt_div_iff₀ (Real.log_pos one_lt_two)]
    exact (mul_le_of_le_one_right hc log_two_le_one).trans_lt
      (hv.trans_le (Real.one_sub_inv_le_log_of_pos hx))
  exact h1.trans_le ((Real.logb_le_logb one_lt_two hx (hx.trans_le hr)).2 hr)

/-! ## 5. vector level: the modelled kernels -/

/-- **cosine.**  On the live range `⟨x,y⟩ > 0` the modelled `alternative_cosine` is `−log₂` of the
cosine similarity, the modelled `cosine` is `1 −` it, so the published correction reproduces the
documented metric *exactly*, and the value is below the clamp `1`. -/
theorem cosine_surrogate_live (x y : List ℝ) (h : 0 < dotProd x y) :
    alternativeCosine x y = surrogateOf (cosSim x y) ∧ cosine x y = 1 - cosSim x y ∧
    0 < cosSim x y ∧
    correctAlternativeCosine (alternativeCosine x y) = cosine x y ∧ cosine x y < 1 := by
  have hs := cosSim_pos h
  have hc := cosine_live (normSq_pos_left h).ne' (normSq_pos_right h).ne'
  refine ⟨alternativeCosine_live h, hc, hs, ?_, by rw [hc]; exact sub_lt_self 1 hs⟩
  rw [alternativeCosine_live h, correct_cosine_of_surrogate _ hs, hc]

/-- **cosine, every branch.**  Two zero vectors: surrogate `0`, corrected `0 = cosine`.  Otherwise,
outside the live range (exactly one zero vector, or `⟨x,y⟩ ≤ 0`) the surrogate is `FLOAT32_MAX`, the
documented metric is `≥ 1` (clamped: `1`) and the corrected value is `1 − 2^(−FLOAT32_MAX)`
(see `saturation_cosine`).  Hence for ALL `x y`:
`0 ≤ min(cosine x y, 1) − correction(surrogate x y) ≤ 2^(−FLOAT32_MAX)`. -/
theorem cosine_surrogate_all (x y : List ℝ) :
    (normSq x = 0 ∧ normSq y = 0 →
      alternativeCosine x y = 0 ∧ correctAlternativeCosine (alternativeCosine x y) = cosine x y) ∧
    (¬ 0 < dotProd x y → ¬ (normSq x = 0 ∧ normSq y = 0) →
      alternativeCosine x y = (f32maxNat : ℝ) ∧ 1 ≤ cosine x y ∧
      correctAlternativeCosine (alternativeCosine x y) = 1 - (2 : ℝ) ^ (-(f32maxNat : ℝ))) ∧
    (0 ≤ min (cosine x y) 1 - correctAlternativeCosine (alternativeCosine x y) ∧
      min (cosine x y) 1 - correctAlternativeCosine (alternativeCosine x y)
        ≤ (2 : ℝ) ^ (-(f32maxNat : ℝ))) := by
  have hpos := two_rpow_neg_f32max_pos
  by_cases h0 : normSq x = 0 ∧ normSq y = 0
  · rw [alternativeCosine_real, cosine_real, if_pos h0, if_pos h0, correctAlternativeCosine_real,
      neg_zero, Real.rpow_zero, sub_self, min_eq_left zero_le_one, sub_self]
    exact ⟨fun _ => ⟨rfl, rfl⟩, fun _ h => absurd h0 h, le_rfl, hpos.le⟩
  by_cases h : 0 < dotProd x y
  · obtain ⟨-, -, -, hcorr, hlt⟩ := cosine_surrogate_live x y h
    rw [hcorr, min_eq_left hlt.le, sub_self]
    exact ⟨fun h' => absurd h' h0, fun h' => absurd h h', le_rfl, hpos.le⟩
  · have hge := cosine_ge_one_of_saturated h h0
    rw [alternativeCosine_saturated h h0, correctAlternativeCosine_real, min_eq_right hge,
      sub_sub_cancel]
    exact ⟨fun h' => absurd h' h0, fun _ _ => ⟨rfl, hge, rfl⟩, hpos.le, le_rfl⟩

/-- **cosine, order.**  Two candidates `y z` in the live range of a query `x` are ordered by the
surrogate exactly as by the documented metric. -/
theorem cosine_surrogate_order (x y z : List ℝ) (hy : 0 < dotProd x y) (hz : 0 < dotProd x z) :
    (alternativeCosine x y ≤ alternativeCosine x z ↔ cosine x y ≤ cosine x z) ∧
    (alternativeCosine x y < alternativeCosine x z ↔ cosine x y < cosine x z) := by
  obtain ⟨hay, hcy, hsy, -, -⟩ := cosine_surrogate_live x y hy
  obtain ⟨haz, hcz, hsz, -, -⟩ := cosine_surrogate_live x z hz
  rw [hay, haz, hcy, hcz]
  exact surrogate_order_one_minus _ _ hsy hsz

/-- **true_angular** (same surrogate, correction `true_angular_from_alt_cosine`).  On the live range
the correction reproduces the modelled `true_angular` kernel exactly (both clamp with `min(·, 1)`),
the kernel is `1 − arccos(cosSim)/π` (Cauchy–Schwarz: the clamp is inactive over `ℝ`), and a smaller
surrogate means a *larger* `true_angular` value. -/
theorem true_angular_surrogate_live (x y : List ℝ) (hl : x.length = y.length) (h : 0 < dotProd x y) :
    trueAngularFromAltCosine (alternativeCosine x y) = trueAngular x y ∧
    trueAngular x y = 1 - Real.arccos (cosSim x y) / Real.pi := by
  have hs := cosSim_pos h
  have h1 := cosSim_le_one hl h
  rw [alternativeCosine_live h, (true_angular_of_surrogate _ hs).1, trueAngular_live h,
    min_eq_left h1]
  exact ⟨rfl, rfl⟩

theorem true_angular_surrogate_order (x y z : List ℝ) (hly : x.length = y.length)
    (hlz : x.length = z.length) (hy : 0 < dotProd x y) (hz : 0 < dotProd x z) :
    (alternativeCosine x y ≤ alternativeCosine x z ↔ trueAngular x y ≥ trueAngular x z) ∧
    (alternativeCosine x y < alternativeCosine x z ↔ trueAngular x y > trueAngular x z) := by
  rw [(true_angular_surrogate_live x y hly hy).2, (true_angular_surrogate_live x z hlz hz).2,
    alternativeCosine_live hy, alternativeCosine_live hz]
  exact surrogate_order_true_angular _ _ (cosSim_pos hy) (cosSim_pos hz)
    (cosSim_le_one hly hy) (cosSim_le_one hlz hz)

/-- true_angular, saturation of the surrogate path: for `⟨x,y⟩ ≤ 0` (not both vectors zero) the
surrogate is `FLOAT32_MAX`, whose correction is the value of `saturation_true_angular` (`≈ 1/2`),
while the named kernel returns `FLOAT32_MAX` itself — the two paths DISAGREE there (recorded finding,
excluded from the theorems above by the hypothesis `0 < ⟨x,y⟩`). -/
theorem true_angular_sentinel (x y : List ℝ) (h : ¬ 0 < dotProd x y)
    (h0 : ¬ (normSq x = 0 ∧ normSq y = 0)) :
    trueAngular x y = (f32maxNat : ℝ) ∧ alternativeCosine x y = (f32maxNat : ℝ) :=
  ⟨trueAngular_saturated h h0, alternativeCosine_saturated h h0⟩

/-- **dot** (`alternative_dot`, `correct_alternative_cosine`).  On the live range `⟨x,y⟩ > 0` the
surrogate is `−log₂⟨x,y⟩`, the kernel is `1 − ⟨x,y⟩`, the correction is exact, and the order is
preserved; for `⟨x,y⟩ ≤ 0` the kernel returns its clamp `1` and the surrogate `FLOAT32_MAX`
(corrected: `saturation_cosine`).  (The unit-norm assumption of `dot` is what makes `⟨x,y⟩ ≤ 1`
and `dot = cosine`; the identities here do not need it.) -/
theorem dot_surrogate (x y z : List ℝ) :
    (0 < dotProd x y →
      alternativeDot x y = surrogateOf (dotProd x y) ∧ dot x y = 1 - dotProd x y ∧
      correctAlternativeCosine (alternativeDot x y) = dot x y) ∧
    (0 < dotProd x y → 0 < dotProd x z →
      (alternativeDot x y ≤ alternativeDot x z ↔ dot x y ≤ dot x z) ∧
      (alternativeDot x y < alternativeDot x z ↔ dot x y < dot x z)) ∧
    (¬ 0 < dotProd x y → alternativeDot x y = (f32maxNat : ℝ) ∧ dot x y = 1) := by
  refine ⟨fun h => ?_, fun hy hz => ?_, fun h => ?_⟩
  · exact ⟨alternativeDot_live h, dot_live h,
      by rw [alternativeDot_live h, correct_cosine_of_surrogate _ h, dot_live h]⟩
  · rw [alternativeDot_live hy, dot_live hy, alternativeDot_live hz, dot_live hz]
    exact surrogate_order_one_minus _ _ hy hz
  · rw [alternativeDot_real, dot_real, if_pos (not_lt.1 h), if_pos (not_lt.1 h)]
    exact ⟨rfl, rfl⟩

/-- **hellinger.**  For non-negative vectors with `Σ√(xᵢyᵢ) > 0` (then both masses are positive) the
surrogate is `−log₂` of the Bhattacharyya coefficient `hellSim`, the kernel is
`√(max(1 − hellSim, 0))`, and the published correction (which has the same clamp) reproduces the
kernel exactly. -/
theorem hellinger_surrogate_live (x y : List ℝ) (hx : ∀ a ∈ x, 0 ≤ a) (hy : ∀ a ∈ y, 0 ≤ a)
    (h : 0 < hellingerSum x y) :
    alternativeHellinger x y = surrogateOf (hellSim x y) ∧
    hellinger x y = Real.sqrt (max (1 - hellSim x y) 0) ∧ 0 < hellSim x y ∧
    correctAlternativeHellinger (alternativeHellinger x y) = hellinger x y := by
  have hx' := l1_pos_left hx h; have hy' := l1_pos_right hy h
  have hs := hellSim_pos hx' hy' h
  have ha := alternativeHellinger_live hx' hy' h
  have hh := hellinger_live hx'.ne' hy'.ne'
  exact ⟨ha, hh, hs, by rw [ha, (correct_hellinger_of_surrogate _ hs).1, hh]⟩

/-- hellinger, order: for non-negative vectors of equal length two live candidates are ordered by
the surrogate exactly as by the kernel (Cauchy–Schwarz keeps the Bhattacharyya coefficient `≤ 1`, so
the clamp merges nothing over `ℝ`). -/
theorem hellinger_surrogate_order (x y z : List ℝ) (hly : x.length = y.length)
    (hlz : x.length = z.length) (hx : ∀ a ∈ x, 0 ≤ a) (hy : ∀ a ∈ y, 0 ≤ a)
    (hz : ∀ a ∈ z, 0 ≤ a) (hxy : 0 < hellingerSum x y) (hxz : 0 < hellingerSum x z) :
    (alternativeHellinger x y ≤ alternativeHellinger x z ↔ hellinger x y ≤ hellinger x z) ∧
    (alternativeHellinger x y < alternativeHellinger x z ↔ hellinger x y < hellinger x z) := by
  obtain ⟨hay, hhy, hsy, -⟩ := hellinger_surrogate_live x y hx hy hxy
  obtain ⟨haz, hhz, hsz, -⟩ := hellinger_surrogate_live x z hx hz hxz
  have h1 := hellSim_le_one hly hx hy (l1_pos_left hx hxy) (l1_pos_right hy hxy)
  have h2 := hellSim_le_one hlz hx hz (l1_pos_left hx hxz) (l1_pos_right hz hxz)
  rw [hay, haz, hhy, hhz, max_eq_left (sub_nonneg.2 h1), max_eq_left (sub_nonneg.2 h2)]
  exact surrogate_order_hellinger _ _ hsy hsz h1 h2

/-- hellinger, the other branches: two zero-mass vectors give surrogate `0`, corrected `0`, the
kernel's value; exactly one zero-mass vector gives `FLOAT32_MAX` where the kernel returns `1`
(corrected: `saturation_hellinger`). -/
theorem hellinger_surrogate_zero (x y : List ℝ) :
    (l1 x = 0 ∧ l1 y = 0 →
      alternativeHellinger x y = 0 ∧ correctAlternativeHellinger (alternativeHellinger x y) = hellinger x y) ∧
    (¬ (l1 x = 0 ∧ l1 y = 0) → (l1 x = 0 ∨ l1 y = 0) →
      alternativeHellinger x y = (f32maxNat : ℝ) ∧ hellinger x y = 1) := by
  refine ⟨fun h0 => ?_, fun h0 h1 => ?_⟩
  · rw [alternativeHellinger_real, hellinger_real, if_pos h0, if_pos h0,
      correctAlternativeHellinger_real, neg_zero, Real.rpow_zero, sub_self, max_self, Real.sqrt_zero]
    exact ⟨rfl, rfl⟩
  · rw [alternativeHellinger_real, hellinger_real, if_neg h0, if_neg h0, if_pos h1, if_pos h1]
    exact ⟨rfl, rfl⟩

/-- **jaccard**, over the two counts (`num_non_zero = |x∨y|`, `num_equal = |x∧y|`, any dimension):
with a non-empty intersection the surrogate is `−log₂(|x∧y|/|x∨y|)`, the kernel `1 −` that ratio,
the correction exact and the order preserved; two empty supports give `0` on both sides.  (Disjoint
non-empty supports, `e = 0 < n`: `alternative_jaccard_disjoint_finite` below.) -/
theorem jaccard_surrogate (n e n' e' : ℕ) (he : 0 < e) (hen : e ≤ n) (he' : 0 < e') (hen' : e' ≤ n') :
    alternativeJaccardOfCounts (n : ℝ) (e : ℝ) = surrogateOf ((e : ℝ) / n) ∧
    jaccardOfCounts (n : ℝ) (e : ℝ) = 1 - (e : ℝ) / n ∧
    correctAlternativeJaccard (alternativeJaccardOfCounts (n : ℝ) (e : ℝ)) = jaccardOfCounts (n : ℝ) (e : ℝ) ∧
    (alternativeJaccardOfCounts (n : ℝ) (e : ℝ) ≤ alternativeJaccardOfCounts (n' : ℝ) (e' : ℝ) ↔
      jaccardOfCounts (n : ℝ) (e : ℝ) ≤ jaccardOfCounts (n' : ℝ) (e' : ℝ)) ∧
    correctAlternativeJaccard (alternativeJaccardOfCounts (0 : ℝ) (0 : ℝ)) = jaccardOfCounts (0 : ℝ) (0 : ℝ) := by
  have live : ∀ n e : ℕ, 0 < e → e ≤ n →
      alternativeJaccardOfCounts (n : ℝ) (e : ℝ) = surrogateOf ((e : ℝ) / n) ∧
      jaccardOfCounts (n : ℝ) (e : ℝ) = 1 - (e : ℝ) / n ∧ (0 : ℝ) < (e : ℝ) / n := by
    intro n e he hen
    have hn : (0 : ℝ) < n := Nat.cast_pos.2 (lt_of_lt_of_le he hen)
    have he0 : (0 : ℝ) < e := Nat.cast_pos.2 he
    exact ⟨alternativeJaccardOfCounts_live hn.ne' he0.ne', jaccardOfCounts_live hn.ne' _,
      div_pos he0 hn⟩
  obtain ⟨ha, hj, hs⟩ := live n e he hen
  obtain ⟨ha', hj', hs'⟩ := live n' e' he' hen'
  refine ⟨ha, hj, ?_, ?_, ?_⟩
  · rw [ha, correct_jaccard_of_surrogate _ hs, hj]
  · rw [ha, ha', hj, hj']
    exact (surrogate_order_one_minus _ _ hs hs').1
  · rw [alternativeJaccardOfCounts_real, jaccardOfCounts_real, if_pos rfl, if_pos rfl,
      correctAlternativeJaccard_real, neg_zero, Real.rpow_zero, sub_self]

/-- **jaccard, disjoint non-empty supports** (`num_equal = 0 < num_non_zero`; the branch
`elif num_equal == 0.0: return FLOAT32_MAX` of the dense kernel, repository commit d428a58, which
its sparse twin always had).  The surrogate is the FINITE value `FLOAT32_MAX` — so a heap whose free
slots hold `+inf` accepts the candidate (`p < inf`), which `−log₂ 0 = +inf` never was: `connect_graph`
can join components of jaccard data with disjoint supports —; the named kernel gives `1`; the
correction gives `1 − 2^(−FLOAT32_MAX)`, i.e. it is off the documented value `1` by
`2^(−FLOAT32_MAX) < 2⁻¹⁰⁷⁵` only (computed: exactly `1.0`); and a live candidate (`0 < e' ≤ n'`)
sorts strictly before the saturated one iff its Jaccard index exceeds `2^(−FLOAT32_MAX)`. -/
theorem alternative_jaccard_disjoint_finite (n : ℕ) (hn : 0 < n) :
    alternativeJaccardOfCounts (n : ℝ) (0 : ℝ) = (Arith.f32max : ℝ) ∧
    jaccardOfCounts (n : ℝ) (0 : ℝ) = 1 ∧
    correctAlternativeJaccard (alternativeJaccardOfCounts (n : ℝ) (0 : ℝ))
      = 1 - (2 : ℝ) ^ (-(f32maxNat : ℝ)) ∧
    0 < jaccardOfCounts (n : ℝ) (0 : ℝ) - correctAlternativeJaccard (alternativeJaccardOfCounts (n : ℝ) (0 : ℝ)) ∧
    jaccardOfCounts (n : ℝ) (0 : ℝ) - correctAlternativeJaccard (alternativeJaccardOfCounts (n : ℝ) (0 : ℝ))
      < (2 : ℝ) ^ (-(1075 : ℝ)) ∧
    (∀ n' e' : ℕ, 0 < e' → e' ≤ n' →
      (alternativeJaccardOfCounts (n' : ℝ) (e' : ℝ) < alternativeJaccardOfCounts (n : ℝ) (0 : ℝ) ↔
        (2 : ℝ) ^ (-(f32maxNat : ℝ)) < (e' : ℝ) / n')) := by
  have hn' : (0 : ℝ) < n := Nat.cast_pos.2 hn
  have hc : correctAlternativeJaccard (f32maxNat : ℝ) = _ := saturation_cosine.2.1
  rw [alternativeJaccardOfCounts_real, if_neg hn'.ne', if_pos rfl, jaccardOfCounts_live hn'.ne',
    zero_div, sub_zero, hc, sub_sub_cancel]
  refine ⟨rfl, rfl, rfl, two_rpow_neg_f32max_pos, two_rpow_neg_f32max_lt, fun n' e' he' hen' => ?_⟩
  have hn0 : (0 : ℝ) < n' := Nat.cast_pos.2 (lt_of_lt_of_le he' hen')
  have he0 : (0 : ℝ) < e' := Nat.cast_pos.2 he'
  rw [alternativeJaccardOfCounts_live hn0.ne' he0.ne']
  exact surrogate_lt_f32max_iff _ (div_pos he0 hn0)

/-! ## 6. sparse data: the accumulators of the sparse surrogates are the dense ones (C08) -/

/-- The sparse surrogates of `pynndescent/sparse.py` are the same real functions as the dense ones
(`log₂(norm/result)`, `−log₂ result`, `Σ diff²`) of the accumulators `Σ sparse_mul`, `norm(data)²`,
`Σ data`, `Σ √sparse_mul`, `Σ sparse_diff²`; on CSR encodings of vectors of equal length these
accumulators ARE the accumulators `dotProd`, `normSq`, `l1`, `hellingerSum`, `squaredEuclidean` of the
dense kernels the theorems of §5 are about (C08's merge theorems, instantiated at `ℝ` and transported
along `Proofs/MetricsBridge.lean`). -/
theorem sparse_accumulators_are_dense (x y : List ℝ) (h : x.length = y.length) :
    Sparse.mulSum (Sparse.enc x) (Sparse.enc y) = dotProd x y ∧
    Sparse.normSq (Sparse.enc x) = normSq x ∧ Sparse.normSq (Sparse.enc y) = normSq y ∧
    Sparse.dataSum (Sparse.enc x) = l1 x ∧ Sparse.dataSum (Sparse.enc y) = l1 y ∧
    Sparse.hellingerSum Real.sqrt (Sparse.enc x) (Sparse.enc y) = hellingerSum x y ∧
    Sparse.sqEuclidean (Sparse.enc x) (Sparse.enc y) = squaredEuclidean x y :=
  ⟨(Sparse.mulSum_enc x y h).trans (dotProd_eq_dense x y).symm,
   (Sparse.normSq_enc x).trans (normSq_eq_dense x).symm,
   (Sparse.normSq_enc y).trans (normSq_eq_dense y).symm,
   (Sparse.dataSum_enc x).trans (l1_eq_dense x).symm,
   (Sparse.dataSum_enc y).trans (l1_eq_dense y).symm,
   (Sparse.hellingerSum_enc Real.sqrt Real.sqrt_zero x y h).trans (hellingerSum_eq_dense x y).symm,
   (Sparse.sqEuclidean_enc x y h).trans (squaredEuclidean_eq_dense x y).symm⟩

/-! ## 7. the registry obligation over the regenerated tables -/

/-- The (documented metric kernel, surrogate kernel, correction) triples — keyed by `__name__` — for
which the theorems above are proved.  The sparse rows stand for: *same real function of the same
accumulators as the dense surrogate* (C08) composed with the correction proved in §1/§4. -/
def registry : List (String × String × String) := [
  ("cosine", "alternative_cosine", "correct_alternative_cosine"),          -- cosine_surrogate_*
  ("dot", "alternative_dot", "correct_alternative_cosine"),                -- dot_surrogate
  ("euclidean", "squared_euclidean", "sqrt"),                              -- sqrt_squared_euclidean, _order
  ("hellinger", "alternative_hellinger", "correct_alternative_hellinger"), -- hellinger_surrogate_*
  ("jaccard", "alternative_jaccard", "correct_alternative_jaccard"),       -- jaccard_surrogate
  ("true_angular", "alternative_cosine", "true_angular_from_alt_cosine"),  -- true_angular_surrogate_*
  ("cosine", "sparse_alternative_cosine", "sparse_correct_alternative_cosine"),          -- + sparse_correct_cosine
  ("dot", "sparse_alternative_dot", "sparse_correct_alternative_cosine"),
  ("euclidean", "sparse_squared_euclidean", "sqrt"),
  ("hellinger", "sparse_alternative_hellinger", "sparse_correct_alternative_hellinger"), -- + sparse_correct_hellinger
  ("jaccard", "sparse_alternative_jaccard", "correct_alternative_jaccard")]

/-- the (surrogate, correction) pairs of `registry` -/
def registryPairs : List (String × String) := registry.map (·.2)

/-- the public name `e.1` denotes (in `named_distances`) a kernel `k` such that
`(k, surrogate, correction)` is registered -/
def chkEntry (e : String × String × String) : Bool :=
  Gen.namedDistances.any (fun n => n.1 == e.1 && registry.contains (n.2, e.2.1, e.2.2))

theorem chkEntry_sound {t : List (String × String × String)} (h : t.all chkEntry = true) :
    ∀ e ∈ t, ∃ k, (e.1, k) ∈ Gen.namedDistances ∧ (k, e.2.1, e.2.2) ∈ registry := by
  intro e he
  obtain ⟨n, hn, hc⟩ := List.any_eq_true.mp (List.all_eq_true.mp h e he)
  rw [Bool.and_eq_true, beq_iff_eq, List.contains_iff_mem] at hc
  exact ⟨n.2, hc.1 ▸ hn, hc.2⟩

/-- Every entry of `distances.fast_distance_alternatives` (regenerated from the repository on every
run) pairs a public name whose documented kernel is `k` with a surrogate and a correction for which
the theorems of this file are proved *for that `k`*: re-wiring a metric to another surrogate or
correction breaks this proof. -/
theorem dense_alternatives_registered :
    ∀ e ∈ Gen.fastAlternatives,
      ∃ k, (e.1, k) ∈ Gen.namedDistances ∧ (k, e.2.1, e.2.2) ∈ registry :=
  chkEntry_sound (by decide +kernel)

/-- The same for `sparse.sparse_fast_distance_alternatives` (the documented metric of a public name
is the dense kernel of `named_distances`; sparse = dense is C08). -/
theorem sparse_alternatives_registered :
    ∀ e ∈ Gen.sparseFastAlternatives,
      ∃ k, (e.1, k) ∈ Gen.namedDistances ∧ (k, e.2.1, e.2.2) ∈ registry :=
  chkEntry_sound (by decide +kernel)

/-- The pair form: every (surrogate `__name__`, correction `__name__`) of both tables is registered. -/
theorem alternatives_pairs_registered :
    (∀ e ∈ Gen.fastAlternatives, (e.2.1, e.2.2) ∈ registryPairs) ∧
    (∀ e ∈ Gen.sparseFastAlternatives, (e.2.1, e.2.2) ∈ registryPairs) :=
  ⟨fun e he => (dense_alternatives_registered e he).elim fun _ h =>
      List.mem_map_of_mem (f := (·.2)) h.2,
   fun e he => (sparse_alternatives_registered e he).elim fun _ h =>
      List.mem_map_of_mem (f := (·.2)) h.2⟩

/-! ## 8. the same, on the translated source text of `distances.py`

`Gen/MetricKernels.lean` is regenerated from the source of `distances.py` on every run
(`harness/translate_metrics.py`) and `Proofs/GenMetrics.lean` proves each translated kernel equal
to the model (`Props/C07.lean`, `kernel_*_refines`); composing with the theorems above: -/

/-- **cosine, on the translated kernels**: on the live range `⟨x,y⟩ > 0` the translated
`alternative_cosine` followed by the translated ufunc `correct_alternative_cosine` returns exactly
what the translated `cosine` returns (all three without out-of-bounds access), and that value is
below the clamp `1` (`cosine_surrogate_live`). -/
theorem kernel_cosine_correction (x y : Array ℝ) (h : x.size = y.size) (fuel : Nat)
    (hf : x.size + 1 ≤ fuel) (hl : 0 < dotProd x.toList y.toList) :
    ∃ d c, GenMetric.alternative_cosine fuel x y = some d ∧
      GenMetric.correct_alternative_cosine fuel d = some c ∧
      GenMetric.cosine fuel x y = some c ∧ c < 1 := by
  have hs := cosine_surrogate_live x.toList y.toList hl
  refine ⟨_, _, GenMetricProofs.alternative_cosine_refines x y h fuel hf,
    GenMetricProofs.correct_alternative_cosine_refines fuel _, ?_, ?_⟩
  · rw [GenMetricProofs.cosine_refines x y h fuel hf, hs.2.2.2.1]
  · rw [hs.2.2.2.1]; exact hs.2.2.2.2

/-- **euclidean, on the translated kernels**: `np.sqrt` of the translated `squared_euclidean` is the
translated `euclidean`, and the two order candidates alike (`sqrt_squared_euclidean`,
`squared_euclidean_order`). -/
theorem kernel_squared_euclidean_correction (x y z : Array ℝ) (hy : x.size = y.size)
    (hz : x.size = z.size) (fuel : Nat) (hf : x.size + 1 ≤ fuel) :
    ∃ sy sz ey ez, GenMetric.squared_euclidean fuel x y = some sy ∧
      GenMetric.squared_euclidean fuel x z = some sz ∧
      GenMetric.euclidean fuel x y = some ey ∧ GenMetric.euclidean fuel x z = some ez ∧
      Real.sqrt sy = ey ∧ 0 ≤ sy ∧ (sy ≤ sz ↔ ey ≤ ez) :=
  ⟨_, _, _, _, GenMetricProofs.squared_euclidean_refines x y hy fuel hf,
    GenMetricProofs.squared_euclidean_refines x z hz fuel hf,
    GenMetricProofs.euclidean_refines x y hy fuel hf, GenMetricProofs.euclidean_refines x z hz fuel hf,
    (sqrt_squared_euclidean _ _).1, (sqrt_squared_euclidean _ _).2,
    (squared_euclidean_order _ _ _).1⟩

/-! ## non-vacuity -/

/-- the tables are not empty and contain the seven surrogate metrics -/
example : Gen.fastAlternatives.length = 7 ∧ Gen.sparseFastAlternatives.length = 6 := by decide +kernel

/-- the check rejects a re-wired entry (hellinger corrected with the cosine correction) -/
example : chkEntry ("hellinger", "alternative_hellinger", "correct_alternative_cosine") = false := by
  decide +kernel

/-- …and an entry whose public name denotes another kernel than the one the pair is proved for -/
example : chkEntry ("manhattan", "squared_euclidean", "sqrt") = false := by decide +kernel

/-- the live range is inhabited: `x = (1,0)`, `y = (1,1)` have `⟨x,y⟩ = 1 > 0` -/
example : 0 < dotProd ([1, 0] : List ℝ) [1, 1] := by
  rw [dotProd, sumBy_real]; norm_num

/-- …and so is hellinger's: `x = (1,0)`, `y = (1,1)` are non-negative with `Σ√(xᵢyᵢ) = 1 > 0` -/
example : 0 < hellingerSum ([1, 0] : List ℝ) [1, 1] ∧ (∀ a ∈ ([1, 0] : List ℝ), 0 ≤ a) ∧
    (∀ a ∈ ([1, 1] : List ℝ), 0 ≤ a) := by
  rw [hellingerSum, sumBy_real]
  simp only [List.zipWith_cons_cons, List.zipWith_nil_right, List.sum_cons, List.sum_nil, sqrt_real,
    mul_one, Real.sqrt_one, Real.sqrt_zero, add_zero, zero_lt_one, List.forall_mem_cons,
    zero_le_one, le_refl, List.not_mem_nil, false_imp_iff, implies_true, and_self]

/-- the dead band is a band: `d = 5·10⁻⁸` is inside, `d = 1` outside -/
example : sparseCorrectAlternativeCosine (1 / 20000000 : ℝ) = 0 ∧
    sparseCorrectAlternativeCosine (1 : ℝ) = 1 / 2 := by
  constructor
  · exact (sparse_correct_cosine _).2.1 (by norm_num)
  · rw [(sparse_correct_cosine 1).1 (by norm_num), correctAlternativeCosine_real,
      Real.rpow_neg_one]; norm_num

end Pynn.C09
