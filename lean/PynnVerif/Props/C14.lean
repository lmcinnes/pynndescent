import PynnVerif.Proofs.RPTree

/-!
# C14 — random-projection trees partition the data and every descent ends in a leaf

The model is `Model/RPTree.lean`; `flatRows`, `Tiles`, `postChildren`, `postIndices` and `leafRowsOf`, which the
statements use, are defined in `Proofs/RPTree.lean`.  Everything is quantified over **every** `Oracle` — every
outcome of every margin computation and of every coin flip of the five
`*_random_projection_split` kernels, including the fall-back that re-draws all
sides when one side is empty and may again leave one side empty — so nothing
here depends on the data, the metric (euclidean / angular / bit-packed / sparse)
or the generator.  Core Lean only.

What the model showed about the code as written (not hidden by the statements):
* **empty leaves are possible** (the fall-back can put every point on one side; the other
  recursive call receives an empty `indices` and appends an empty leaf), see the first `example`;
  they are harmless for every clause below (an empty leaf is the empty range `(s, s)`);
* a leaf with more than `leaf_size` points occurs only when the depth fuel is exhausted;
* the leaf that starts at offset `0` is encoded `(-0, -end) = (0, -end)`; the loop test
  `children[node, 0] > 0` classifies it as a leaf (correct), a single-leaf root `(0, -n)` and the
  empty data set `(0, 0)` included.
-/
namespace Pynn.C14
open Pynn.RP

/-- **Partition** (`make_*_tree`): for every oracle, leaf size, depth fuel and input index list,
the concatenation of the leaves is a permutation of the input; hence every point occurs in the
leaves exactly as often as in the input — for the root call on `np.arange(n)`: in exactly one leaf,
exactly once. -/
theorem leaves_partition (o : Oracle) (leafSize maxDepth : Nat) (path : List Bool) (idx : List Int) :
    (buildTree o leafSize maxDepth path idx).leaves.flatten.Perm idx ∧
    ∀ x, (buildTree o leafSize maxDepth path idx).leaves.flatten.count x = idx.count x :=
  ⟨buildTree_leaves_perm o leafSize maxDepth path idx,
   fun x => (buildTree_leaves_perm o leafSize maxDepth path idx).count_eq x⟩

/-- The tree `make_dense_tree` / `make_sparse_tree` / `make_dense_bit_tree` return for `n` points:
its leaves list `0 … n-1` without repetition (`Nodup` + same members), so each point is in exactly
one leaf, and the tree holds `n` points. -/
theorem tree_partition (o : Oracle) (leafSize : Nat) (maxDepth : Int) (n : Nat) :
    let t := makeTree o leafSize maxDepth n
    t.leaves.flatten.Perm ((List.range n).map Int.ofNat) ∧ t.leaves.flatten.Nodup ∧
    (∀ x : Int, x ∈ t.leaves.flatten ↔ 0 ≤ x ∧ x < n) ∧ t.size = n := by
  intro t
  have hp : t.leaves.flatten.Perm ((List.range n).map Int.ofNat) := buildTree_leaves_perm _ _ _ _ _
  refine ⟨hp, ?_, ?_, ?_⟩
  · exact hp.nodup_iff.mpr (List.nodup_range.map _ fun _ _ h e => h (Int.ofNat.inj e))
  · intro x
    rw [hp.mem_iff, List.mem_map]
    constructor
    · rintro ⟨i, hi, rfl⟩
      exact ⟨Int.natCast_nonneg i, Int.ofNat_lt.mpr (List.mem_range.mp hi)⟩
    · intro h
      exact ⟨x.toNat, List.mem_range.mpr ((Int.toNat_lt h.1).mpr h.2), Int.toNat_of_nonneg h.1⟩
  · rw [← t.length_flatten_leaves, hp.length_eq, List.length_map, List.length_range]

/-- **Leaf-size limit**: every leaf of `buildTree` has at most `leaf_size` points **or** sits at
depth exactly `max_depth` (the fuel was exhausted); `leavesAt 0` pairs each leaf with its depth. -/
theorem leaf_size_bound (o : Oracle) (leafSize maxDepth : Nat) (path : List Bool) (idx : List Int) :
    ∀ p ∈ (buildTree o leafSize maxDepth path idx).leavesAt 0, p.2.length ≤ leafSize ∨ p.1 = maxDepth := by
  intro p hp
  exact (buildTree_leavesAt o leafSize maxDepth path idx 0 p hp).imp_right fun h => h.trans (Nat.zero_add _)

/-- **Termination for degenerate data.**  `buildTree` is a total function defined by structural
recursion on the depth fuel alone: for every oracle (all-identical, all-zero, collinear data are
particular oracles: all margins `0`, every side a coin) the call returns a tree of depth at most
`max_depth` with fewer than `2^(max_depth+1)` nodes.  The bound does not mention the data. -/
theorem build_terminates (o : Oracle) (leafSize maxDepth : Nat) (path : List Bool) (idx : List Int) :
    ∃ t, buildTree o leafSize maxDepth path idx = t ∧ t.depth ≤ maxDepth ∧ t.numNodes < 2 ^ (maxDepth + 1) := by
  have hd := buildTree_depth o leafSize maxDepth path idx
  exact ⟨_, rfl, hd, Nat.lt_of_lt_of_le (Nat.lt_of_succ_le (buildTree o leafSize maxDepth path idx).numNodes_le_pow)
    (Nat.pow_le_pow_right Nat.two_pos (Nat.succ_le_succ hd))⟩

/-- **Flattening** (`convert_tree_format` on any linked tree `t` holding `n = t.size` points):
`indices` is the concatenation of the leaves in order; both `children` columns have one row per
node; the array is exactly the pure row specification `flatRows`; its leaf rows
(`children[node,0] ≤ 0`), in node order and negated, are the consecutive block ranges of the leaves,
which tile `[0, n)` (start at `0`, each starts where the previous ends, end at `n`; empty blocks
allowed); every inner row (`children[node,0] > 0`) is `(node+1, right)` with
`node+1 < right < n_nodes`; and the `i`-th leaf range cuts the `i`-th leaf out of `indices`. -/
theorem convert_spec (t : Tree) :
    let F := convertTreeFormat t t.size
    F.indices.toList = t.leaves.flatten ∧
    F.ch0.size = t.numNodes ∧ F.ch1.size = t.numNodes ∧
    F.ch0.toList.zip F.ch1.toList = flatRows t 0 0 ∧
    leafRows F.ch0 F.ch1 = (ranges t.leaves 0).map (fun r => ((r.1 : Int), (r.2 : Int))) ∧
    Tiles (ranges t.leaves 0) 0 t.size ∧
    (∀ (k : Nat) (c0 c1 : Int), F.ch0[k]? = some c0 → F.ch1[k]? = some c1 → 0 < c0 →
        c0 = (k : Int) + 1 ∧ (k : Int) + 1 < c1 ∧ c1 < (t.numNodes : Int)) ∧
    (∀ i (hi : i < t.leaves.length), ∃ a b : Nat, (ranges t.leaves 0)[i]? = some (a, b) ∧
        a ≤ b ∧ b ≤ t.size ∧ pySlice F.indices a b = t.leaves[i]) := by
  intro F
  have hF : F = _ := convertTreeFormat_eq t
  have hi := indices_convert t
  have h0 : F.ch0.size = t.numNodes := by rw [hF]; simp [length_flatRows]
  have hz := zip_convert t
  refine ⟨hi, h0, by rw [hF]; simp [length_flatRows], hz, ?_, ?_, ?_, ?_⟩
  · rw [leafRows, hz]
    exact leafRows_flatRows t 0 0
  · have := tiles_ranges t.leaves 0
    rwa [Nat.zero_add, t.length_flatten_leaves] at this
  · intro k c0 c1 e0 e1 hp
    have hk : k < t.numNodes := h0 ▸ (Array.getElem?_eq_some_iff.mp e0).1
    have := (laid_convert t).inner_row (Nat.zero_le k) ((Nat.zero_add _).symm ▸ hk) e0 e1 hp
    rwa [Nat.zero_add] at this
  · intro i hi'
    obtain ⟨⟨a, b⟩, e⟩ : ∃ r, (ranges t.leaves 0)[i]? = some r :=
      ⟨_, List.getElem?_eq_getElem (by rwa [length_ranges])⟩
    obtain ⟨_, hab, hb, hs⟩ := getElem?_ranges e
    rw [Nat.zero_add] at hb
    rw [List.getElem?_eq_getElem hi', ← pySlice_range hi hab hb, Option.some.injEq] at hs
    exact ⟨a, b, e, hab, t.length_flatten_leaves ▸ hb, hs.symm⟩

/-- **The flat tree lists every point exactly once**: flattening the tree built for `n` points with
`data_size = n` (what `convert_tree_format(tree, data.shape[0], …)` is called with) yields an
`indices` array that is a permutation of `0 … n-1` — the array that becomes `_vertex_order`. -/
theorem flat_indices_perm (o : Oracle) (leafSize : Nat) (maxDepth : Int) (n : Nat) :
    (convertTreeFormat (makeTree o leafSize maxDepth n) n).indices.toList.Perm ((List.range n).map Int.ofNat) := by
  obtain ⟨hp, _, _, hs⟩ := tree_partition o leafSize maxDepth n
  have := indices_convert (makeTree o leafSize maxDepth n)
  rw [hs] at this
  rwa [this]

/-- **Routing** (`search_flat_tree`, `search_flat_bit_tree`, `search_sparse_flat_tree`, the
`tree_search_closure`s): on the flattened form of any tree, for **every** side function (every
query vector, hyperplane and coin), any fuel exceeding the depth — in particular the number of
nodes — suffices: the loop `while children[node,0] > 0` stops at a node that is a leaf row
`(-a, -b)` where `(a, b)` is one of the leaf ranges, `a ≤ b ≤ n`, and `indices[a:b]` is that leaf
of the linked tree.  (Each step moves to a strictly larger row number — `convert_spec` — which is
why the fuel is never the reason for stopping.) -/
theorem route_terminates_valid (t : Tree) (side : Nat → Nat → Bool) (fuel : Nat)
    (hf : t.numNodes ≤ fuel ∨ t.depth < fuel) :
    let F := convertTreeFormat t t.size
    ∃ node a b : Nat, route F.ch0 F.ch1 side fuel 0 0 = some (node, (a : Int), (b : Int)) ∧
      node < t.numNodes ∧ F.ch0[node]? = some (-(a : Int)) ∧ F.ch1[node]? = some (-(b : Int)) ∧
      (a, b) ∈ ranges t.leaves 0 ∧ a ≤ b ∧ b ≤ t.size ∧
      ∃ leaf ∈ t.leaves, pySlice F.indices a b = leaf ∧ routeLeaf F side fuel = some leaf := by
  intro F
  obtain ⟨node, a, b, hr, hrange, hlt, hch0, hch1⟩ :=
    route_laid side (laid_convert t) fuel 0 (hf.elim (Nat.lt_of_lt_of_le t.depth_lt_numNodes) id)
  obtain ⟨_, hab, hb, hm⟩ := mem_ranges hrange
  rw [Nat.zero_add] at hb hlt
  rw [← pySlice_range (indices_convert t) hab hb] at hm
  refine ⟨node, a, b, hr, hlt, hch0, hch1, hrange, hab, t.length_flatten_leaves ▸ hb, _, hm, rfl, ?_⟩
  rw [routeLeaf, hr]
  rfl

/-- **Linked form** (the typed lists `make_*_tree` appends to, `linearize`): one entry per node in
post-order (root last); a `children` entry is the leaf mark `(-1,-1)` or a pair `left < right` of
earlier node numbers — so the three leaf tests used by `get_leaves_from_tree`
(`== -1 and == -1` for counting, `== -1 or == -1` for filling) and `recursive_convert` (`[0] < 0`)
select the same entries; and the `point_indices` of those entries, in list order, are the leaves. -/
theorem linked_form_spec (t : Tree) :
    let L := linearize t {}
    L.children.size = t.numNodes ∧ L.indices.size = t.numNodes ∧
    L.children.toList = postChildren t 0 ∧ L.indices.toList = postIndices t ∧
    (∀ c ∈ L.children.toList, c = (-1, -1) ∨ (0 ≤ c.1 ∧ c.1 < c.2 ∧ c.2 + 1 < (t.numNodes : Int))) ∧
    leafRowsOf L = t.leaves := by
  intro L
  obtain ⟨hc, hi⟩ := linearize_nil t
  refine ⟨by simpa using (size_linearize t {}).1, by simpa using (size_linearize t {}).2, hc, hi, ?_,
    leafRowsOf_linearize t⟩
  intro c hcm
  simpa using postChildren_shape t 0 c (hc ▸ hcm)

/-- **Leaf array** (`get_leaves_from_tree` with the width `make_dense_tree` stores in
`tree.leaf_size`): the width `w` is at least `leaf_size` and at least every leaf's length (it is
`leaf_size`, a leaf's length, or `1` — the `[-1]` of an inner node also enters the maximum); the
array has one row per leaf, in order, each the leaf followed by `-1` padding up to `w`. -/
theorem leafArray_spec (t : Tree) (leafSize : Nat) :
    let w := treeLeafSize (linearize t {}) leafSize
    leafSize ≤ w ∧ (∀ leaf ∈ t.leaves, leaf.length ≤ w) ∧
    (w = leafSize ∨ w = 1 ∨ ∃ leaf ∈ t.leaves, w = leaf.length) ∧
    (leafArray t leafSize).toList.map Array.toList =
      t.leaves.map (fun leaf => leaf ++ List.replicate (w - leaf.length) (-1)) := by
  intro w
  obtain ⟨h1, h2, h3⟩ := treeLeafSize_linearize t leafSize
  refine ⟨h1, h2, h3, ?_⟩
  rw [leafArray_toList, List.map_map]
  rfl

/-! ## Non-vacuity (concrete, kernel-evaluated) -/

/-- an oracle whose first pass puts every point on the left at the root (so the fall-back fires),
whose fall-back *again* puts everything on the left at the root, and which alternates sides elsewhere -/
def degenerate : Oracle where
  first := fun path _ i => path ≠ [] && i % 2 == 1
  again := fun _ _ _ => false

/-- The fall-back can leave one side empty: the root's right child is an **empty leaf**; with
`leaf_size = 1`, `max_depth = 2` the leaf `[0, 2]` is larger than `leaf_size` — at depth `2`. -/
example : buildTree degenerate 1 2 [] [0, 1, 2, 3] =
    .node (.node (.leaf [0, 2]) (.leaf [1, 3])) (.leaf []) := by decide +kernel

/-- flattening of that tree: pre-order rows, the first leaf is `(0, -2)` (start `0`), the empty leaf `(-4, -4)` -/
example : convertTreeFormat (.node (.node (.leaf [0, 2]) (.leaf [1, 3])) (.leaf [])) 4 =
    ⟨#[1, 2, 0, -2, -4], #[4, 3, -2, -4, -4], #[0, 2, 1, 3]⟩ := by decide +kernel

/-- routing left-left ends at row 2 = the leaf encoded `(0, -2)`; right ends at the empty leaf -/
example : routeLeaf ⟨#[1, 2, 0, -2, -4], #[4, 3, -2, -4, -4], #[0, 2, 1, 3]⟩ (fun _ _ => false) 5 = some [0, 2] ∧
    routeLeaf ⟨#[1, 2, 0, -2, -4], #[4, 3, -2, -4, -4], #[0, 2, 1, 3]⟩ (fun _ _ => true) 5 = some [] ∧
    route #[1, 2, 0, -2, -4] #[4, 3, -2, -4, -4] (fun s _ => s == 1) 5 0 0 = some (3, 2, 4) := by decide +kernel

/-- linked form and leaf array of that tree: post-order, root last; width `max 1 2 = 2`; the empty leaf is a row of `-1` -/
example : linearize (.node (.node (.leaf [0, 2]) (.leaf [1, 3])) (.leaf [])) {} =
      ⟨#[(-1, -1), (-1, -1), (0, 1), (-1, -1), (2, 3)], #[[0, 2], [1, 3], [-1], [], [-1]]⟩ ∧
    leafArray (.node (.node (.leaf [0, 2]) (.leaf [1, 3])) (.leaf [])) 1 = #[#[0, 2], #[1, 3], #[-1, -1]] := by
  decide +kernel

/-- single-leaf root and empty data set -/
example : convertTreeFormat (makeTree degenerate 10 200 3) 3 = ⟨#[0], #[-3], #[0, 1, 2]⟩ ∧
    convertTreeFormat (makeTree degenerate 10 200 0) 0 = ⟨#[0], #[0], #[]⟩ ∧
    routeLeaf ⟨#[0], #[-3], #[0, 1, 2]⟩ (fun _ _ => true) 1 = some [0, 1, 2] ∧
    routeLeaf ⟨#[0], #[0], #[]⟩ (fun _ _ => true) 1 = some [] := by decide +kernel

end Pynn.C14
