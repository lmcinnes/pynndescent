import PynnVerif.Proofs.RowWise
import PynnVerif.Proofs.LowHigh
import PynnVerif.Proofs.GenLeafUpdates
import PynnVerif.Proofs.GenGraphUpdates
import PynnVerif.Proofs.GenApplyHigh
import PynnVerif.Proofs.GenInit
import PynnVerif.Props.C12  -- C12 on the generated appliers, which the composed theorems below apply to generated updates
import Mathlib.Data.Nat.Basic  -- `LinearOrder Nat` for the concrete examples at the end

/-!
# C03 — the local join delivers every discovered pair to both endpoints; a single leaf is exact

What is proved here (for every linear order `P` of distances, every graph, every update list):

* `local_join_delivers_both` / `local_join_delivers_both_high`: an update `(p, q, d)` found by the
  local join is offered as `(d, q)` to row `p` **and** as `(d, p)` to row `q`, and the rows after
  `apply_graph_updates_low_memory` (any thread count) / `apply_graph_updates_high_memory` are
  exactly the rows fed with these offers in update order — no pair reaches one endpoint only.
* `single_leaf_exact`: `init_rp_tree` on an empty graph with one leaf that enumerates all points
  leaves in every row the `k` nearest other points, exactly (up to distance ties).

What is **not** a theorem: the recall floors of the property (≥ 90 % of the true neighbours in the
graph, ≥ 80 % for queries) are statistical statements about random data and random projection
trees.  They are measured by the harness on the real code, not proved; the theorems below are the
deterministic facts those measurements rest on.
-/
namespace Pynn.C03
open Pynn
variable {P : Type} [LinearOrder P]

/-- **Both endpoints are served (low-memory path).**  For any positive thread count:
every update `u = (p, q, d)` contributes the offer `(d, q)` to row `p` and the offer `(d, p)` to
row `q`; the offers of a row are nothing but these; and after `apply_graph_updates_low_memory`
row `r` is its old content fed (through `checked_flagged_heap_push(…, 1)`) with its offers, in
update order.  (Rows outside the graph do not exist before or after: `[r]?` is `none`.) -/
theorem local_join_delivers_both (T : Nat) (hT : 0 < T) (g : Graph P) (ups : List (Upd P)) :
    (∀ u ∈ ups, (u.d, (u.q : Int)) ∈ offersFor u.p ups ∧ (u.d, (u.p : Int)) ∈ offersFor u.q ups) ∧
    (∀ r o, o ∈ offersFor r ups ↔
      ∃ u ∈ ups, (u.p = r ∧ o = (u.d, (u.q : Int))) ∨ (u.q = r ∧ o = (u.d, (u.p : Int)))) ∧
    (∀ r, (applyLow T g ups).1[r]? = g[r]?.map (fun row => feed row (offersFor r ups))) := by
  refine ⟨fun u hu => ?_, fun r => mem_offersFor r ups, applyLow_row T hT g ups⟩
  exact ⟨(mem_offersFor ..).mpr ⟨u, hu, .inl ⟨rfl, rfl⟩⟩, (mem_offersFor ..).mpr ⟨u, hu, .inr ⟨rfl, rfl⟩⟩⟩

/-- **Both endpoints are served (high-memory path).**  Under the hypotheses of C12 (well-formed
graph, record invariant, truthful updates of a symmetric distance) the rows after
`apply_graph_updates_high_memory` are the same feeds: the pushes it skips are pushes the heap
would have rejected. -/
theorem local_join_delivers_both_high (top : P) (n k : Nat) (dist : Nat → Nat → P)
    (hsymm : ∀ a b, dist a b = dist b a) (g : Graph P) (s : InGraph) (ups : List (Upd P))
    (hG : GraphInv top n k dist g) (hI : InGraphInv dist g s) (hTr : Truthful dist ups) :
    ∀ r, (applyHigh g ups s).1.1[r]? = g[r]?.map (fun row => feed row (offersFor r ups)) := by
  intro r
  rw [(applyHigh_eq_applyLow_of_heapTruth hsymm 1 Nat.one_pos g ups s hG.heapTruth hI hTr).1]
  exact applyLow_row 1 Nat.one_pos g ups r

/-- **The self pair.**  The `k ≥ j` enumeration of the local join emits `(p, p, 0)`; row `p` is
then offered `(d, p)` twice in a row, and the second offer changes neither the row nor the change
count (it is a duplicate if the first was accepted, and is rejected again otherwise). -/
theorem self_pair_offered_twice_is_noop (u : Upd P) (h : u.p = u.q) (row : Row P) :
    offersFor u.p [u] = [(u.d, (u.p : Int)), (u.d, (u.p : Int))] ∧
    feed row (offersFor u.p [u]) = feed row [(u.d, (u.p : Int))] ∧
    feedCount row (offersFor u.p [u]) = feedCount row [(u.d, (u.p : Int))] := by
  rw [offersFor_self u h]
  exact ⟨rfl, self_pair_noop row u.d u.p⟩

/-- **`pynndescent_.generate_leaf_updates` is the model's `leafUpdates`.**  `Gen/Kernels.lean` (regenerated from the
source on every run) holds its translation: `dist` a function parameter applied to rows of `data`, one update list
per row of `leaf_block` starting with the placeholder `(-1, -1, inf)`, the two `break`s at the first negative entry,
`for j in range(i + 1, …)`, the short-circuit test `d < thr[p] or d < thr[q]`.  For a rectangular `leaf_block`
(`m` rows of `w` entries) whose non-negative entries are row numbers of `data`, of `dist_thresholds` and `< N`, and
`fuel ≥ m + 2w + 2`: the translated kernel never reads outside an array; list `r` of its result is the placeholder
followed by exactly the model's `leafUpdates` of row `r` — every pair `i < j` of the valid prefix whose distance beats
one of the two thresholds, in the code's order — with `thr p = dist_thresholds[p]`, `dist' p q = dist data[p] data[q]`;
read through `updOf` (placeholders dropped) it *is* that list; and every triple satisfies `OkTriple N`, the
precondition of the appliers' refinement theorems (C12).  No order axioms. -/
theorem kernel_generate_leaf_updates_refines {Q : Type} [LE Q] [LT Q] [DecidableLE Q] [DecidableLT Q]
    (leaf_block : Array (Array Int)) (th : Array Q) (data : Array (Array Q))
    (dist : Array Q → Array Q → Q) (top : Q) (w N : Nat)
    (hw : ∀ r (h : r < leaf_block.size), leaf_block[r].size = w)
    (hok : ∀ r (h : r < leaf_block.size), LeafRowOk leaf_block[r] data.size)
    (hok' : ∀ r (h : r < leaf_block.size), LeafRowOk leaf_block[r] th.size)
    (hN : ∀ r (h : r < leaf_block.size), LeafRowOk leaf_block[r] N)
    (fuel : Nat) (hf : leaf_block.size + w + w + 2 ≤ fuel) :
    ∃ U', GenK.generate_leaf_updates fuel top leaf_block th data dist = some U' ∧ U'.size = leaf_block.size ∧
      (∀ r (h : r < U'.size) (h' : r < leaf_block.size),
        U'[r] = #[((-1 : Int), (-1 : Int), top)] ++
          ((leafUpdates (thrOf th top) (distOf data dist) leaf_block[r].toList).map triple).toArray ∧
        U'[r].toList.filterMap updOf = leafUpdates (thrOf th top) (distOf data dist) leaf_block[r].toList) ∧
      (∀ b ∈ U'.toList, ∀ x ∈ b.toList, OkTriple N x) := by
  obtain ⟨U', e, hs, hrows⟩ := for_rows
    (GenK.generate_leaf_updates.loop0 leaf_block th data dist (leaf_block.size : Int)) leaf_block.size
    (fun r _ => (leafUpdates (thrOf th top) (distOf data dist) leaf_block[r].toList).map triple) (w + w)
    (fun _ _ _ hj => if_neg hj)
    (fun fuel U r hr hU hb => by
      have hnc : GenK.ncols leaf_block = w := (GenK.ncols_eq leaf_block (Nat.zero_lt_of_lt hr)).trans (hw 0 _)
      obtain ⟨i', h1⟩ := leaf_loop1 leaf_block th data dist top r w hr (hw r hr) hnc (hok r hr) (hok' r hr)
        fuel U 0 (hU ▸ hr) (Nat.zero_le _) hb
      simp only [GenK.generate_leaf_updates.loop0, cursor_lt, hr, ↓reduceIte, hnc, Option.bind_eq_bind]
      rw [← Int.natCast_zero, h1]
      rfl)
    fuel (Array.replicate leaf_block.size #[((-1 : Int), (-1 : Int), top)]) Array.size_replicate
    (Nat.add_assoc .. ▸ Nat.le_of_succ_le hf)
  have hrows' : ∀ r (h : r < leaf_block.size), U'[r]'(hs ▸ h) = #[((-1 : Int), (-1 : Int), top)] ++
      ((leafUpdates (thrOf th top) (distOf data dist) leaf_block[r].toList).map triple).toArray :=
    fun r h => by rw [hrows r h, Array.getElem_replicate]
  obtain ⟨hread, hokT⟩ := rows_read (N := N) _ hs hrows' (fun r hr u hu => by
    obtain ⟨_, ha, hc⟩ := leafUpdates_truthful _ _ _ u hu
    exact ⟨(hN r hr).of_mem ha, (hN r hr).of_mem hc⟩)
  refine ⟨U', ?_, hs, fun r _ h => ⟨hrows' r h, hread r h⟩, hokT⟩
  simp only [GenK.generate_leaf_updates, Int.toNat_natCast, Option.bind_eq_bind, e, Option.bind_some]
  rfl

/-- the generated `generate_leaf_updates` executed by the Lean kernel (`Nat` "distances": `dist a b = |a[0] - b[0]|`):
one leaf row `[0, 2, 1, -1]` over the points `5, 9, 6` with thresholds `2, 100, 0`: the pairs `(0,2)` (distance 4: beats
only the threshold of 2), `(0,1)` (distance 1: beats only the threshold of 0) and `(2,1)` (distance 3: beats only the
threshold of 2) are emitted in this order; the hole `-1` ends both loops; a leaf entry `7` beyond `data` makes the kernel read out of bounds -/
example : GenK.generate_leaf_updates 12 (1000 : Nat) #[#[0, 2, 1, -1]] #[2, 0, 100] #[#[5], #[6], #[9]]
      (fun a b => if a[0]! ≤ b[0]! then b[0]! - a[0]! else a[0]! - b[0]!)
    = some #[#[(-1, -1, 1000), (0, 2, 4), (0, 1, 1), (2, 1, 3)]] := by decide +kernel
example : (GenK.generate_leaf_updates 12 (1000 : Nat) #[#[0, 7]] #[2, 0, 100] #[#[5], #[6], #[9]]
      (fun a b => a[0]! + b[0]!)).isSome = false := by decide +kernel

/-- **`pynndescent_.generate_graph_updates` (the local join) is the model's `joinUpdates`.**  For candidate blocks
`new_candidate_block`, `old_candidate_block` of the same shape (`m` rows of `w = max_candidates` entries) whose
non-negative entries are row numbers of `data`, of `dist_thresholds` and `< N`, and `fuel ≥ m + 2w + 3`: the translated
kernel never reads outside an array; list `i` of its result is the placeholder followed by exactly the model's
`joinUpdates` of the two candidate rows of vertex `i` — for every new candidate `p`: the new candidates from its own
position on (self pair included), then all old candidates, negative entries skipped, test `d ≤ thr p ∨ d ≤ thr q`, in
the code's order; read through `updOf` it *is* that list; and every triple satisfies `OkTriple N`, so the result feeds
the appliers' refinement theorems (C12) — `local_join_delivers_both` then speaks about updates the generated kernel
produced.  No order axioms. -/
theorem kernel_generate_graph_updates_refines {Q : Type} [LE Q] [LT Q] [DecidableLE Q] [DecidableLT Q]
    (nb ob : Array (Array Int)) (th : Array Q) (data : Array (Array Q))
    (dist : Array Q → Array Q → Q) (top : Q) (w N : Nat) (hob : ob.size = nb.size)
    (hw : ∀ r (h : r < nb.size), nb[r].size = w ∧ (ob[r]'(by omega)).size = w)
    (hok : ∀ r (h : r < nb.size), LeafRowOk nb[r] data.size ∧ LeafRowOk nb[r] th.size ∧
      LeafRowOk (ob[r]'(by omega)) data.size ∧ LeafRowOk (ob[r]'(by omega)) th.size)
    (hN : ∀ r (h : r < nb.size), LeafRowOk nb[r] N ∧ LeafRowOk (ob[r]'(by omega)) N)
    (fuel : Nat) (hf : nb.size + w + w + 3 ≤ fuel) :
    ∃ U', GenK.generate_graph_updates fuel top nb ob th data dist = some U' ∧ U'.size = nb.size ∧
      (∀ r (h : r < U'.size) (h' : r < nb.size),
        U'[r] = #[((-1 : Int), (-1 : Int), top)] ++
          ((joinUpdates (thrOf th top) (distOf data dist) nb[r].toList (ob[r]'(by omega)).toList).map triple).toArray ∧
        U'[r].toList.filterMap updOf
          = joinUpdates (thrOf th top) (distOf data dist) nb[r].toList (ob[r]'(by omega)).toList) ∧
      (∀ b ∈ U'.toList, ∀ x ∈ b.toList, OkTriple N x) := by
  obtain ⟨U', e, hs, hrows⟩ := for_rows
    (GenK.generate_graph_updates.loop0 nb ob th data dist (GenK.ncols nb : Int) (nb.size : Int)) nb.size
    (fun r hr => (joinUpdates (thrOf th top) (distOf data dist) nb[r].toList (ob[r]'(hob ▸ hr)).toList).map triple)
    (w + w)
    (fun _ _ _ hj => if_neg hj)
    (fun fuel U r hr hU hb => by
      have hnc : GenK.ncols nb = w := (GenK.ncols_eq nb (Nat.zero_lt_of_lt hr)).trans (hw 0 _).1
      obtain ⟨o1, o2, o3, o4⟩ := hok r hr
      obtain ⟨j', h1⟩ := graph_loop1 nb ob th data dist top r w hr (hob ▸ hr) (hw r hr).1 (hw r hr).2 o1 o2 o3 o4
        fuel U 0 (hU ▸ hr) (Nat.zero_le _) hb
      simp only [GenK.generate_graph_updates.loop0, cursor_lt, hr, ↓reduceIte, hnc, Option.bind_eq_bind]
      rw [← Int.natCast_zero, h1]
      rfl)
    fuel (Array.replicate nb.size #[((-1 : Int), (-1 : Int), top)]) Array.size_replicate
    (Nat.add_assoc .. ▸ Nat.le_of_succ_le (Nat.le_of_succ_le hf))
  have hrows' : ∀ r (h : r < nb.size), U'[r]'(hs ▸ h) = #[((-1 : Int), (-1 : Int), top)] ++
      ((joinUpdates (thrOf th top) (distOf data dist) nb[r].toList (ob[r]'(hob ▸ h)).toList).map triple).toArray :=
    fun r h => by rw [hrows r h, Array.getElem_replicate]
  obtain ⟨hread, hokT⟩ := rows_read (N := N) _ hs hrows' (fun r hr u hu => by
    obtain ⟨_, ha, hc⟩ := joinUpdates_truthful _ _ _ _ u hu
    exact ⟨(hN r hr).1.of_mem ha, hc.elim (hN r hr).1.of_mem (hN r hr).2.of_mem⟩)
  refine ⟨U', ?_, hs, fun r _ h => ⟨hrows' r h, hread r h⟩, hokT⟩
  simp only [GenK.generate_graph_updates, Int.toNat_natCast, Option.bind_eq_bind, e, Option.bind_some]
  rfl

/-- the update list the appliers read off the result: the `joinUpdates` of the block's vertices, concatenated -/
private theorem generate_graph_updates_updsOf {Q : Type} [LE Q] [LT Q] [DecidableLE Q] [DecidableLT Q]
    (nb ob : Array (Array Int)) (th : Array Q) (data : Array (Array Q))
    (dist : Array Q → Array Q → Q) (top : Q) (w N : Nat) (hob : ob.size = nb.size)
    (hw : ∀ r (h : r < nb.size), nb[r].size = w ∧ (ob[r]'(hob ▸ h)).size = w)
    (hok : ∀ r (h : r < nb.size), LeafRowOk nb[r] data.size ∧ LeafRowOk nb[r] th.size ∧
      LeafRowOk (ob[r]'(hob ▸ h)) data.size ∧ LeafRowOk (ob[r]'(hob ▸ h)) th.size)
    (hN : ∀ r (h : r < nb.size), LeafRowOk nb[r] N ∧ LeafRowOk (ob[r]'(hob ▸ h)) N)
    (fuel : Nat) (hf : nb.size + w + w + 3 ≤ fuel) :
    ∃ U', GenK.generate_graph_updates fuel top nb ob th data dist = some U' ∧
      updsOf U' = (List.range nb.size).flatMap (fun r =>
        joinUpdates (thrOf th top) (distOf data dist) nb[r]!.toList ob[r]!.toList) ∧
      (∀ b ∈ U'.toList, ∀ x ∈ b.toList, OkTriple N x) := by
  obtain ⟨U', h1, hs, hrow, hokT⟩ := kernel_generate_graph_updates_refines nb ob th data dist top w N hob hw hok hN fuel hf
  refine ⟨U', h1, ?_, hokT⟩
  rw [updsOf_eq_flatMap]
  refine flatMap_rows_read (List.range nb.size) _ (hs.trans List.length_range.symm) fun r h => ?_
  have hr : r < nb.size := hs ▸ h
  rw [(hrow r h hr).2, List.getElem_range, getElem!_pos nb r hr, getElem!_pos ob r (hob ▸ hr)]

/-- the generated local join executed by the Lean kernel: vertex 0 with new candidates `[1, -1, 2]` and old candidates
`[0, -1, -1]` over the points `5, 6, 9` (distance `|a - b|`), thresholds `0, 3, 100`: the self pairs `(1,1,0)`, `(2,2,0)`, the
pair `(1,2,3)` and the new × old pairs `(1,0,1)`, `(2,0,4)`; the `-1` holes are skipped, not stopped at -/
example : GenK.generate_graph_updates 12 (1000 : Nat) #[#[1, -1, 2]] #[#[0, -1, -1]] #[0, 3, 100] #[#[5], #[6], #[9]]
      (fun a b => if a[0]! ≤ b[0]! then b[0]! - a[0]! else a[0]! - b[0]!)
    = some #[#[(-1, -1, 1000), (1, 1, 0), (1, 2, 3), (1, 0, 1), (2, 2, 0), (2, 0, 4)]] := by decide +kernel

/-- **All rows of a block at once (leaf updates).**  Corollary of `kernel_generate_leaf_updates_refines`: the whole
result of the regenerated `generate_leaf_updates`, read through `updOf` and concatenated in block order, is the
concatenation of the model's `leafUpdates` over the rows of `leaf_block` — the update list `init_rp_tree` hands to the
applier for that block is exactly the one the model (`initRpTree`) feeds to `applyBoth`. -/
theorem kernel_leaf_updates_all_rows {Q : Type} [LE Q] [LT Q] [DecidableLE Q] [DecidableLT Q]
    (leaf_block : Array (Array Int)) (th : Array Q) (data : Array (Array Q))
    (dist : Array Q → Array Q → Q) (top : Q) (w N : Nat)
    (hw : ∀ r (h : r < leaf_block.size), leaf_block[r].size = w)
    (hok : ∀ r (h : r < leaf_block.size), LeafRowOk leaf_block[r] data.size)
    (hok' : ∀ r (h : r < leaf_block.size), LeafRowOk leaf_block[r] th.size)
    (hN : ∀ r (h : r < leaf_block.size), LeafRowOk leaf_block[r] N)
    (fuel : Nat) (hf : leaf_block.size + w + w + 2 ≤ fuel) :
    ∃ U', GenK.generate_leaf_updates fuel top leaf_block th data dist = some U' ∧
      U'.toList.flatMap (fun b => b.toList.filterMap updOf)
        = leaf_block.toList.flatMap (fun row => leafUpdates (thrOf th top) (distOf data dist) row.toList) := by
  obtain ⟨U', h1, hs, hrow, _⟩ :=
    kernel_generate_leaf_updates_refines leaf_block th data dist top w N hw hok hok' hN fuel hf
  refine ⟨U', h1, flatMap_rows_read leaf_block.toList _ (hs.trans Array.length_toList.symm) fun r h => ?_⟩
  rw [Array.getElem_toList]
  exact (hrow r h (hs ▸ h)).2

/-- **All rows of a block at once (local join).**  Corollary of `kernel_generate_graph_updates_refines`: the whole
result of the regenerated `generate_graph_updates`, read through `updOf` and concatenated in block order, is the
concatenation over the block's vertices of the model's `joinUpdates`; in particular every update the kernel hands to the
applier comes from the candidate rows of some vertex of the block — the kernel invents no pair.  This list is an `ups` of
`local_join_delivers_both`. -/
theorem kernel_local_join_all_rows {Q : Type} [LE Q] [LT Q] [DecidableLE Q] [DecidableLT Q]
    (nb ob : Array (Array Int)) (th : Array Q) (data : Array (Array Q))
    (dist : Array Q → Array Q → Q) (top : Q) (w N : Nat) (hob : ob.size = nb.size)
    (hw : ∀ r (h : r < nb.size), nb[r].size = w ∧ (ob[r]'(by omega)).size = w)
    (hok : ∀ r (h : r < nb.size), LeafRowOk nb[r] data.size ∧ LeafRowOk nb[r] th.size ∧
      LeafRowOk (ob[r]'(by omega)) data.size ∧ LeafRowOk (ob[r]'(by omega)) th.size)
    (hN : ∀ r (h : r < nb.size), LeafRowOk nb[r] N ∧ LeafRowOk (ob[r]'(by omega)) N)
    (fuel : Nat) (hf : nb.size + w + w + 3 ≤ fuel) :
    ∃ U', GenK.generate_graph_updates fuel top nb ob th data dist = some U' ∧
      U'.toList.flatMap (fun b => b.toList.filterMap updOf)
        = (List.range nb.size).flatMap (fun r =>
            joinUpdates (thrOf th top) (distOf data dist) nb[r]!.toList ob[r]!.toList) ∧
      (∀ u ∈ U'.toList.flatMap (fun b => b.toList.filterMap updOf),
        ∃ r, r < nb.size ∧
          u ∈ joinUpdates (thrOf th top) (distOf data dist) nb[r]!.toList ob[r]!.toList) := by
  obtain ⟨U', h1, hflat, _⟩ := generate_graph_updates_updsOf nb ob th data dist top w N hob hw hok hN fuel hf
  rw [updsOf_eq_flatMap] at hflat
  refine ⟨U', h1, hflat, fun u hu => ?_⟩
  obtain ⟨r, hr, hur⟩ := List.mem_flatMap.mp (hflat ▸ hu)
  exact ⟨r, List.mem_range.mp hr, hur⟩

/-- **One local-join step of the regenerated code, end to end.**  Compose the two refinement theorems: run the
regenerated `generate_graph_updates` on a block of candidate rows, hand *its result* to the regenerated
`apply_graph_updates_low_memory` (any positive thread count `T`, any bound `M` on the block sizes, enough fuel) on a
rectangular `n × k` graph with `n = D.size` bounding the candidates.  Neither kernel reads or writes outside an array, and
the graph that comes back is the model's `applyLow T` of the old graph with the concatenated `joinUpdates` of the block's
vertices — so `local_join_delivers_both` (every pair is offered to both endpoints, rows are fed in update order) is a
statement about what these two pieces of library code compute together, not only about the model. -/
theorem kernel_local_join_then_apply {Q : Type} [LE Q] [LT Q] [DecidableLE Q] [DecidableLT Q]
    (nb ob : Array (Array Int)) (th : Array Q) (data : Array (Array Q))
    (dist : Array Q → Array Q → Q) (top : Q) (w : Nat) (hob : ob.size = nb.size)
    (k : Nat) (hk : 0 < k) (I : Array (Array Int)) (D : Array (Array Q)) (F : Array (Array Int))
    (hI : I.size = D.size) (hF : F.size = D.size)
    (hrect : ∀ r (h : r < D.size), D[r].size = k ∧ (I[r]'(by omega)).size = k ∧ (F[r]'(by omega)).size = k)
    (hw : ∀ r (h : r < nb.size), nb[r].size = w ∧ (ob[r]'(by omega)).size = w)
    (hok : ∀ r (h : r < nb.size), LeafRowOk nb[r] data.size ∧ LeafRowOk nb[r] th.size ∧
      LeafRowOk (ob[r]'(by omega)) data.size ∧ LeafRowOk (ob[r]'(by omega)) th.size)
    (hN : ∀ r (h : r < nb.size), LeafRowOk nb[r] D.size ∧ LeafRowOk (ob[r]'(by omega)) D.size)
    (fuel : Nat) (hf : nb.size + w + w + 3 ≤ fuel) :
    ∃ U', GenK.generate_graph_updates fuel top nb ob th data dist = some U' ∧
      ∀ (T M fuel' : Nat), 0 < T → (∀ b ∈ U'.toList, b.size ≤ M) → T + U'.size + M + k + 3 ≤ fuel' →
        ∃ I' D' F' c, GenK.apply_graph_updates_low_memory fuel' I D F U' (T : Int) = some (I', D', F', c) ∧
          zipGraph D' I' F' = (applyLow T (zipGraph D I F) ((List.range nb.size).flatMap (fun r =>
            joinUpdates (thrOf th top) (distOf data dist) nb[r]!.toList ob[r]!.toList))).1 := by
  obtain ⟨U', h1, hflat, hokT⟩ :=
    generate_graph_updates_updsOf nb ob th data dist top w D.size hob hw hok hN fuel hf
  refine ⟨U', h1, fun T M fuel' hT hM hf' => ?_⟩
  obtain ⟨I', D', F', hrun, _, _, _, _, hz⟩ :=
    C12.kernel_apply_graph_updates_low_memory_refines k hk I D F U' T M hT hI hF hrect hM hokT fuel' hf'
  exact ⟨I', D', F', _, hrun, by rw [hz, hflat]⟩

/-- the composition executed by the Lean kernel: three points `5, 6, 9`, vertex 0 with new candidates `1, 2` and old candidate
`0`, an empty `3 × 2` graph, two threads: the five updates of the example above give 7 accepted pushes (row 1 holds itself,
through the self pair — as in the library) -/
example : ((GenK.generate_graph_updates 12 (1000 : Nat) #[#[1, -1, 2], #[-1, -1, -1], #[-1, -1, -1]]
      #[#[0, -1, -1], #[-1, -1, -1], #[-1, -1, -1]] #[0, 3, 100] #[#[5], #[6], #[9]]
      (fun a b => if a[0]! ≤ b[0]! then b[0]! - a[0]! else a[0]! - b[0]!)).bind fun u =>
    GenK.apply_graph_updates_low_memory 30 #[#[-1, -1], #[-1, -1], #[-1, -1]]
      #[#[1000, 1000], #[1000, 1000], #[1000, 1000]] #[#[0, 0], #[0, 0], #[0, 0]] u 2)
    = some (#[#[2, 1], #[0, 1], #[1, 2]], #[#[4, 1], #[1, 0], #[3, 0]], #[#[1, 1], #[1, 1], #[1, 1]], 7) := by
  decide +kernel

/-- **The same step through the high-memory applier.**  The regenerated `generate_graph_updates` piped into the
regenerated `apply_graph_updates_high_memory` (with any `in_graph` record `s` of one set per row): in bounds throughout, and
the graph that comes back is the model's `applyHigh` of the concatenated `joinUpdates`.  With C12's hypotheses on the old
graph and record (`kernel_high_memory_eq_low_memory`) this is the graph of `kernel_local_join_then_apply`. -/
theorem kernel_local_join_then_apply_high {Q : Type} [LE Q] [LT Q] [DecidableLE Q] [DecidableLT Q]
    (nb ob : Array (Array Int)) (th : Array Q) (data : Array (Array Q))
    (dist : Array Q → Array Q → Q) (top : Q) (w : Nat) (hob : ob.size = nb.size)
    (k : Nat) (hk : 0 < k) (I : Array (Array Int)) (D : Array (Array Q)) (F : Array (Array Int)) (s : InGraph)
    (hI : I.size = D.size) (hF : F.size = D.size) (hS : s.size = D.size)
    (hrect : ∀ r (h : r < D.size), D[r].size = k ∧ (I[r]'(by omega)).size = k ∧ (F[r]'(by omega)).size = k)
    (hw : ∀ r (h : r < nb.size), nb[r].size = w ∧ (ob[r]'(by omega)).size = w)
    (hok : ∀ r (h : r < nb.size), LeafRowOk nb[r] data.size ∧ LeafRowOk nb[r] th.size ∧
      LeafRowOk (ob[r]'(by omega)) data.size ∧ LeafRowOk (ob[r]'(by omega)) th.size)
    (hN : ∀ r (h : r < nb.size), LeafRowOk nb[r] D.size ∧ LeafRowOk (ob[r]'(by omega)) D.size)
    (fuel : Nat) (hf : nb.size + w + w + 3 ≤ fuel) :
    ∃ U', GenK.generate_graph_updates fuel top nb ob th data dist = some U' ∧
      ∀ (M fuel' : Nat), (∀ b ∈ U'.toList, b.size ≤ M) → U'.size + M + k + 2 ≤ fuel' →
        ∃ I' D' F' s' c, GenK.apply_graph_updates_high_memory fuel' I D F U' s = some (I', D', F', s', c) ∧
          zipGraph D' I' F' = (applyHigh (zipGraph D I F) ((List.range nb.size).flatMap (fun r =>
            joinUpdates (thrOf th top) (distOf data dist) nb[r]!.toList ob[r]!.toList)) s).1.1 := by
  obtain ⟨U', h1, hflat, hokT⟩ :=
    generate_graph_updates_updsOf nb ob th data dist top w D.size hob hw hok hN fuel hf
  refine ⟨U', h1, fun M fuel' hM hf' => ?_⟩
  obtain ⟨I', D', F', hrun, _, _, _, _, hz⟩ :=
    C12.kernel_apply_graph_updates_high_memory_refines k hk I D F U' s M hI hF hS hrect hM hokT fuel' hf'
  exact ⟨I', D', F', _, _, hrun, by rw [hz, hflat]⟩

/-- **Both memory modes compute the same local-join step — on the regenerated code.**  Old graph with heap order and true
distances in its rows (`HeapTruth`), a valid `in_graph` record, a symmetric distance: the update lists the regenerated
`generate_graph_updates` produces are truthful (`joinUpdates_truthful`), so feeding them to the regenerated high-memory
applier and to the regenerated low-memory applier (any positive thread count) gives the same graph; all three kernels stay in
bounds.  (C12 for one step, with the updates being those the library generates rather than an arbitrary truthful list.) -/
theorem kernel_local_join_step_low_eq_high
    (nb ob : Array (Array Int)) (th : Array P) (data : Array (Array P))
    (dist : Array P → Array P → P) (top : P) (w : Nat) (hob : ob.size = nb.size)
    (k : Nat) (hk : 0 < k) (I : Array (Array Int)) (D : Array (Array P)) (F : Array (Array Int)) (s : InGraph)
    (hI : I.size = D.size) (hF : F.size = D.size) (hS : s.size = D.size)
    (hrect : ∀ r (h : r < D.size), D[r].size = k ∧ (I[r]'(by omega)).size = k ∧ (F[r]'(by omega)).size = k)
    (hw : ∀ r (h : r < nb.size), nb[r].size = w ∧ (ob[r]'(by omega)).size = w)
    (hok : ∀ r (h : r < nb.size), LeafRowOk nb[r] data.size ∧ LeafRowOk nb[r] th.size ∧
      LeafRowOk (ob[r]'(by omega)) data.size ∧ LeafRowOk (ob[r]'(by omega)) th.size)
    (hN : ∀ r (h : r < nb.size), LeafRowOk nb[r] D.size ∧ LeafRowOk (ob[r]'(by omega)) D.size)
    (fuel : Nat) (hf : nb.size + w + w + 3 ≤ fuel)
    (hsymm : ∀ a b, distOf data dist a b = distOf data dist b a)
    (hH : HeapTruth (distOf data dist) (zipGraph D I F))
    (hInv : InGraphInv (distOf data dist) (zipGraph D I F) s) :
    ∃ U', GenK.generate_graph_updates fuel top nb ob th data dist = some U' ∧
      ∀ (T M fuel' : Nat), 0 < T → (∀ b ∈ U'.toList, b.size ≤ M) → T + U'.size + M + k + 3 ≤ fuel' →
        ∃ Ih Dh Fh sh ch Il Dl Fl cl,
          GenK.apply_graph_updates_high_memory fuel' I D F U' s = some (Ih, Dh, Fh, sh, ch) ∧
          GenK.apply_graph_updates_low_memory fuel' I D F U' (T : Int) = some (Il, Dl, Fl, cl) ∧
          zipGraph Dh Ih Fh = zipGraph Dl Il Fl := by
  obtain ⟨U', h1, hflat, hokT⟩ :=
    generate_graph_updates_updsOf nb ob th data dist top w D.size hob hw hok hN fuel hf
  refine ⟨U', h1, fun T M fuel' hT hM hf' => ?_⟩
  obtain ⟨Ih, Dh, Fh, sh, Il, Dl, Fl, c, hh, hl, hz, _⟩ := C12.kernel_high_memory_eq_low_memory k hk I D F U' s
    T M hT hI hF hS hrect hM hokT fuel' hf' (distOf data dist) hsymm hH hInv
    (hflat ▸ truthful_flatMap _ _ _ fun r _ u hu => (joinUpdates_truthful _ _ _ _ u hu).1)
  exact ⟨Ih, Dh, Fh, sh, c, Il, Dl, Fl, c, hh, hl, hz⟩

/-- non-vacuity of `kernel_local_join_step_low_eq_high`: the arrays `make_heap(n, k)` returns (all `top`, `-1`, `0`) with
empty `in_graph` sets satisfy its two hypotheses on the old graph, for every `n`, `k` and distance — the state NN-descent
starts from. -/
theorem low_eq_high_hypotheses_satisfiable (top : P) (n k : Nat) (dist : Nat → Nat → P) :
    HeapTruth dist (zipGraph (Array.replicate n (Array.replicate k top))
      (Array.replicate n (Array.replicate k (-1 : Int))) (Array.replicate n (Array.replicate k (0 : Int)))) ∧
    InGraphInv dist (zipGraph (Array.replicate n (Array.replicate k top))
      (Array.replicate n (Array.replicate k (-1 : Int))) (Array.replicate n (Array.replicate k (0 : Int))))
      (Array.replicate n []) := by
  rw [zipGraph_replicate]
  refine ⟨mkGraph_heapTruth top n k dist, by simp, ?_⟩
  intro p row _ q hq
  -- nothing is recorded
  obtain ⟨l, hl, hmem⟩ := (InGraph.has_iff _ p q).mp hq
  obtain ⟨_, rfl⟩ := Array.getElem?_eq_some_iff.mp hl
  rw [Array.getElem_replicate] at hmem
  cases hmem

/-- **A single leaf is exact.**  Let `leaf` enumerate the points `0..n-1` exactly once (trailing
`-1` padding allowed), `dist` be symmetric with finite values, and
`g = init_rp_tree(empty graph, [leaf])`.  Then `g` has `n` rows of `k` slots and every row `p`:
(i) satisfies the top-k invariant `RowInv` for the offer set "all other points";
(ii) for every other point `q`: `q` is held, or every held neighbour is at most as far as `q` —
the row holds the `k` nearest other points, exactly, up to distance ties;
(iii) is full when `k ≤ n - 1`; and holds only other points (never `p` itself).
(All thresholds of the empty graph are `top`, so `generate_leaf_updates` emits every pair `i < j`
and both directions are pushed.)  The later refinement keeps this: by C13 a row's content only
improves, and the point itself enters its own row only through the `k ≥ j` enumeration of the
first local join (`self_pair_offered_twice_is_noop`). -/
theorem single_leaf_exact (top : P) (htop : ∀ x : P, x ≤ top) (dist : Nat → Nat → P)
    (hsymm : ∀ a b, dist a b = dist b a) (n k : Nat)
    (hfin : ∀ p q, p < n → q < n → dist p q < top) (leaf : List Int)
    (hleaf : (takeValid leaf).Perm (List.range n)) :
    let g := initRpTree top dist (mkGraph top n k) [leaf]
    g.size = n ∧
    ∀ p row, g[p]? = some row →
      row.size = k ∧
      RowInv top (dist p) (((List.range n).filter (fun q => q ≠ p)).map (fun q => (q, true))) row ∧
      (∀ q, q < n → q ≠ p →
        (∃ e ∈ row, e.idx = (q : Int)) ∨ (∀ e ∈ row, 0 ≤ e.idx → e.prio ≤ dist p q)) ∧
      (k ≤ n - 1 → ∀ e ∈ row, 0 ≤ e.idx) ∧
      (∀ e ∈ row, e.idx ≠ (p : Int)) := by
  intro g
  have hVmem : ∀ q, q ∈ takeValid leaf ↔ q < n := fun q => by rw [hleaf.mem_iff, List.mem_range]
  -- the update list: every pair of the leaf
  have hups : g = ((pairsLt (takeValid leaf)).map
      (fun pq => (⟨pq.1, pq.2, dist pq.1 pq.2⟩ : Upd P))).foldl applyBoth (mkGraph top n k) := by
    have hthr : threshold top (mkGraph top n k) = fun _ => top := funext (threshold_mkGraph top n k)
    simp only [g, initRpTree, chunks_singleton, List.foldl_cons, List.foldl_nil, List.flatMap_cons,
      List.flatMap_nil, List.append_nil, hthr]
    rw [leafUpdates_top]
    intro pq hpq
    have := mem_pairsLt hpq
    exact hfin _ _ ((hVmem _).mp this.1) ((hVmem _).mp this.2)
  have hsize : g.size = n := by rw [hups, applyBoth_fold_size, mkGraph_size]
  refine ⟨hsize, fun p row hrow => ?_⟩
  have hp : p < n := hsize ▸ (Array.getElem?_eq_some_iff.mp hrow).1
  -- row `p` is the empty row fed with the offers of `p`
  rw [hups, applyBoth_fold_row, mkGraph_getElem?, if_pos hp, Option.map_some, Option.some.injEq] at hrow
  -- the offers are the other points of the leaf with their distances: a run of pushes as in `Proofs/TopK.lean`
  obtain ⟨L, hset, hoffs⟩ := offersFor_leaf dist hsymm (takeValid leaf) (hleaf.nodup_iff.mpr List.nodup_range)
    p ((hVmem p).mpr hp)
  rw [hoffs, feed_eq_foldl_push] at hrow
  have hinv : RowInv top (dist p) (((List.range n).filter (fun q => q ≠ p)).map (fun q => (q, true))) row := by
    refine hrow ▸ (run_inv true top htop k (dist p) _ nofun).congr fun x => ?_
    -- either list holds exactly the `q < n` other than `p`
    rw [List.mem_map, List.mem_map]
    simp only [hset, hVmem, List.mem_filter, List.mem_range, decide_eq_true_eq]
  have hoff : ∀ q, q < n → q ≠ p →
      (q, true) ∈ ((List.range n).filter (fun q => q ≠ p)).map (fun q => (q, true)) := fun q hq hne =>
    List.mem_map_of_mem (List.mem_filter.mpr ⟨List.mem_range.mpr hq, decide_eq_true hne⟩)
  have hrsize : row.size = k := hrow ▸ run_size true top k (dist p) _
  refine ⟨hrsize, hinv, ?_, ?_, ?_⟩
  · intro q hq hne
    exact Classical.or_iff_not_imp_left.mpr fun hheld e he hidx =>
      hinv.best e he hidx (q, true) (hoff q hq hne) (hfin p q hp hq) hheld
  · intro hk
    apply hinv.full_of_many ((List.range n).erase p) (List.nodup_range.erase p)
    · intro q hq
      obtain ⟨hne, hq⟩ := List.nodup_range.mem_erase_iff.mp hq
      exact ⟨true, hoff q (List.mem_range.mp hq) hne⟩
    · intro q hq
      exact hfin p q hp (List.mem_range.mp (List.mem_of_mem_erase hq))
    · rw [hrsize, List.length_erase_of_mem (List.mem_range.mpr hp), List.length_range]
      exact hk
  · intro e he heq
    have hm := (hinv.of_map.1 e he (heq ▸ Int.natCast_nonneg p)).1
    rw [heq, Int.toNat_natCast] at hm
    exact of_decide_eq_true (List.mem_filter.mp hm).2 rfl

/-! ## non-vacuity -/

/-- five points on a line, one leaf in scrambled order with padding, `k = 2`: every row holds its
two nearest other points, nearest first after `deheap_sort`; rows 2 and 3 have a distance tie
(`P = Nat` capped at 100). -/
example :
    ((initRpTree (100 : Nat) (fun a b => if a ≤ b then b - a else a - b) (mkGraph 100 5 2)
        [[3, 0, 4, 1, 2, -1, -1]]).map (fun r => (deheapSort r).toList.map (·.idx))).toList
      = [[1, 2], [0, 2], [3, 1], [4, 2], [3, 2]] := by decide +kernel

/-- an update is delivered to both endpoints, in every thread configuration -/
example :
    ((applyLow 3 (mkGraph (100 : Nat) 4 1) [⟨0, 3, 3⟩, ⟨1, 3, 2⟩]).1.map
        (fun r => r.toList.map (·.idx))).toList = [[3], [3], [-1], [1]] ∧
    applyLow 3 (mkGraph (100 : Nat) 4 1) [⟨0, 3, 3⟩, ⟨1, 3, 2⟩] =
      applyLow 1 (mkGraph (100 : Nat) 4 1) [⟨0, 3, 3⟩, ⟨1, 3, 2⟩] := by decide +kernel

end Pynn.C03
