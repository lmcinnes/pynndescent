import PynnVerif.Proofs.Diversify
import PynnVerif.Proofs.GenSearchGraph
import Mathlib.Data.Nat.Basic  -- `LinearOrder Nat` for the concrete examples at the end

/-!
# C16 — the search graph is a bounded-degree subgraph of the neighbour graph

Property theorems only (helper lemmas, and the definitions `Lists` and `ArgsortOk` that the statements use, live in
`Proofs/Diversify.lean`).

`Div.degreePrune zero m row` is `degree_prune_internal` on one CSR row (entries longer than
`np.sort(row)[m-1]` overwritten by `0.0`, only when the row has more than `m` entries);
`Div.elimZeros` is `eliminate_zeros()`.  `Div.searchGraphD zero eps top dist argsort m N draw1 draw2`
is the edge set that the model of `NNDescent._init_search_graph` computes from
the neighbour graph `N` (`N[u]` = the stored row of point `u`: `(index, length)` pairs in stored
order, `-1` padded) when the `c`-th evaluation of `tau_rand(rng_state + u) < diversify_prob` in row
`u` returns `draw1 u c` in the forward and `draw2 u c` in the second pass (in the code both passes
restart the same private stream `rng_state + u`, so `draw1 = draw2` there; the theorems do not need
it); `Div.searchGraph … = Div.searchGraphD … (fun _ _ => true) (fun _ _ => true)` is
`diversify_prob = 1`.  The model runs exactly in the order the code executes it: forward `diversify`, the
`<= 0 → FLOAT32_EPS` protection, COO→CSR without the `-1` columns (rows stay in list order: the
stale `has_canonical_format` flag of the hand-filled COO matrix makes `tocsr()` skip sorting), the
*second greedy pass over the same forward rows* that the code calls reverse diversification
(DESIGN Appendix E, note N8), the
real transposition, union by `maximum`, `setdiag(0)`, `degree_prune(m)`, binarisation.
`argsort` is whatever `np.argsort` does inside `diversify_csr` (a parameter: unstable on ties).
Rows are in caller numbering; the final row/column permutation by `_vertex_order` is a renaming that
`harness/c16.py` undoes before comparing the model's edge set with the real one, edge for edge.

`P` is any linear order (float32 without NaN), `zero`, `eps`, `top` model `0.0`, `FLOAT32_EPS`, `inf`.
-/
namespace Pynn.C16
open Pynn Pynn.Div
variable {P : Type} [LinearOrder P]

/-- **Degree bound.**  For `m ≥ 1`, after `degree_prune_internal` and `eliminate_zeros()` a row
either has at most `m` entries (it was no longer than the bound) or there is a cut value `cut` —
the length of one of the row's own entries — such that every kept entry has length `≤ cut`,
*fewer than `m`* kept entries are strictly shorter than `cut`, and every non-zero entry of length
`≤ cut` is kept.  So the out-degree is at most `m`, edges exactly as long as the longest kept one
excepted. -/
theorem prune_bound (zero : P) (m : Nat) (hm : 0 < m) (row : List (Ent P)) :
    (elimZeros zero (degreePrune zero m row)).length ≤ m ∨
    ∃ cut, cut ∈ row.map (·.2) ∧
      (∀ e ∈ elimZeros zero (degreePrune zero m row), e.2 ≤ cut) ∧
      ((elimZeros zero (degreePrune zero m row)).filter (fun e => decide (e.2 < cut))).length < m ∧
      (∀ e ∈ row, e.2 ≤ cut → isZero zero e.2 = false → e ∈ elimZeros zero (degreePrune zero m row)) := by
  rcases prune_cases zero m row with ⟨hlen, _⟩ | ⟨_, cut, hc, h⟩
  · exact Or.inl (Nat.le_trans (prune_sublist zero m row).length_le hlen)
  · refine Or.inr ⟨cut, cutValue_mem hc, fun e he => ?_, ?_, fun e he hle hnz => ?_⟩
    · rw [h] at he
      exact not_lt.mp (of_decide_eq_true (List.mem_filter.mp he).2)
    · -- the kept entries below the cut are among the row's entries below the cut
      rw [← List.countP_eq_length_filter]
      refine Nat.lt_of_le_of_lt (prune_sublist zero m row).countP_le ?_
      have := (cutValue_counts hm hc).1
      rwa [List.countP_map] at this
    · exact prune_mem_of_le he hnz (fun c hc' => by rw [hc] at hc'; cases hc'; exact hle)

/-- **Pruning keeps the row minimum**: a non-zero entry that is at least as short as every entry
of its row survives `degree_prune_internal` (for every `m`, even `m = 0`, where numba's
`np.sort(row)[-1]` wraps to the maximum and nothing is cut). -/
theorem prune_keeps_min (zero : P) (m : Nat) (row : List (Ent P)) (e : Ent P) (he : e ∈ row)
    (hmin : ∀ e' ∈ row, e.2 ≤ e'.2) (hnz : isZero zero e.2 = false) :
    e ∈ elimZeros zero (degreePrune zero m row) :=
  prune_mem_of_min he hmin hnz

/-- **Pruning only removes**: the pruned row is a sub-list of the row (entries and lengths intact). -/
theorem prune_subset (zero : P) (m : Nat) (row : List (Ent P)) :
    (elimZeros zero (degreePrune zero m row)).Sublist row :=
  prune_sublist zero m row

/-- **Square, no self-loops, every `diversify_prob`**: whatever the generator tests of the two
passes return, every edge `(u, v)` of the search graph has `u < n`, `0 ≤ v < n` (`n` = number of
points) and `v ≠ u`. -/
theorem searchGraphD_no_self_loops (zero eps top : P) (dist : Int → Int → P) (argsort : List P → List Nat)
    (m : Nat) (N : List (List (Ent P))) (draw1 draw2 : Nat → Nat → Bool) (u : Nat) (v : Int)
    (h : (u, v) ∈ searchGraphD zero eps top dist argsort m N draw1 draw2) :
    u < N.length ∧ 0 ≤ v ∧ v < N.length ∧ v ≠ (u : Int) := by
  obtain ⟨hu, hne, v', hv', rfl, _⟩ := searchGraphD_edge h
  exact ⟨hu, Int.natCast_nonneg v', Int.ofNat_lt.mpr hv', hne⟩

/-- **Square, no self-loops** (`diversify_prob = 1`): every edge `(u, v)` of the search graph has
`u < n`, `0 ≤ v < n` (`n` = number of points) and `v ≠ u`. -/
theorem searchGraph_no_self_loops (zero eps top : P) (dist : Int → Int → P) (argsort : List P → List Nat)
    (m : Nat) (N : List (List (Ent P))) (u : Nat) (v : Int)
    (h : (u, v) ∈ searchGraph zero eps top dist argsort m N) :
    u < N.length ∧ 0 ≤ v ∧ v < N.length ∧ v ≠ (u : Int) :=
  searchGraphD_no_self_loops zero eps top dist argsort m N _ _ u v h

/-- **Subgraph of the symmetrised neighbour graph, every `diversify_prob`**: whatever the generator
tests return, every edge `(u, v)` joins two points of which at least one lists the other in the
neighbour graph (`Lists N u v`: the stored row of `u` holds an entry with index `v`). -/
theorem searchGraphD_subgraph (zero eps top : P) (dist : Int → Int → P) (argsort : List P → List Nat)
    (m : Nat) (N : List (List (Ent P))) (draw1 draw2 : Nat → Nat → Bool) (u : Nat) (v : Int)
    (h : (u, v) ∈ searchGraphD zero eps top dist argsort m N draw1 draw2) :
    Lists N u v ∨ Lists N v.toNat (u : Int) := by
  obtain ⟨_, _, v', _, rfl, hor⟩ := searchGraphD_edge h
  rwa [Int.toNat_natCast]

/-- **Edges stay inside the connected components of the neighbour graph** (what `connect_graph`'s restricted search
relies on, `C20.restricted_search_stays_in_component`): for every labelling that is constant along the entries of the
neighbour graph — e.g. the component labels `scipy.sparse.csgraph.connected_components` computes for its
symmetrisation — both endpoints of every search-graph edge carry the same label, whatever the draws. -/
theorem searchGraphD_edges_within_components (zero eps top : P) (dist : Int → Int → P) (argsort : List P → List Nat)
    (m : Nat) (N : List (List (Ent P))) (draw1 draw2 : Nat → Nat → Bool) (comp : Nat → Nat)
    (hcomp : ∀ (a : Nat) (b : Int), Lists N a b → 0 ≤ b → comp b.toNat = comp a)
    (u : Nat) (v : Int) (h : (u, v) ∈ searchGraphD zero eps top dist argsort m N draw1 draw2) :
    comp v.toNat = comp u := by
  obtain ⟨_, _, v', _, rfl, h1 | h2⟩ := searchGraphD_edge h
  · exact hcomp u v' h1 (Int.natCast_nonneg v')
  · have := hcomp v' u h2 (Int.natCast_nonneg u)
    rw [Int.toNat_natCast] at this ⊢
    exact this.symm

/-- **Subgraph of the symmetrised neighbour graph** (`diversify_prob = 1`): every edge `(u, v)`
joins two points of which at least one lists the other in the neighbour graph (`Lists N u v`: the
stored row of `u` holds an entry with index `v`). -/
theorem searchGraph_subgraph (zero eps top : P) (dist : Int → Int → P) (argsort : List P → List Nat)
    (m : Nat) (N : List (List (Ent P))) (u : Nat) (v : Int)
    (h : (u, v) ∈ searchGraph zero eps top dist argsort m N) :
    Lists N u v ∨ Lists N v.toNat (u : Int) :=
  searchGraphD_subgraph zero eps top dist argsort m N _ _ u v h

/-- **Degree bound in the pipeline, every `diversify_prob`**: `prune_bound` applied where
`_init_search_graph` applies it.  For `m ≥ 1`, whatever the generator tests return, row `u` of the
final graph `fin` relates to its candidate row `cand` (after both passes, symmetrisation and diagonal
removal) as follows: `fin` has at most `m` entries, or there is a cut value — the length of a
candidate — such that every edge is `≤ cut`, *fewer than `m`* edges are strictly shorter than `cut`,
and every candidate of length `≤ cut` is an edge.  The out-edges of `u` in `searchGraphD` are exactly
the indices of `fin` (`Div.searchGraphD_mem`). -/
theorem searchGraphD_degree (zero eps top : P) (dist : Int → Int → P) (argsort : List P → List Nat)
    (m : Nat) (hm : 0 < m) (N : List (List (Ent P))) (draw1 draw2 : Nat → Nat → Bool) (u : Nat) :
    ((finalRowsD zero eps top dist argsort m N draw1 draw2).row u).length ≤ m ∨
    ∃ cut, cut ∈ ((uniRowsD zero eps top dist argsort N draw1 draw2).row u).map (·.2) ∧
      (∀ e ∈ (finalRowsD zero eps top dist argsort m N draw1 draw2).row u, e.2 ≤ cut) ∧
      (((finalRowsD zero eps top dist argsort m N draw1 draw2).row u).filter
        (fun e => decide (e.2 < cut))).length < m ∧
      (∀ e ∈ (uniRowsD zero eps top dist argsort N draw1 draw2).row u, e.2 ≤ cut →
        e ∈ (finalRowsD zero eps top dist argsort m N draw1 draw2).row u) := by
  by_cases hu : u < N.length
  · rw [finalRowsD_row, if_pos hu]
    rcases prune_bound zero m hm ((uniRowsD zero eps top dist argsort N draw1 draw2).row u) with
      h | ⟨cut, h1, h2, h3, h4⟩
    · exact Or.inl h
    · exact Or.inr ⟨cut, h1, h2, h3, fun e he hle => h4 e he hle (uniRowsD_nonzero he)⟩
  · rw [finalRowsD_row, if_neg hu]
    exact Or.inl (Nat.zero_le m)

/-
**Nearest neighbour kept — the full statement.**  For every point `u` whose stored row names
another point, let `v*` be the first entry of the row whose index is not `u` (the list-nearest
other point).  Then after `prepare` (every `diversify_prob`, every `_vertex_order`)
  (i)  row `u` of the search graph is not empty and holds a shortest entry of the symmetrised,
       diversified candidate row (`u` keeps an edge to its nearest neighbour in the graph), and
  (ii) `(u, v*)` is an edge unless `m` strictly shorter edges are kept (points that list `u` but
       that `u`'s own approximate list missed).

Proved below for the pipeline model in caller numbering, for EVERY outcome of the generator tests of
both passes (`draw1`, `draw2` arbitrary: every `diversify_prob`, every generator state), under the
invariants a real neighbour row has:
  * `hpre`  — the entries stored before `v*` have real indices and length `≤ eps` (the point itself
              at distance 0, exact duplicates): they can never pass the `> FLOAT32_EPS` guard;
  * `hpost` — the entries stored after it are at least as long (`deheap_sort`, C11);
  * `argsort` returns an ascending arrangement (any tie order);
  * `zero < eps`;
and one of
  * `htie`  (`searchGraph_nearest`)      — no OTHER point stored after `v*` at exactly the same
              length is strictly closer to `v*` than `u` is (vacuous when `v*` is the unique
              list-nearest point, the case `harness/c16.py` tests (ii) in); no symmetry needed;
  * `hfwd` + `hsym` (`searchGraph_nearest_fwd1`) — the forward pass of row `u` prunes on every
              successful test and the distance table is symmetric (the metric kernels are, bit for
              bit): a tied closer point was then removed by the forward pass already.  The second
              pass may draw anything.  `searchGraph_nearest_partial` is the case `diversify_prob = 1`.
Neither can be dropped for (ii): with `diversify_prob < 1` a tied later entry `y` that is closer to
`v*` can survive the forward pass by luck, an unstable `argsort` can visit `y` before `v*` in the
second pass, and `y` then occludes `v*` (the example `tieN` at the end: symmetric table, ascending
row, ONE draw stream shared by both passes as in the code — and `(u, v*)` is no edge; the real
kernels do the same on crafted rows of 17 and more entries of equal length, where numba's `argsort`
is not stable: `diversify`, the scipy glue and `diversify_csr` with one `rng_state`, probability
0.2 – 0.5, drop the first other entry of such a row in about one case of six).  What holds
without them is `searchGraph_nearest_tied`: `u` keeps an edge to `v*` *or to a point tied with it*,
which is (i).
The final renaming by `_vertex_order` is the subject of `searchGraphD_renamed` below (and is undone and
checked edge for edge by the harness).
-/

/-- **Nearest neighbour kept, every `diversify_prob`** (see the comment above for the full
statement and what is missing).  Whatever the generator tests of the two passes return, the
list-nearest other point `x = (v, d)` of `u` survives the forward pass, the protection, the second
greedy pass, the symmetrisation and the diagonal removal with some length `w'`; row `u` of the
final graph holds a shortest entry of that candidate row (so it is not empty); and `(u, v)` itself
is an edge unless at least `m` kept edges are strictly shorter than `w'`.
`htie`: no other point stored after `v` at exactly the length `d` is strictly closer to `v` than
`d` (the test the second kernel would evaluate with `v` as candidate). -/
theorem searchGraph_nearest (zero eps top : P) (hze : zero < eps) (dist : Int → Int → P)
    (argsort : List P → List Nat)
    (hbound : ∀ lens, ∀ i ∈ argsort lens, i < lens.length) (hnd : ∀ lens, (argsort lens).Nodup)
    (hsorted : ∀ lens, (argsort lens).Pairwise
      (fun a b => ∀ p q, lens[a]? = some p → lens[b]? = some q → p ≤ q))
    (draw1 draw2 : Nat → Nat → Bool)
    (m : Nat) (hm : 0 < m) (N : List (List (Ent P))) (u v : Nat) (d : P)
    (hu : u < N.length) (hv : v < N.length) (hne : v ≠ u)
    (pre post : List (Ent P)) (hrow : N.getD u [] = pre ++ ((v : Int), d) :: post)
    (hpre : ∀ e ∈ pre, 0 ≤ e.1 ∧ e.2 ≤ eps) (hpost : ∀ e ∈ post, d ≤ e.2)
    (htie : ∀ e ∈ post, e.2 = d → e.1 ≠ (v : Int) → ¬ dist (v : Int) e.1 < d) :
    ∃ w', ((v : Int), w') ∈ (uniRowsD zero eps top dist argsort N draw1 draw2).row u ∧
      (∃ e ∈ (finalRowsD zero eps top dist argsort m N draw1 draw2).row u,
          ∀ e' ∈ (uniRowsD zero eps top dist argsort N draw1 draw2).row u, e.2 ≤ e'.2) ∧
      ((u, (v : Int)) ∈ searchGraphD zero eps top dist argsort m N draw1 draw2 ∨
        m ≤ (((finalRowsD zero eps top dist argsort m N draw1 draw2).row u).filter
          (fun e => decide (e.2 < w'))).length) := by
  apply nearest_of_snd (w := protect zero eps d) hze hm hu hv hne
  rw [sndRowsD_row_lt hu, hrow]
  rcases secondRowD_nearest top dist hze ⟨hbound, hnd, hsorted⟩ (draw1 u) (draw2 u) ((v : Int), d)
    (Int.natCast_nonneg v) hpre hpost with h | ⟨y, _, hy, hyx, hy2, _, hd, _⟩
  · exact h
  · exact absurd hd (htie y hy hy2 fun h1 => hyx (Prod.ext h1 hy2))

/-- **Nearest neighbour kept, forward pass of row `u` with probability 1, any second pass**: the
conclusion of `searchGraph_nearest` with ties allowed (`htie` dropped), when the table is symmetric
and every successful test of the forward pass *in row `u`* prunes (`hfwd`; the other rows and the
whole second pass may draw anything). -/
theorem searchGraph_nearest_fwd1 (zero eps top : P) (hze : zero < eps) (dist : Int → Int → P)
    (hsym : ∀ a b, dist a b = dist b a) (argsort : List P → List Nat)
    (hbound : ∀ lens, ∀ i ∈ argsort lens, i < lens.length) (hnd : ∀ lens, (argsort lens).Nodup)
    (hsorted : ∀ lens, (argsort lens).Pairwise
      (fun a b => ∀ p q, lens[a]? = some p → lens[b]? = some q → p ≤ q))
    (draw1 draw2 : Nat → Nat → Bool)
    (m : Nat) (hm : 0 < m) (N : List (List (Ent P))) (u v : Nat) (d : P)
    (hfwd : ∀ c, draw1 u c = true)
    (hu : u < N.length) (hv : v < N.length) (hne : v ≠ u)
    (pre post : List (Ent P)) (hrow : N.getD u [] = pre ++ ((v : Int), d) :: post)
    (hpre : ∀ e ∈ pre, 0 ≤ e.1 ∧ e.2 ≤ eps) (hpost : ∀ e ∈ post, d ≤ e.2) :
    ∃ w', ((v : Int), w') ∈ (uniRowsD zero eps top dist argsort N draw1 draw2).row u ∧
      (∃ e ∈ (finalRowsD zero eps top dist argsort m N draw1 draw2).row u,
          ∀ e' ∈ (uniRowsD zero eps top dist argsort N draw1 draw2).row u, e.2 ≤ e'.2) ∧
      ((u, (v : Int)) ∈ searchGraphD zero eps top dist argsort m N draw1 draw2 ∨
        m ≤ (((finalRowsD zero eps top dist argsort m N draw1 draw2).row u).filter
          (fun e => decide (e.2 < w'))).length) := by
  apply nearest_of_snd (w := protect zero eps d) hze hm hu hv hne
  rw [sndRowsD_row_lt hu, hrow, show draw1 u = fun _ => true from funext hfwd]
  exact secondRowD_keeps_fwd1 top hze hsym ⟨hbound, hnd, hsorted⟩ (draw2 u) ((v : Int), d)
    (Int.natCast_nonneg v) hpre hpost

/-- **A nearest neighbour is kept — ties, every `diversify_prob`, every tie order** (part (i) of the
full statement).  With no hypothesis on tied entries beyond their being other real points
(`hreal`), whatever the generator tests return there is a point `t` — `v` itself or a point stored
after it at exactly the same length `d` — that survives both passes, the symmetrisation and the
diagonal removal; row `u` of the final graph holds a shortest entry of the candidate row (so it is
not empty); and `(u, t)` is an edge unless at least `m` kept edges are strictly shorter. -/
theorem searchGraph_nearest_tied (zero eps top : P) (hze : zero < eps) (dist : Int → Int → P)
    (argsort : List P → List Nat)
    (hbound : ∀ lens, ∀ i ∈ argsort lens, i < lens.length) (hnd : ∀ lens, (argsort lens).Nodup)
    (hsorted : ∀ lens, (argsort lens).Pairwise
      (fun a b => ∀ p q, lens[a]? = some p → lens[b]? = some q → p ≤ q))
    (draw1 draw2 : Nat → Nat → Bool)
    (m : Nat) (hm : 0 < m) (N : List (List (Ent P))) (u v : Nat) (d : P)
    (hu : u < N.length) (hv : v < N.length) (hne : v ≠ u)
    (pre post : List (Ent P)) (hrow : N.getD u [] = pre ++ ((v : Int), d) :: post)
    (hpre : ∀ e ∈ pre, 0 ≤ e.1 ∧ e.2 ≤ eps) (hpost : ∀ e ∈ post, d ≤ e.2)
    (hreal : ∀ e ∈ post, e.2 = d → ∃ t : Nat, e.1 = (t : Int) ∧ t < N.length ∧ t ≠ u) :
    ∃ (t : Nat) (w' : P), (t = v ∨ ((t : Int), d) ∈ post) ∧
      ((t : Int), w') ∈ (uniRowsD zero eps top dist argsort N draw1 draw2).row u ∧
      (∃ e ∈ (finalRowsD zero eps top dist argsort m N draw1 draw2).row u,
          ∀ e' ∈ (uniRowsD zero eps top dist argsort N draw1 draw2).row u, e.2 ≤ e'.2) ∧
      ((u, (t : Int)) ∈ searchGraphD zero eps top dist argsort m N draw1 draw2 ∨
        m ≤ (((finalRowsD zero eps top dist argsort m N draw1 draw2).row u).filter
          (fun e => decide (e.2 < w'))).length) := by
  have h := secondRowD_nearest top dist hze ⟨hbound, hnd, hsorted⟩ (draw1 u) (draw2 u) ((v : Int), d)
    (Int.natCast_nonneg v) hpre hpost
  rw [← hrow, ← sndRowsD_row_lt hu] at h
  rcases h with h | ⟨y, _, hy, _, hy2, _, _, h⟩
  · obtain ⟨w', h'⟩ := nearest_of_snd hze hm hu hv hne h
    exact ⟨v, w', Or.inl rfl, h'⟩
  · -- the tied entry that occludes `v` survives, and by `hreal` it is a point `t` other than `u`
    obtain ⟨t, ht, htn, htu⟩ := hreal y hy hy2
    rw [ht] at h
    obtain ⟨w', h'⟩ := nearest_of_snd hze hm hu htn htu h
    exact ⟨t, w', Or.inr ((Prod.ext ht hy2 : y = ((t : Int), d)) ▸ hy), h'⟩

/-- **Nearest neighbour kept, `diversify_prob = 1`** (`searchGraph_nearest_fwd1` when every test of
both passes prunes, stated for `searchGraph`).
The list-nearest other point `x = (v, d)` of `u` survives the forward pass, the protection, the
second greedy pass, the symmetrisation and the diagonal removal with some length `w'`; row `u` of
the final graph holds a shortest entry of that candidate row (so it is not empty); and `(u, v)`
itself is an edge unless at least `m` kept edges are strictly shorter than `w'`. -/
theorem searchGraph_nearest_partial (zero eps top : P) (hze : zero < eps) (dist : Int → Int → P)
    (hsym : ∀ a b, dist a b = dist b a) (argsort : List P → List Nat)
    (hbound : ∀ lens, ∀ i ∈ argsort lens, i < lens.length) (hnd : ∀ lens, (argsort lens).Nodup)
    (hsorted : ∀ lens, (argsort lens).Pairwise
      (fun a b => ∀ p q, lens[a]? = some p → lens[b]? = some q → p ≤ q))
    (m : Nat) (hm : 0 < m) (N : List (List (Ent P))) (u v : Nat) (d : P)
    (hu : u < N.length) (hv : v < N.length) (hne : v ≠ u)
    (pre post : List (Ent P)) (hrow : N.getD u [] = pre ++ ((v : Int), d) :: post)
    (hpre : ∀ e ∈ pre, 0 ≤ e.1 ∧ e.2 ≤ eps) (hpost : ∀ e ∈ post, d ≤ e.2) :
    ∃ w', ((v : Int), w') ∈ (uniRows zero eps top dist argsort N).row u ∧
      (∃ e ∈ (finalRows zero eps top dist argsort m N).row u,
          ∀ e' ∈ (uniRows zero eps top dist argsort N).row u, e.2 ≤ e'.2) ∧
      ((u, (v : Int)) ∈ searchGraph zero eps top dist argsort m N ∨
        m ≤ (((finalRows zero eps top dist argsort m N).row u).filter (fun e => decide (e.2 < w'))).length) :=
  searchGraph_nearest_fwd1 zero eps top hze dist hsym argsort hbound hnd hsorted
    (fun _ _ => true) (fun _ _ => true) m hm N u v d (fun _ => rfl) hu hv hne pre post hrow hpre hpost

/-! ## The final renaming by `_vertex_order`

`self._search_graph = self._search_graph[vo, :].tocsc()[:, vo]`: entry `(i, j)` of the stored graph is entry
`(vo[i], vo[j])` of the graph in caller numbering.  `vo` is a permutation of `0 … n-1` (the leaf order of the first search
tree, or the identity). -/

/-- `(i, j)` is an edge of the stored (internally numbered) graph -/
def RelEdge (vo : Nat → Nat) (E : List (Nat × Int)) (i j : Nat) : Prop := (vo i, (vo j : Int)) ∈ E

/-- **The clauses survive the renaming.**  For every draw stream and every permutation `vo` of `0 … n-1`: a stored edge never is a self-loop, it
joins two points of which (in caller numbering) one lists the other, and point `i` has exactly as many stored out-edges as
`vo i` has in caller numbering — so the degree bound and "keeps an edge to its nearest one" carry over verbatim. -/
theorem searchGraphD_renamed (zero eps top : P) (dist : Int → Int → P) (argsort : List P → List Nat)
    (m : Nat) (N : List (List (Ent P))) (draw1 draw2 : Nat → Nat → Bool) (vo : Nat → Nat) (n : Nat)
    (hperm : ((List.range n).map vo).Perm (List.range n)) :
    let E := searchGraphD zero eps top dist argsort m N draw1 draw2
    (∀ i j, i < n → j < n → RelEdge vo E i j → i ≠ j) ∧
    (∀ i j, RelEdge vo E i j → Lists N (vo i) (vo j : Int) ∨ Lists N (vo j) (vo i : Int)) ∧
    (∀ i, ((List.range n).filter (fun j => decide ((vo i, (vo j : Int)) ∈ E))).length =
          ((List.range n).filter (fun (v : Nat) => decide ((vo i, (v : Int)) ∈ E))).length) := by
  intro E
  refine ⟨?_, ?_, ?_⟩
  · rintro i _ _ _ h rfl
    exact (searchGraphD_no_self_loops zero eps top dist argsort m N draw1 draw2 _ _ h).2.2.2 rfl
  · intro i j h
    have := searchGraphD_subgraph zero eps top dist argsort m N draw1 draw2 _ _ h
    rwa [Int.toNat_natCast] at this
  · intro i
    -- counting over `j` is counting over `vo j`, and `vo` permutes `0 … n-1`
    refine Eq.trans ?_ (hperm.filter _).length_eq
    rw [List.filter_map, List.length_map]
    rfl

/-! ## non-vacuity -/

/-- `degree_prune_internal` with `m = 2` on lengths `[5, 1, 3, 3, 7]`: cut = `sorted[1]` = 3,
the entries `5` and `7` are removed, both ties at `3` stay (3 entries kept, 1 strictly below the cut). -/
example : elimZeros 0 (degreePrune 0 2 [((10 : Int), 5), (11, 1), (12, 3), (13, 3), (14, 7)])
    = [(11, 1), (12, 3), (13, 3)] := by decide +kernel

/-- rows no longer than the bound are untouched; `m = 0` wraps to the maximum and cuts nothing -/
example : elimZeros 0 (degreePrune 0 3 [((10 : Int), 5), (11, 1), (12, 3)]) = [(10, 5), (11, 1), (12, 3)] ∧
    elimZeros 0 (degreePrune 0 0 [((10 : Int), 5), (11, 1), (12, 3)]) = [(10, 5), (11, 1), (12, 3)] := by
  decide +kernel

/-! Four points on a line at `0, 2, 5, 11` (`P = Nat`, lengths scaled so that `eps = 1`, `zero = 0`),
neighbour lists of 3 (self first).  Forward pass: point 0 keeps only 1 (2 and 3 are behind it),
point 1 keeps 0 and 2, point 2 keeps 1 and 3, point 3 keeps 2; the symmetrised graph is the path
`0 - 1 - 2 - 3`; with `m = 1` every point keeps only its nearest neighbour.
(`decide +kernel`: the stages are `Array`s, whose operations the elaborator's `decide` does not
unfold; kernel evaluation adds no axioms.) -/

def lineX : List Nat := [0, 2, 5, 11]
def lineD (a b : Int) : Nat :=
  let p := lineX.getD a.toNat 0; let q := lineX.getD b.toNat 0
  10 * (if p ≤ q then q - p else p - q)
def lineN : List (List (Ent Nat)) :=
  [[(0, 0), (1, 20), (2, 50)], [(1, 0), (0, 20), (2, 30)], [(2, 0), (1, 30), (3, 60)], [(3, 0), (2, 60), (1, 90)]]

example : searchGraph 0 1 1000 lineD stableArgsort 2 lineN
    = [(0, 1), (1, 0), (1, 2), (2, 1), (2, 3), (3, 2)] := by decide +kernel
example : searchGraph 0 1 1000 lineD stableArgsort 1 lineN
    = [(0, 1), (1, 0), (2, 1), (3, 2)] := by decide +kernel

/-- the names without `D` are the instances for `diversify_prob = 1`, by definition -/
example (zero eps top : P) (dist : Int → Int → P) (argsort : List P → List Nat) (m : Nat)
    (N : List (List (Ent P))) :
    searchGraph zero eps top dist argsort m N =
      searchGraphD zero eps top dist argsort m N (fun _ _ => true) (fun _ _ => true) := rfl

/-! A draw stream that is not constant (the same in both passes, as in the code): the first
successful test of row 0 does not prune, everything else does.  Point 0 then keeps the edge to
point 2 (behind point 1) through both passes, point 2 gains the reverse edge `(2, 0)` of length 50
and, with `m = 2`, loses its longest candidate `(2, 3)` to the degree bound; `(3, 2)` stays.
With `m = 1` the draws do not show: every point keeps its nearest neighbour only. -/

def lineDraw : Nat → Nat → Bool := fun u c => decide (u ≠ 0 ∨ 0 < c)

example : searchGraphD 0 1 1000 lineD stableArgsort 2 lineN lineDraw lineDraw
    = [(0, 1), (0, 2), (1, 0), (1, 2), (2, 0), (2, 1), (3, 2)] := by decide +kernel
example : (uniRowsD 0 1 1000 lineD stableArgsort lineN lineDraw lineDraw).row 2
    = [(0, 50), (1, 30), (3, 60)] := by decide +kernel
example : searchGraphD 0 1 1000 lineD stableArgsort 1 lineN lineDraw lineDraw
    = [(0, 1), (1, 0), (2, 1), (3, 2)] := by decide +kernel
/-- probability 0 in both passes: nothing is diversified away, only the degree bound cuts -/
example : searchGraphD 0 1 1000 lineD stableArgsort 2 lineN (fun _ _ => false) (fun _ _ => false)
    = [(0, 1), (0, 2), (1, 0), (1, 2), (2, 0), (2, 1), (3, 1), (3, 2)] := by decide +kernel

/-! **`htie` cannot be dropped when `diversify_prob < 1`.**  Point 0 lists the points 1, 3, 2 at the
same length 20 (ascending row, self first); these three are at distance 10 from each other (a
symmetric table); none of them lists point 0.  One draw stream, shared by both passes as in the code:
the second successful test does not prune, all others do.  Forward pass of row 0: 3 is removed
(test 0 against 1), 2 survives (test 1).  Second pass with an `argsort` that returns tied positions
in reverse storage order (`revStableArgsort`, an ascending arrangement like any other): 2 is visited
before 1 and occludes it (test 0 prunes).  Row 0 is left with the edge to 2 only — `(0, 1)` is no
edge although point 1 is the first other point of the list and no edge is shorter (`m = 5`), which
is what `searchGraph_nearest_tied` allows and `searchGraph_nearest` (without `htie`) would forbid.
With the stable order, or with probability 1, `(0, 1)` is kept. -/

def tieD (a b : Int) : Nat := if a = b then 0 else if a = 0 ∨ b = 0 then 20 else 10
def tieN : List (List (Ent Nat)) :=
  [[(0, 0), (1, 20), (3, 20), (2, 20)], [(1, 0), (2, 10), (3, 10)], [(2, 0), (1, 10), (3, 10)],
   [(3, 0), (1, 10), (2, 10)]]
def tieDraw : Nat → Nat → Bool := fun _ c => decide (c ≠ 1)

example : (fwdRowsD 0 1 1000 tieD tieN tieDraw).row 0 = [(0, 1), (1, 20), (2, 20)] := by decide +kernel
/-- row 0 of the `tieN` instance after both passes and the symmetrisation, reverse tie order -/
theorem tieN_uniRow_zero :
    (uniRowsD 0 1 1000 tieD revStableArgsort tieN tieDraw tieDraw).row 0 = [(2, 20)] := by
  decide +kernel
example : (uniRowsD 0 1 1000 tieD revStableArgsort tieN tieDraw tieDraw).row 0 = [(2, 20)] :=
  tieN_uniRow_zero
example : searchGraphD 0 1 1000 tieD revStableArgsort 5 tieN tieDraw tieDraw
    = [(0, 2), (1, 2), (1, 3), (2, 0), (2, 1), (2, 3), (3, 1), (3, 2)] := by decide +kernel
example : (0, 1) ∈ searchGraphD 0 1 1000 tieD stableArgsort 5 tieN tieDraw tieDraw ∧
    (0, 1) ∈ searchGraph 0 1 1000 tieD revStableArgsort 5 tieN := by decide +kernel

/-- **The hypotheses on `argsort` are satisfiable** (`Div.ArgsortOk` = `hbound ∧ hnd ∧ hsorted` of
the theorems above, for every input): by the stable order and by the order that returns ties in
reverse storage order — two of the arrangements an unstable `np.argsort` may return. -/
theorem argsort_hypotheses_satisfiable :
    ArgsortOk (stableArgsort (P := P)) ∧ ArgsortOk (revStableArgsort (P := P)) :=
  ⟨stableArgsort_ok, revStableArgsort_ok⟩

/-- **`searchGraph_nearest` is false without `htie`** (and `searchGraph_nearest_partial` is false
for `diversify_prob < 1`): the instance above satisfies every other hypothesis — `zero < eps`,
a symmetric table, an admissible `argsort`, the row of point 0 split as `pre ++ (1, 20) :: post` with
`hpre` and `hpost` — the two passes even share one draw stream, and yet point 1 is not in the
candidate row of point 0, so the first conjunct of the conclusion fails. -/
theorem searchGraph_nearest_needs_htie :
    (0 : Nat) < 1 ∧ (∀ a b, tieD a b = tieD b a) ∧ ArgsortOk (revStableArgsort (P := Nat)) ∧
    tieN.getD 0 [] = [(0, 0)] ++ (((1 : Nat) : Int), 20) :: [(3, 20), (2, 20)] ∧
    (∀ e ∈ [((0 : Int), 0)], 0 ≤ e.1 ∧ e.2 ≤ 1) ∧ (∀ e ∈ [((3 : Int), 20), (2, 20)], 20 ≤ e.2) ∧
    ¬ ∃ w', (((1 : Nat) : Int), w') ∈ (uniRowsD 0 1 1000 tieD revStableArgsort tieN tieDraw tieDraw).row 0 := by
  refine ⟨by decide, ?_, revStableArgsort_ok, by decide, by decide, by decide, ?_⟩
  · exact fun a b => if_congr eq_comm rfl (if_congr or_comm rfl rfl)
  · rw [tieN_uniRow_zero]
    rintro ⟨w', hw'⟩
    cases List.mem_singleton.mp hw'

/-! ## the translated `degree_prune_internal` (`Gen/SearchGraphKernels.lean`) refines the model

`GenSG.degree_prune_internal fuel indptr data max_degree` is the syntax-directed translation of the
source text of `pynndescent_.degree_prune_internal` (`harness/translate_searchgraph.py`, re-run by
`check` before every build): `Option` monad, `none` = out-of-bounds load / store or fuel exhausted;
`prange` as `range`; the row view `data[indptr[i]:indptr[i+1]]` as a copy (it is only read before
the stores); `np.sort` is the UNINTERPRETED `SortFn.sortArr`.  Helper lemmas:
`Proofs/GenSearchGraph.lean`. -/
section KernelTie
open Pynn.GenSearchGraphProofs Pynn.GenSG

/-- any function that returns an ascending permutation of its argument IS the model's `sortP`
(over a linear order the ascending rearrangement is unique): the hypothesis `hsort` of the theorems
below is "`np.sort` sorts" -/
theorem sort_hypothesis_of_ascending_perm (f : Array P → Array P)
    (hf : ∀ a, (f a).toList.Perm a.toList ∧ (f a).toList.Pairwise (· ≤ ·)) (a : Array P) :
    (f a).toList = sortP a.toList :=
  List.Perm.eq_of_pairwise (le := (· ≤ ·)) (fun _ _ _ _ h1 h2 => le_antisymm h1 h2) (hf a).2
    (sortP_sorted a.toList) ((hf a).1.trans (sortP_perm a.toList).symm)

/-- **`degree_prune_internal` (translated source) = the model `degreePrune` row by row, memory
safe.**  For every well-formed CSR (`CsrOk`: row pointers non-negative, non-decreasing, within
`data`), every `max_degree = m ≥ 1`, every sort function that sorts (`hsort`) and fuel
`≥ len(indptr) + len(data) + 2`: the translated kernel performs no out-of-bounds load or store,
terminates, and returns `data'` of the same length such that, whatever the column array `cols`
of the CSR matrix is, every row `(cols, data')[indptr[i]:indptr[i+1]]` is the model's
`degreePrune 0 m` of the row `(cols, data)[indptr[i]:indptr[i+1]]` (entries `> cut_value` become
`0.0`, `cut_value = np.sort(row)[m - 1]`, rows with at most `m` entries untouched). -/
theorem kernel_degree_prune_internal_refines [OfNat P 0] [SortFn P] (m : Nat) (hm : 0 < m)
    (indptr : Array Int) (data : Array P) (hc : CsrOk indptr data.size) (hn : 0 < indptr.size)
    (hsort : ∀ a : Array P, (SortFn.sortArr a).toList = sortP a.toList)
    (fuel : Nat) (hf : indptr.size + data.size + 2 ≤ fuel) :
    ∃ data', GenSG.degree_prune_internal fuel indptr data (m : Int) = some data' ∧
      data'.size = data.size ∧
      ∀ i, i < indptr.size - 1 → ∀ cols : Array Int, cols.size = data.size →
        (rowOf indptr cols i).toList.zip (rowOf indptr data' i).toList
          = degreePrune (0 : P) m ((rowOf indptr cols i).toList.zip (rowOf indptr data i).toList) := by
  have hs : ∀ a : Array P, (SortFn.sortArr a).size = a.size := fun a => by
    rw [← Array.length_toList, hsort a, (sortP_perm a.toList).length_eq, Array.length_toList]
  refine ⟨_, degree_prune_internal_run m hm indptr data hc hs hn fuel hf, ?_, ?_⟩
  · exact pruneFrom_size m indptr _ _ _
  · intro i hi cols hcols
    rw [pruneFrom_rows m indptr _ hc _ 0 data rfl ((Nat.zero_add _).symm ▸ Nat.sub_lt hn Nat.one_pos) i
      (Nat.add_lt_of_lt_sub hi), if_pos ⟨Nat.zero_le i, (Nat.zero_add _).symm ▸ hi⟩]
    apply prunedVals_model m hm hsort
    simp only [rowOf, Array.length_toList, Array.size_extract, hcols]

/-- **`prune_bound` / `prune_keeps_min` on the translated kernel**: after `eliminate_zeros()` every
row of the translated kernel's output keeps at most `m` entries or has a cut length (fewer than `m`
kept entries strictly below it, all kept entries `≤` it, every non-zero entry `≤` it kept), and a
non-zero shortest entry of a row is always kept. -/
theorem kernel_degree_prune_bound [OfNat P 0] [SortFn P] (m : Nat) (hm : 0 < m)
    (indptr : Array Int) (data : Array P) (hc : CsrOk indptr data.size) (hn : 0 < indptr.size)
    (hsort : ∀ a : Array P, (SortFn.sortArr a).toList = sortP a.toList)
    (fuel : Nat) (hf : indptr.size + data.size + 2 ≤ fuel) (cols : Array Int)
    (hcols : cols.size = data.size) (i : Nat) (hi : i < indptr.size - 1) :
    ∃ data', GenSG.degree_prune_internal fuel indptr data (m : Int) = some data' ∧
      let row := (rowOf indptr cols i).toList.zip (rowOf indptr data i).toList
      let out := elimZeros (0 : P) ((rowOf indptr cols i).toList.zip (rowOf indptr data' i).toList)
      (out.length ≤ m ∨ ∃ cut, cut ∈ row.map (·.2) ∧ (∀ e ∈ out, e.2 ≤ cut) ∧
        (out.filter (fun e => decide (e.2 < cut))).length < m ∧
        (∀ e ∈ row, e.2 ≤ cut → isZero (0 : P) e.2 = false → e ∈ out)) ∧
      (∀ e ∈ row, (∀ e' ∈ row, e.2 ≤ e'.2) → isZero (0 : P) e.2 = false → e ∈ out) := by
  obtain ⟨data', h1, _, h3⟩ :=
    kernel_degree_prune_internal_refines m hm indptr data hc hn hsort fuel hf
  refine ⟨data', h1, ?_⟩
  simp only [h3 i hi cols hcols]
  exact ⟨prune_bound 0 m hm _, prune_keeps_min 0 m _⟩

/-- non-vacuity of `hsort`: the model's own sort as the sort function -/
example : ∃ _ : SortFn Nat, ∀ a : Array Nat, (SortFn.sortArr a).toList = sortP a.toList :=
  ⟨⟨fun a => (sortP a.toList).toArray⟩, fun _ => rfl⟩

/-- the translated kernel executed: CSR rows `[5,1,3]`, `[2]`, `[4,4,9,1]` with `max_degree = 2`
(cut values 3 and 4): entries above the cut (5, 9) become 0, the short row is untouched -/
example : (letI : SortFn Nat := ⟨fun a => (sortP a.toList).toArray⟩
    GenSG.degree_prune_internal 20 #[0, 3, 4, 8] #[5, 1, 3, 2, 4, 4, 9, 1] (2 : Int))
      = some #[0, 1, 3, 2, 4, 4, 0, 1] := by decide +kernel

end KernelTie

end Pynn.C16
