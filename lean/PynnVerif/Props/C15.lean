import PynnVerif.Proofs.Diversify
import PynnVerif.Proofs.GenSearchGraph
import Mathlib.Data.Nat.Basic  -- `LinearOrder Nat` for the concrete examples at the end

/-!
# C15 — diversification removes exactly the long edges of triangles

Property theorems only (helper lemmas, and the definitions `Rule` and `live` that the statements use, live in
`Proofs/Diversify.lean`).

The four kernels of the code are two loops:

* the **list-append form** `Div.diversifyList` = `pynndescent_.diversify` = `sparse.diversify`
  (one stored row of the neighbour graph, visited in storage order, `break` at the first `-1`);
* the **argsort form** `Div.diversifyCsr` = `pynndescent_.diversify_csr` = `sparse.diversify_csr`
  (one CSR row in any storage order; the visiting order `order` returned by `np.argsort` is an
  argument, so every way of breaking ties is covered).

The dense and the sparse kernel of each form run the *same* loop; they differ only in how
`dist` is evaluated (`dist(data[a], data[b])` on dense rows, `dist(ind_a, data_a, ind_b, data_b)` on
CSR slices).  Here `dist : Int → Int → P` is an arbitrary table between point numbers — no
symmetry, no triangle inequality, no relation to the lengths is assumed — so "dense = sparse" is
the statement that both evaluate the same table (checked bit-for-bit by `harness/c15.py`), and
"forward = reverse" is `kernels_agree`: the two forms take identical decisions when they visit
the entries in the same order.

`P` is any linear order, `eps : P` models `FLOAT32_EPS`; `nbr j`, `len j` are the neighbour index
and the length stored at position `j`.  `draw c` is the outcome of the `c`-th evaluation of
`tau_rand(local_rng_state) < prune_probability` in the row: probability 1 is `fun _ => true`
(`tau_rand` returning exactly `1.0`, probability 3e-8 per draw, is excluded by this hypothesis),
probability 0 is `fun _ => false`.
-/
namespace Pynn.C15
open Pynn Pynn.Div
variable {P : Type} [LinearOrder P]

/-- **The rule** (argsort form, every visiting order).  With probability 1 the retained set
`R = {j | retained[j] = 1}` of a row satisfies: `j ∈ R` iff no `l ∈ R` visited before `j`
(`l ∈ pre` where `order = pre ++ j :: post`) has `eps < len l` and `dist (nbr j) (nbr l) < len j`.
`order.Nodup`: `argsort` returns every position once. -/
theorem occlude_is_rule (eps : P) (dist : Int → Int → P) (nbr : Nat → Int) (len : Nat → P)
    (order : List Nat) (hnd : order.Nodup) :
    ∀ pre j post, order = pre ++ j :: post →
      (diversifyCsr eps dist (fun _ => true) nbr len order j = true ↔
        ¬ ∃ l ∈ pre, diversifyCsr eps dist (fun _ => true) nbr len order l = true ∧
            eps < len l ∧ dist (nbr j) (nbr l) < len j) :=
  diversifyCsr_rule eps dist nbr len order hnd

/-- **The rule determines the retained set** (induction on the visiting position): two sets that
both satisfy the rule for the same visiting order agree on every visited position. -/
theorem rule_unique (eps : P) (dist : Int → Int → P) (nbr : Nat → Int) (len : Nat → P)
    (order : List Nat) (R R' : Nat → Prop)
    (h : Rule eps dist nbr len order R) (h' : Rule eps dist nbr len order R') :
    ∀ j ∈ order, (R j ↔ R' j) :=
  rule_unique_mem h h'

/-- **The nearest neighbour is always retained**: the first visited position keeps
`retained = 1` whatever the generator says. -/
theorem first_retained (eps : P) (dist : Int → Int → P) (draw : Nat → Bool) (nbr : Nat → Int)
    (len : Nat → P) (o : Nat) (rest : List Nat) (hnd : (o :: rest).Nodup) :
    diversifyCsr eps dist draw nbr len (o :: rest) o = true :=
  diversifyCsr_first hnd

/-- **Probability 0 removes nothing** (argsort form): every position keeps `retained = 1`. -/
theorem prob_zero_retains_all (eps : P) (dist : Int → Int → P) (nbr : Nat → Int) (len : Nat → P)
    (order : List Nat) (j : Nat) :
    diversifyCsr eps dist (fun _ => false) nbr len order j = true :=
  diversifyCsr_prob_zero

/-- **Every `prune_probability`: only occluded entries are removed** (argsort form, every visiting
order, every draw stream — the half of the rule that does not depend on the generator): a position
that is not retained has a *retained* position `l` visited before it with `eps < len l` and
`dist (nbr j) (nbr l) < len j`.  (The converse is `occlude_is_rule` and needs the draws to say
"prune".)  Together with `kernels_agree` the same holds for the list-append form. -/
theorem removed_is_occluded (eps : P) (dist : Int → Int → P) (draw : Nat → Bool) (nbr : Nat → Int)
    (len : Nat → P) (order : List Nat) (hnd : order.Nodup) :
    ∀ pre j post, order = pre ++ j :: post →
      diversifyCsr eps dist draw nbr len order j = false →
        ∃ l ∈ pre, diversifyCsr eps dist draw nbr len order l = true ∧
            eps < len l ∧ dist (nbr j) (nbr l) < len j :=
  fun _ _ _ hsplit h => diversifyCsr_false_occ hnd hsplit h

/-- **The two forms take identical decisions** (hence dense = sparse and forward = "reverse"):
given the entries `(nbr i, len i)` in visiting order `order`, the list-append form returns exactly
the keep-flags of the argsort form (`.2`, position by position) and appends to `new_*` exactly the
entries the argsort form retains (`.1`) — for *every* draw stream, so also for every
`prune_probability` and generator state.  `hreal`: no `-1` after the first entry (a CSR row holds
none; for padded list rows see `list_stops_at_sentinel`). -/
theorem kernels_agree (eps : P) (dist : Int → Int → P) (draw : Nat → Bool) (nbr : Nat → Int)
    (len : Nat → P) (order : List Nat) (hnd : order.Nodup) (hreal : ∀ x ∈ order.tail, 0 ≤ nbr x) :
    (diversifyList eps dist draw (order.map (fun i => (nbr i, len i)))).2 =
        order.map (diversifyCsr eps dist draw nbr len order) ∧
    (diversifyList eps dist draw (order.map (fun i => (nbr i, len i)))).1 =
        (order.filter (diversifyCsr eps dist draw nbr len order)).map (fun i => (nbr i, len i)) :=
  diversifyList_eq_csr eps dist draw nbr len order hnd hreal

/-- **Idempotence** (note N8: `_init_search_graph` runs a second pass over the forward rows and
relies on this): a second pass with probability 1 over the retained entries, visited in the same
order, retains all of them. -/
theorem occlude_idempotent (eps : P) (dist : Int → Int → P) (nbr : Nat → Int) (len : Nat → P)
    (order : List Nat) (hnd : order.Nodup) :
    ∀ j ∈ order.filter (diversifyCsr eps dist (fun _ => true) nbr len order),
      diversifyCsr eps dist (fun _ => true) nbr len
        (order.filter (diversifyCsr eps dist (fun _ => true) nbr len order)) j = true := by
  intro j hj
  -- a position the second pass removed is occluded by a position `l` of the second order visited
  -- before it; `l` was retained by the first pass and visited before `j` there too, so the first
  -- pass would have removed `j`
  by_contra hk
  obtain ⟨pre', post', hsplit⟩ := List.append_of_mem hj
  obtain ⟨l, hl, _, ho⟩ := diversifyCsr_false_occ (hnd.filter _) hsplit (Bool.eq_false_iff.mpr hk)
  obtain ⟨l₁, l₂, hord, rfl, h₂⟩ := List.filter_eq_append_iff.mp hsplit
  obtain ⟨m₁, m₂, rfl, _, hfj, _⟩ := List.filter_eq_cons_iff.mp h₂
  obtain ⟨hl1, hfl⟩ := List.mem_filter.mp hl
  exact (diversifyCsr_rule eps dist nbr len order hnd (l₁ ++ m₁) j m₂ (by rw [hord, List.append_assoc])).mp hfj
    ⟨l, List.mem_append_left _ hl1, hfl, ho⟩

/-- **`-1` padding** (list form): the entries from the first `-1` on (after position 0) are neither
looked at nor kept; the kernel behaves as on the live prefix `Div.live row`. -/
theorem list_stops_at_sentinel (eps : P) (dist : Int → Int → P) (draw : Nat → Bool) (row : List (Ent P)) :
    (diversifyList eps dist draw row).1 = (diversifyList eps dist draw (live row)).1 ∧
    (diversifyList eps dist draw row).2 = (diversifyList eps dist draw (live row)).2 ++
      List.replicate (row.length - (live row).length) false ∧
    (∀ e ∈ (live row).tail, 0 ≤ e.1) :=
  ⟨(diversifyList_live row).1, (diversifyList_live row).2, live_tail_real row⟩

/-- **The rule, list form** (visiting order = storage order, by position): on a row without a `-1`
after its first entry there is a keep-flag vector `R` such that the kernel's output is the entries
with `R j`, and `R j` iff no earlier `l` with `R l` has `eps < len l ∧ dist (nbr j) (nbr l) < len j`. -/
theorem occlude_is_rule_list (eps : P) (dist : Int → Int → P) (row : List (Ent P))
    (hreal : ∀ e ∈ row.tail, 0 ≤ e.1) :
    ∃ R : Nat → Bool,
      (diversifyList eps dist (fun _ => true) row).2 = (List.range row.length).map R ∧
      (diversifyList eps dist (fun _ => true) row).1 =
        ((List.range row.length).filter R).map (fun j => (nbrOf row j, lenOf eps row j)) ∧
      ∀ j, j < row.length →
        (R j = true ↔ ¬ ∃ l, l < j ∧ R l = true ∧ eps < lenOf eps row l ∧
            dist (nbrOf row j) (nbrOf row l) < lenOf eps row j) := by
  obtain ⟨h1, h2⟩ := diversifyList_eq_csr_range eps dist (fun _ => true) row hreal
  exact ⟨_, h1, h2, rule_range
    (diversifyCsr_rule eps dist (nbrOf row) (lenOf eps row) _ List.nodup_range)⟩

/-- **The nearest neighbour is always retained, list form**: `new_*` starts with the first stored
entry (whatever the generator says) and its keep-flag is set. -/
theorem first_retained_list (eps : P) (dist : Int → Int → P) (draw : Nat → Bool) (e : Ent P)
    (rest : List (Ent P)) :
    (diversifyList eps dist draw (e :: rest)).1.head? = some e ∧
    (diversifyList eps dist draw (e :: rest)).2.head? = some true := by
  obtain ⟨ext, _, h⟩ := divLoop_sublist eps dist draw rest [e] 0
  simp [diversifyList, h]

/-- **Probability 0 removes nothing, list form**: the output is the live prefix of the row. -/
theorem prob_zero_retains_all_list (eps : P) (dist : Int → Int → P) (row : List (Ent P)) :
    (diversifyList eps dist (fun _ => false) row).1 = live row := by
  rw [(diversifyList_live row).1,
    (diversifyList_eq_csr_range eps dist _ (live row) (live_tail_real row)).2,
    List.filter_eq_self.mpr fun _ _ => diversifyCsr_prob_zero, ← row_eq_map eps (live row)]

/-! ## non-vacuity: concrete rows over `P = Nat`, `eps = 0`

Five points on a line at `0, 1, 2, 10, 1` (point 4 is an exact duplicate of point 1),
`dist a b = |x a - x b|`. -/

def xs : List Nat := [0, 1, 2, 10, 1]
def lineDist (a b : Int) : Nat :=
  let p := xs.getD a.toNat 0; let q := xs.getD b.toNat 0
  if p ≤ q then q - p else p - q

/-- The row of point 0 (self at length 0, then 1, 4 (tie), 2, 3) padded with `-1`:
self (length `≤ eps`) occludes nothing, point 1 is kept, its duplicate 4 is removed
(`dist 4 1 = 0 < 1`), as are 2 (`1 < 2`) and 3 (`9 < 10`); the padding is not looked at. -/
example : diversifyList 0 lineDist (fun _ => true)
      [(0, 0), (1, 1), (4, 1), (2, 2), (3, 10), (-1, 99)]
    = ([(0, 0), (1, 1)], [true, true, false, false, false, false]) := by decide +kernel

/-- Probability 0 keeps the live prefix. -/
example : (diversifyList 0 lineDist (fun _ => false)
      [(0, 0), (1, 1), (4, 1), (2, 2), (3, 10), (-1, 99)]).1
    = [(0, 0), (1, 1), (4, 1), (2, 2), (3, 10)] := by decide +kernel

/-- The same row as a CSR row stored in column order `[0,1,2,3,4]` with lengths `[0,1,2,10,1]`.
Visiting order `[0,1,4,2,3]` (tie 1 before 4) retains positions `{0,1}`; the other ascending
order `[0,4,1,2,3]` retains `{0,4}` instead: an unstable argsort changes *which* of two tied
entries survives, which the rule (stated relative to the visiting order) allows. -/
example : (List.range 5).map (diversifyCsr 0 lineDist (fun _ => true)
      (fun j => (j : Int)) (fun j => [0, 1, 2, 10, 1].getD j 0) [0, 1, 4, 2, 3])
    = [true, true, false, false, false] := by decide +kernel
example : (List.range 5).map (diversifyCsr 0 lineDist (fun _ => true)
      (fun j => (j : Int)) (fun j => [0, 1, 2, 10, 1].getD j 0) [0, 4, 1, 2, 3])
    = [true, false, false, false, true] := by decide +kernel

/-- A draw stream that refuses the first pruning: entry 4 survives the test against 1 (draw 0 is
`false`), the later ones are pruned (the generator is consulted only on successful tests). -/
example : diversifyList 0 lineDist (fun c => decide (0 < c))
      [(0, 0), (1, 1), (4, 1), (2, 2), (3, 10)]
    = ([(0, 0), (1, 1), (4, 1)], [true, true, true, false, false]) := by decide +kernel

/-- `removed_is_occluded` on that stream: the removed position 3 (point 2, length 2) is occluded by
the retained position 1 (point 1), the removed position 4 by the retained position 1 as well. -/
example : (List.range 5).map (diversifyCsr 0 lineDist (fun c => decide (0 < c))
      (fun j => [0, 1, 4, 2, 3].getD j 0) (fun j => [0, 1, 1, 2, 10].getD j 0) [0, 1, 2, 3, 4])
    = [true, true, true, false, false] := by decide +kernel

/-! ## the translated dense `diversify` (`Gen/SearchGraphKernels.lean`), row level

`GenSG.diversify` is the syntax-directed translation of the source text of `pynndescent_.diversify`
(`harness/translate_searchgraph.py`, re-run by `check` before every build): `prange` as `range`, the
typed lists as arrays with `push`, `break` / `flag`, the write-back loop with `-1` / `np.inf`.
UNINTERPRETED (class `DivParams`): `FLOAT32_EPS`, `np.inf`, `dist(data[a], data[b])` as a function
of the two point numbers (the loads from `data` are not translated — the model's `dist` is the same
kind of table), and the outcome of the `c`-th test `tau_rand(rng_state + i) < prune_probability` of
row `i` as `draw i c` (the generator is private to the row and consulted only at these tests, so
the counter advances exactly there).  Helper lemmas: `Proofs/GenSearchGraph.lean`
(`diversify_loop2` = `scanNew`, `diversify_loop1` = `divLoop`).

FULL STATEMENT, NOT PROVED: for every rectangular `indices`, `distances` of width `≥ 1`, every
`DivParams` and enough fuel, `GenSG.diversify fuel indices distances … = some (I', D', I', D')` with
row `i` of `(I', D')` = `diversifyRow top eps dist (draw i) (row i of (indices, distances))`.
MISSING for it: the write-back loop `diversify.loop3` (the `(-1, inf)` padding through `wr2`) and the
outer loop over the rows (that row `i` is read before and independently of the stores into rows
`< i`).  What IS proved, for every row, every `dist`, every draw stream: the two inner loops, i.e.
the `new_indices` / `new_distances` the kernel builds for the row. -/
section KernelTie
open Pynn.GenSearchGraphProofs Pynn.GenSG

/-- **`diversify` (translated source), row `i`: the lists `new_indices` / `new_distances` it builds
are the model's** `(diversifyList eps dist (draw i) row).1`, without out-of-bounds access, for every
row of width `W ≥ 1` (indices and distances of the same width), every `DivParams` (so: every `dist`,
every draw stream, every `eps`) and fuel `≥ 2W + 2`: the candidate loop as the kernel enters it
(`new_* = [entry 0]`, `j = 1`, fresh generator) — scan loop with `break` / `flag`, the `-1` sentinel
`break`, the appends. -/
theorem kernel_diversify_row_refines_partial [OfNat P 0] [SortFn P] [DivParams P]
    (indices : Array (Array Int)) (distances : Array (Array P)) (data : Array (Array P))
    (i : Nat) (hi : i < indices.size) (hd : i < distances.size) (hw : indices[i].size = distances[i].size)
    (h0 : 0 < indices[i].size) (fuel : Nat) (hf : 2 * indices[i].size + 2 ≤ fuel) :
    ∃ (c' j' : Int) (ni' : Array Int) (nd' : Array P),
      diversify.loop1 indices distances data () (i : Int) (indices[i].size : Int) fuel 0
          #[indices[i][0]] #[distances[i][0]'(hw ▸ h0)] 1
        = some (.next (c', ni', nd', j')) ∧ ni'.size = nd'.size ∧ ni'.size ≤ indices[i].size ∧
      ents ni' nd' = (diversifyList DivParams.eps DivParams.dist (drawOf P i)
        (ents indices[i] distances[i])).1 := by
  have e := ents_drop_lt _ _ hw 0 h0
  rw [List.drop_zero] at e
  generalize (ents indices[i] distances[i]).drop (0 + 1) = t at e
  have hl : t.length + 1 = indices[i].size := by
    rw [← List.length_cons, ← e, ents_length _ _ hw]
  have hl' : 1 + t.length ≤ indices[i].size := Nat.le_of_eq ((Nat.add_comm _ _).trans hl)
  obtain ⟨c', j', ni', nd', h1, h2, h3, h4⟩ := diversify_loop1 indices distances data i _ _ (GenK.rd_lt indices i hi)
    (GenK.rd_lt distances i hd) hw fuel 1 t
    ⟨by decide, by rw [e]; rfl⟩ (diversify_fuel hl hf) 0 #[indices[i][0]] #[distances[i][0]'(hw ▸ h0)]
    (Array.size_singleton.trans Array.size_singleton.symm) hl'
  refine ⟨c', j', ni', nd', h1, h2, Nat.le_trans h3 hl', ?_⟩
  rw [h4, e]
  rfl

/-- **`first_retained` / `prob_zero_retains_all` on the translated kernel** (`first_retained_list`,
`prob_zero_retains_all_list`): the lists the translated kernel builds for a row start with the
row's first entry whatever the generator says, and when no test of the row prunes
(`prune_probability = 0`) they are the live prefix of the row. -/
theorem kernel_diversify_first_and_prob_zero [OfNat P 0] [SortFn P] [DivParams P]
    (indices : Array (Array Int)) (distances : Array (Array P)) (data : Array (Array P))
    (i : Nat) (hi : i < indices.size) (hd : i < distances.size) (hw : indices[i].size = distances[i].size)
    (h0 : 0 < indices[i].size) (fuel : Nat) (hf : 2 * indices[i].size + 2 ≤ fuel) :
    ∃ (c' j' : Int) (ni' : Array Int) (nd' : Array P),
      diversify.loop1 indices distances data () (i : Int) (indices[i].size : Int) fuel 0
          #[indices[i][0]] #[distances[i][0]'(hw ▸ h0)] 1
        = some (.next (c', ni', nd', j')) ∧
      (ents ni' nd').head? = some (indices[i][0], distances[i][0]'(hw ▸ h0)) ∧
      ((∀ c, DivParams.draw P (i : Int) c = false) →
        ents ni' nd' = live (ents indices[i] distances[i])) := by
  obtain ⟨c', j', ni', nd', h1, _, _, h4⟩ :=
    kernel_diversify_row_refines_partial indices distances data i hi hd hw h0 fuel hf
  have e := ents_drop_lt _ _ hw 0 h0
  rw [List.drop_zero] at e
  refine ⟨c', j', ni', nd', h1, ?_, fun hz => ?_⟩
  · rw [h4, e]
    exact (first_retained_list _ _ _ _ _).1
  · rw [h4, show drawOf P i = fun _ => false from funext fun c => hz c]
    exact prob_zero_retains_all_list _ _ _

end KernelTie

end Pynn.C15
