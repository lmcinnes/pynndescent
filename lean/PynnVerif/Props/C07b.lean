import PynnVerif.Proofs.Metrics2
import PynnVerif.Props.C07bGuarded

/-!
# C07 (continued) — the remaining dense metrics, and guardedness under rounding

Property theorems only; imported by `Props/C07.lean`.  Models:
`Model/Metrics2.lean` (generic over `Arith α` + `Trig α`, following each kernel's loops and
branches; executed over `Float` by the driver, `Driver/Metrics2.lean`, against the numba kernels:
`harness/c07_model2.py`); helpers: `Proofs/Metrics2.lean`.

**Part A**, over `ℝ`, the four clauses of `Props/C07.lean` (`…_spec`, `…_symm`, `…_self`,
`…_defined`) for: standardised_euclidean, weighted_minkowski, mahalanobis, haversine (with the clamp
`min(result, 1.0)`), jensen_shannon_divergence, symmetric_kl_divergence (with the `FLOAT32_EPS`
smoothing), wasserstein_1d, bit_hamming, bit_jaccard (with the `denom == 0` branch), spearmanr (the
ranks as the RESULT of `rankdata`, not its steps), tsss.

**Part B**, guardedness under rounding (`…_guarded`, `guarded_agree`), is `Props/C07bGuarded.lean`: it
holds for every `RArith` carrier and needs no real numbers.  `instance : RArithNU ℝ`
(`Proofs/Metrics2.lean`) shows its axioms are consistent (last `example` below).

NOT REACHED: `correlation` is guarded only modulo Cauchy–Schwarz (`correlation_guarded_partial`);
`mahalanobis` has no guardedness statement (positive semi-definiteness does not survive rounding);
the steps of `rankdata` (argsort, `obs`, `cumsum`, `count`) are not modelled; `kantorovich`,
`sinkhorn`, `circular_kantorovich` are not modelled (C10 / recorded findings); overflow to `±inf`
is outside `RArith`.
-/
namespace Pynn.C07b
open Pynn.Metrics

/-! ## standardised_euclidean -/

/-- `D(x,y) = √(Σ (xᵢ − yᵢ)² / vᵢ)` (the docstring; `sigma` is the per-coordinate variance `v`). -/
theorem standardised_euclidean_spec (x y σ : List ℝ) :
    standardisedEuclidean x y σ =
      Real.sqrt ((((x.zip y).zip σ).map (fun p => (p.1.1 - p.1.2) ^ 2 / p.2)).sum) := by
  rw [standardisedEuclidean, sumBy3_real]
  simp only [sq]
  rfl

theorem standardised_euclidean_symm (x y σ : List ℝ) :
    standardisedEuclidean x y σ = standardisedEuclidean y x σ := by
  unfold standardisedEuclidean
  rw [sumBy3_comm _ (fun a b c => by ring) x y σ]

theorem standardised_euclidean_self (x σ : List ℝ) : standardisedEuclidean x x σ = 0 := by
  unfold standardisedEuclidean
  rw [sumBy3_self_zero _ (fun a c => by rw [sub_self, zero_mul]; exact zero_div c) x σ]
  exact Real.sqrt_zero

/-- with positive variances every divisor is non-zero and the argument of `np.sqrt` is `≥ 0`. -/
theorem standardised_euclidean_defined (x y σ : List ℝ) (hσ : ∀ s ∈ σ, 0 < s) :
    (∀ s ∈ σ, s ≠ 0) ∧
    0 ≤ (((x.zip y).zip σ).map (fun p => (p.1.1 - p.1.2) ^ 2 / p.2)).sum :=
  ⟨fun s hs => (hσ s hs).ne', List.sum_nonneg (List.forall_mem_map.2 fun _ hp =>
    div_nonneg (sq_nonneg _) (hσ _ (List.of_mem_zip hp).2).le)⟩

/-! ## weighted_minkowski -/

/-- `D(x,y) = (Σ wᵢ |xᵢ − yᵢ|^p)^(1/p)` (the docstring), real powers. -/
theorem weighted_minkowski_spec (x y w : List ℝ) (p : ℝ) :
    weightedMinkowski x y w p =
      (((x.zip y).zip w).map (fun q => q.2 * |q.1.1 - q.1.2| ^ p)).sum ^ (1 / p) := by
  rw [weightedMinkowski, sumBy3_real]
  rfl

theorem weighted_minkowski_symm (x y w : List ℝ) (p : ℝ) :
    weightedMinkowski x y w p = weightedMinkowski y x w p := by
  unfold weightedMinkowski
  rw [sumBy3_comm _ (fun a b c => by rw [abs_real, abs_real, abs_sub_comm]) x y w]

theorem weighted_minkowski_self (x w : List ℝ) (p : ℝ) (hp : p ≠ 0) :
    weightedMinkowski x x w p = 0 := by
  unfold weightedMinkowski
  rw [sumBy3_self_zero _ (fun a c => by
    rw [sub_self, abs_real, abs_zero, pow_real, Real.zero_rpow hp]; exact mul_zero c) x w]
  exact Real.zero_rpow (one_div_ne_zero hp)

/-- with `w ≥ 0` (and `p ≠ 0`; documented `p ≥ 1`) both powers have a non-negative base and
`1.0 / p` is defined. -/
theorem weighted_minkowski_defined (x y w : List ℝ) (p : ℝ) (hw : ∀ s ∈ w, 0 ≤ s) :
    (∀ q ∈ (x.zip y).zip w, 0 ≤ |q.1.1 - q.1.2|) ∧
    0 ≤ (((x.zip y).zip w).map (fun q => q.2 * |q.1.1 - q.1.2| ^ p)).sum :=
  ⟨fun _ _ => abs_nonneg _, List.sum_nonneg (List.forall_mem_map.2 fun _ hq =>
    mul_nonneg (hw _ (List.of_mem_zip hq).2) (Real.rpow_nonneg (abs_nonneg _) _))⟩

/-! ## mahalanobis -/

/-- `√((x − y)ᵀ V (x − y))` (what `test_mahalanobis` pins: scipy's `mahalanobis` with `VI = vinv`). -/
theorem mahalanobis_spec (x y : List ℝ) (V : List (List ℝ)) :
    mahalanobis x y V = Real.sqrt (quadFormSpec V (List.zipWith (fun a b => a - b) x y)) := by
  rw [mahalanobis, quadForm_real, vecDiff_real]
  rfl

/-- symmetric in `x`, `y` for EVERY matrix (no symmetry of `vinv` needed: the form is even,
`(−d)ᵀV(−d) = dᵀVd`). -/
theorem mahalanobis_symm (x y : List ℝ) (V : List (List ℝ)) :
    mahalanobis x y V = mahalanobis y x V := by
  unfold mahalanobis
  rw [vecDiff_swap x y, quadForm_neg]

theorem mahalanobis_self (x : List ℝ) (V : List (List ℝ)) : mahalanobis x x V = 0 := by
  unfold mahalanobis
  rw [quadForm_zero V _ (vecDiff_self x)]
  exact Real.sqrt_zero

/-- for a positive semi-definite `vinv` of the vectors' dimension the argument of `np.sqrt` is `≥ 0`
(exact arithmetic; for a nearly singular matrix rounding can make it negative — the `_partial` case
of DESIGN C07, left to the harness). -/
theorem mahalanobis_defined (x y : List ℝ) (V : List (List ℝ)) (hV : PosSemidef V)
    (hl : x.length = y.length) (hn : x.length = V.length) :
    0 ≤ quadForm V (vecDiff x y) := by
  rw [quadForm_real]
  exact hV (vecDiff x y) (by rw [vecDiff_real, List.length_zipWith]; omega)


/-! ## haversine (with the clamp `min(result, 1.0)`) -/

/-- For points `x = (φ₁, λ₁)`, `y = (φ₂, λ₂)` (latitude, longitude, radians) the value is the angle
between the two unit vectors, `arccos(sin φ₁ sin φ₂ + cos φ₁ cos φ₂ cos(λ₁ − λ₂))` — the great-circle
distance on the unit sphere; over `ℝ` the clamp is inactive.  Holds for all real arguments.  Any
other shape is the `ValueError`. -/
theorem haversine_spec (x0 x1 y0 y1 : ℝ) :
    haversine [x0, x1] [y0, y1] =
      some (Real.arccos (Real.sin x0 * Real.sin y0 + Real.cos x0 * Real.cos y0 * Real.cos (x1 - y1))) ∧
    (∀ x y : List ℝ, x.length ≠ 2 → haversine x y = none) := by
  constructor
  · obtain ⟨h1, h2⟩ := sphere_inner_mem x0 y0 (x1 - y1)
    show some (haversineCore x0 x1 y0 y1) = _
    rw [haversineCore_real, min_eq_left (Real.sqrt_le_one.2 (haversineRadicand_range x0 x1 y0 y1).2),
      haversineRadicand_eq, two_arcsin_sqrt_eq_arccos h1 h2]
  · intro x y h
    unfold haversine
    split
    · simp at h
    · rfl

theorem haversine_symm (x y : List ℝ) : haversine x y = haversine y x := by
  have hc : ∀ a0 a1 b0 b1 : ℝ, haversineCore a0 a1 b0 b1 = haversineCore b0 b1 a0 a1 := by
    intro a0 a1 b0 b1
    rw [haversineCore_real, haversineCore_real, haversineRadicand_eq, haversineRadicand_eq,
      ← neg_sub b1 a1, Real.cos_neg, mul_comm (Real.sin a0), mul_comm (Real.cos a0)]
  -- every pair of shapes but 2 × 2 gives `none` on both sides
  rcases x with _ | ⟨x0, _ | ⟨x1, _ | ⟨x2, xs⟩⟩⟩ <;> rcases y with _ | ⟨y0, _ | ⟨y1, _ | ⟨y2, ys⟩⟩⟩ <;>
    simp [haversine, hc]

/-- identical points are at distance `0`. -/
theorem haversine_self (x0 x1 : ℝ) : haversine [x0, x1] [x0, x1] = some 0 := by
  show some (haversineCore x0 x1 x0 x1) = _
  rw [haversineCore_real, haversineRadicand_real, sub_self, sub_self, mul_zero, Real.sin_zero,
    mul_zero, mul_zero, add_zero, Real.sqrt_zero, min_eq_left zero_le_one, Real.arcsin_zero, mul_zero]

/-- the argument of `np.sqrt` is in `[0, 1]` for all real inputs (exact arithmetic), and **the
clamp**: whatever non-negative value `r` the radicand takes after rounding (`1 + 6e-17` at antipodal
points made the unclamped kernel return NaN), the argument of `np.arcsin` is in `[0, 1] ⊆ [-1, 1]`. -/
theorem haversine_defined (x0 x1 y0 y1 : ℝ) :
    (0 ≤ haversineRadicand x0 x1 y0 y1 ∧ haversineRadicand x0 x1 y0 y1 ≤ 1) ∧
    (∀ r : ℝ, 0 ≤ r → 0 ≤ min (Real.sqrt r) 1 ∧ min (Real.sqrt r) 1 ≤ 1 ∧ -1 ≤ min (Real.sqrt r) 1) := by
  refine ⟨haversineRadicand_range x0 x1 y0 y1, fun r _ => ?_⟩
  have h : 0 ≤ min (Real.sqrt r) 1 := le_min (Real.sqrt_nonneg r) (by norm_num)
  exact ⟨h, min_le_right _ _, by linarith⟩

/-! ## jensen_shannon_divergence, symmetric_kl_divergence (with the `FLOAT32_EPS` smoothing) -/

/-- `ε = FLOAT32_EPS = 2⁻²³`.  With `pᵢ = (xᵢ + ε)/Σⱼ(xⱼ + ε)`, `qᵢ = (yᵢ + ε)/Σⱼ(yⱼ + ε)` (equal
lengths) and `mᵢ = (pᵢ + qᵢ)/2`: `JS = Σᵢ ½ (pᵢ ln(pᵢ/mᵢ) + qᵢ ln(qᵢ/mᵢ))` — the Jensen–Shannon
divergence (natural logarithm, not its square root) of the smoothed, normalised vectors. -/
theorem jensen_shannon_spec (x y : List ℝ) (hl : x.length = y.length) :
    jensenShannon x y =
      (List.zipWith
        (fun p q => 1 / 2 * (p * Real.log (p / (1 / 2 * (p + q))) + q * Real.log (q / (1 / 2 * (p + q)))))
        (x.map (fun v => (v + 1 / 8388608) / (x.map (fun v => v + 1 / 8388608)).sum))
        (y.map (fun v => (v + 1 / 8388608) / (y.map (fun v => v + 1 / 8388608)).sum))).sum := by
  unfold jensenShannon
  rw [sumBy_real, smoothedPdf_real, smoothedPdf_real, smoothed_mass x, hl, smoothed_mass y]
  rfl

theorem jensen_shannon_symm (x y : List ℝ) (hl : x.length = y.length) :
    jensenShannon x y = jensenShannon y x := by
  unfold jensenShannon
  rw [sumBy_comm jsTerm jsTerm_comm, hl]

theorem jensen_shannon_self (x : List ℝ) : jensenShannon x x = 0 := sumBy_self_zero _ jsTerm_self _

/-- on non-negative vectors of positive length `dim = x.shape[0]` both normalisers are positive (the divisions
are defined), every `np.log` is taken of a positive number (`pᵢ, qᵢ, mᵢ > 0`), and the value is
`≥ 0` — so `0` for identical inputs is the closest possible value. -/
theorem jensen_shannon_defined (x y : List ℝ) (hn : 0 < x.length)
    (hx : ∀ a ∈ x, 0 ≤ a) (hy : ∀ a ∈ y, 0 ≤ a) :
    0 < l1 x + 1 / 8388608 * (x.length : ℝ) ∧ 0 < l1 y + 1 / 8388608 * (x.length : ℝ) ∧
    (∀ pq ∈ (smoothedPdf x x.length).zip (smoothedPdf y x.length),
      0 < 1 / 2 * (pq.1 + pq.2) ∧ 0 < pq.1 / (1 / 2 * (pq.1 + pq.2)) ∧
      0 < pq.2 / (1 / 2 * (pq.1 + pq.2))) ∧
    0 ≤ jensenShannon x y := by
  have hpos := smoothedPdf_zip_pos hx hy hn
  refine ⟨smoothed_mass_pos hx hn, smoothed_mass_pos hy hn, fun pq hpq => ?_,
    sumBy_nonneg _ _ _ fun pq h => jsTerm_nonneg (hpos pq h).1 (hpos pq h).2⟩
  obtain ⟨hp, hq⟩ := hpos pq hpq
  have hm : 0 < 1 / 2 * (pq.1 + pq.2) := mul_pos one_half_pos (add_pos hp hq)
  exact ⟨hm, div_pos hp hm, div_pos hq hm⟩

/-- `Σᵢ pᵢ ln(pᵢ/qᵢ) + qᵢ ln(qᵢ/pᵢ) = KL(p‖q) + KL(q‖p)` of the smoothed, normalised vectors. -/
theorem symmetric_kl_spec (x y : List ℝ) (hl : x.length = y.length) :
    symmetricKL x y =
      (List.zipWith (fun p q => p * Real.log (p / q) + q * Real.log (q / p))
        (x.map (fun v => (v + 1 / 8388608) / (x.map (fun v => v + 1 / 8388608)).sum))
        (y.map (fun v => (v + 1 / 8388608) / (y.map (fun v => v + 1 / 8388608)).sum))).sum := by
  unfold symmetricKL
  rw [sumBy_real, smoothedPdf_real, smoothedPdf_real, smoothed_mass x, hl, smoothed_mass y]
  rfl

theorem symmetric_kl_symm (x y : List ℝ) (hl : x.length = y.length) :
    symmetricKL x y = symmetricKL y x := by
  unfold symmetricKL
  rw [sumBy_comm sklTerm sklTerm_comm, hl]

theorem symmetric_kl_self (x : List ℝ) : symmetricKL x x = 0 := sumBy_self_zero _ sklTerm_self _

/-- on non-negative vectors of positive length `dim = x.shape[0]`: positive normalisers, every quotient inside
`np.log` positive (the smoothing is what makes `qᵢ ≠ 0`), and the value is `≥ 0` — so `0` for
identical inputs is the closest possible value. -/
theorem symmetric_kl_defined (x y : List ℝ) (hn : 0 < x.length)
    (hx : ∀ a ∈ x, 0 ≤ a) (hy : ∀ a ∈ y, 0 ≤ a) :
    0 < l1 x + 1 / 8388608 * (x.length : ℝ) ∧ 0 < l1 y + 1 / 8388608 * (x.length : ℝ) ∧
    (∀ pq ∈ (smoothedPdf x x.length).zip (smoothedPdf y x.length),
      0 < pq.1 / pq.2 ∧ 0 < pq.2 / pq.1) ∧
    0 ≤ symmetricKL x y := by
  have hpos := smoothedPdf_zip_pos hx hy hn
  exact ⟨smoothed_mass_pos hx hn, smoothed_mass_pos hy hn,
    fun pq hpq => ⟨div_pos (hpos pq hpq).1 (hpos pq hpq).2, div_pos (hpos pq hpq).2 (hpos pq hpq).1⟩,
    sumBy_nonneg _ _ _ fun pq h => sklTerm_nonneg (hpos pq h).1 (hpos pq h).2⟩

/-! ## wasserstein_1d -/

/-- `(Σᵢ |Fᵢ − Gᵢ|^p)^(1/p)` where `F`, `G` are the cumulative distribution functions of the
normalised inputs, `Fᵢ = (Σ_{j ≤ i} xⱼ)/Σ x` (the in-place running-sum loop computes the prefix sums). -/
theorem wasserstein_1d_spec (x y : List ℝ) (p : ℝ) :
    wasserstein1d x y p = (List.zipWith (fun a b => |a - b| ^ p) (cdf x) (cdf y)).sum ^ (1 / p) ∧
    cdf x = (List.range x.length).map (fun i => (x.take (i + 1)).sum / x.sum) :=
  ⟨(wasserstein1d_eq_minkowski x y p).trans (minkowski_real _ _ p), rfl⟩

theorem wasserstein_1d_symm (x y : List ℝ) (p : ℝ) : wasserstein1d x y p = wasserstein1d y x p := by
  rw [wasserstein1d_eq_minkowski, wasserstein1d_eq_minkowski, minkowski_comm]

theorem wasserstein_1d_self (x : List ℝ) (p : ℝ) (hp : p ≠ 0) : wasserstein1d x x p = 0 := by
  rw [wasserstein1d_eq_minkowski, minkowski_self _ p hp]

/-- for non-negative vectors with positive mass the two divisors `x_sum`, `y_sum` are non-zero, the
normalised running sums are CDF values in `[0, 1]`, and (as for `minkowski`) both powers have a
non-negative base. -/
theorem wasserstein_1d_defined (x y : List ℝ) (p : ℝ)
    (hx : ∀ a ∈ x, 0 ≤ a) (hy : ∀ a ∈ y, 0 ≤ a) (hsx : 0 < x.sum) (hsy : 0 < y.sum) :
    l1 x ≠ 0 ∧ l1 y ≠ 0 ∧ (∀ v ∈ cdf x, 0 ≤ v ∧ v ≤ 1) ∧ (∀ v ∈ cdf y, 0 ≤ v ∧ v ≤ 1) ∧
    0 ≤ (List.zipWith (fun a b => |a - b| ^ p) (cdf x) (cdf y)).sum :=
  ⟨(l1_real x).trans_ne hsx.ne', (l1_real y).trans_ne hsy.ne', cdf_range hx hsx, cdf_range hy hsy,
    sumBy_real _ _ _ ▸ sumBy_nonneg (fun a b => |a - b| ^ p) _ _ fun _ _ =>
      Real.rpow_nonneg (abs_nonneg _) _⟩


/-! ## bit_hamming, bit_jaccard (a byte is a `Nat < 256`) -/

/-- the table: `popcnt[b] = bin(b).count('1')` for every byte, and it is the number of set bits
among the 8 low bits. -/
theorem popcnt_table :
    (∀ b < 256, popcnt b = (Nat.toDigits 2 b).count '1') ∧
    (∀ b : ℕ, popcnt b = (List.range 8).countP (fun k => b.testBit k)) :=
  ⟨by decide +kernel, popcnt_eq⟩

/-- `bit_hamming` is the NUMBER of bit positions at which the two byte strings differ (what
`test_bit_hamming` pins; not divided by the length). -/
theorem bit_hamming_spec (x y : List ℕ) :
    (bitHamming x y : ℝ) =
      ((List.zipWith (fun a b => (List.range 8).countP (fun k => a.testBit k != b.testBit k)) x y).sum : ℕ) := by
  unfold bitHamming
  rw [bitXorCount_eq]
  rfl

theorem bit_hamming_symm (x y : List ℕ) : (bitHamming x y : ℝ) = bitHamming y x := by
  unfold bitHamming; rw [bitXorCount_comm]

theorem bit_hamming_self (x : List ℕ) : (bitHamming x x : ℝ) = 0 := by
  rw [bitHamming, bitXorCount_self]; exact Nat.cast_zero

/-- with `|x∧y|` / `|x∨y|` the numbers of bit positions set in both / in at least one string:
`−ln(|x∧y| / |x∨y|)` (what `test_bit_jaccard` pins: `−ln` of the Jaccard similarity), and `0` when
both strings are empty (`denom == 0`, the branch the repository now has). -/
theorem bit_jaccard_spec (x y : List ℕ) :
    bitAndCount x y =
      (List.zipWith (fun a b => (List.range 8).countP (fun k => a.testBit k && b.testBit k)) x y).sum ∧
    bitOrCount x y =
      (List.zipWith (fun a b => (List.range 8).countP (fun k => a.testBit k || b.testBit k)) x y).sum ∧
    (bitJaccard x y : ℝ) =
      if bitOrCount x y = 0 then 0 else -Real.log ((bitAndCount x y : ℝ) / (bitOrCount x y : ℝ)) := by
  refine ⟨bitAndCount_eq x y, bitOrCount_eq x y, ?_⟩
  unfold bitJaccard
  rw [bitJaccardOfCounts_real]
  simp only [ofNat_real, Nat.cast_eq_zero]

theorem bit_jaccard_symm (x y : List ℕ) : (bitJaccard x y : ℝ) = bitJaccard y x := by
  unfold bitJaccard; rw [bitAndCount_comm, bitOrCount_comm]

/-- identical inputs give `0`: through the `denom == 0` branch for the empty string, through
`−ln 1` otherwise. -/
theorem bit_jaccard_self (x : List ℕ) : (bitJaccard x x : ℝ) = 0 := by
  unfold bitJaccard
  rw [bitAndCount_self, bitJaccardOfCounts_real]
  split_ifs with h
  · rfl
  · rw [div_self h, Real.log_one, neg_zero]

/-- the division happens only with `denom ≠ 0`; always `|x∧y| ≤ |x∨y|`; and when the strings share
a set bit the argument of `np.log` is in `(0, 1]`, so the value is `≥ 0`.  (Disjoint non-empty
strings evaluate `−log(0) = +inf`: the documented far end, not modelled over `ℝ`.) -/
theorem bit_jaccard_defined (x y : List ℕ) :
    (bitOrCount x y ≠ 0 → ((bitOrCount x y : ℕ) : ℝ) ≠ 0) ∧
    bitAndCount x y ≤ bitOrCount x y ∧
    (0 < bitAndCount x y →
      0 < (bitAndCount x y : ℝ) / (bitOrCount x y : ℝ) ∧
      (bitAndCount x y : ℝ) / (bitOrCount x y : ℝ) ≤ 1 ∧ 0 ≤ (bitJaccard x y : ℝ)) := by
  have hle := bitAndCount_le_bitOrCount x y
  refine ⟨fun h => Nat.cast_ne_zero.2 h, hle, fun ha => ?_⟩
  have ha' : (0 : ℝ) < bitAndCount x y := Nat.cast_pos.2 ha
  have ho' : (0 : ℝ) < bitOrCount x y := Nat.cast_pos.2 (lt_of_lt_of_le ha hle)
  have h1 := (div_mem_unit ha'.le (Nat.cast_le.2 hle) ho').2
  refine ⟨div_pos ha' ho', h1, ?_⟩
  rw [bitJaccard, bitJaccardOfCounts_real, ofNat_real, ofNat_real, if_neg ho'.ne']
  exact neg_nonneg.2 (Real.log_nonpos (div_pos ha' ho').le h1)

/-! ## spearmanr -/

/-- `1 − ρ` in the form the code computes it: `correlation` of the average ranks, the rank of `v`
in `a` being `(#{u ∈ a : u ≤ v} + #{u ∈ a : u < v} + 1)/2` (ties share the mean of their
positions).  `rankAverage` models the RESULT of `rankdata`, not its steps. -/
theorem spearmanr_spec (x y : List ℝ) :
    spearmanr x y = correlation (rankAverage x) (rankAverage y) ∧
    ∀ a : List ℝ, rankAverage a = a.map (fun v => 1 / 2 *
      ((a.countP (fun u => decide (u ≤ v)) + a.countP (fun u => decide (u < v)) + 1 : ℕ) : ℝ)) :=
  ⟨rfl, rankAverage_real⟩

theorem spearmanr_symm (x y : List ℝ) (hl : x.length = y.length) : spearmanr x y = spearmanr y x := by
  unfold spearmanr
  exact correlation_comm _ _ (by rw [rankAverage_length, rankAverage_length, hl])

theorem spearmanr_self (x : List ℝ) : spearmanr x x = 0 := correlation_self _

/-! ## tsss -/

/-- On non-zero vectors of equal length: `(‖x‖‖y‖ sin θ / 2) · ((ED + MD)² θ)` with
`θ = arccos(⟨x,y⟩/(‖x‖‖y‖)) + 10°`, `ED = ‖x − y‖`, `MD = |‖x‖ − ‖y‖|` — the clamp of the cosine is
inactive over `ℝ` (Cauchy–Schwarz).  (The sector is `(ED+MD)²θ`, twice the paper's `π(ED+MD)²θ°/360`;
the code's scale is kept.) -/
theorem tsss_spec (x y : List ℝ) (hl : x.length = y.length) (hx : normSq x ≠ 0) (hy : normSq y ≠ 0) :
    tsss x y =
      (let nx := Real.sqrt (normSq x)
       let ny := Real.sqrt (normSq y)
       let ed := Real.sqrt (squaredEuclidean x y)
       let md := |nx - ny|
       let theta := Real.arccos (dotProd x y / (nx * ny)) + 10 * (Real.pi / 180)
       (nx * ny * Real.sin theta / 2) * ((ed + md) ^ 2 * theta)) := by
  have hc := abs_cosSim_le_one hl (normSq_pos_of_ne hx) (normSq_pos_of_ne hy)
  rw [cosSim_eq] at hc
  obtain ⟨h1, h2⟩ := abs_le.1 hc
  rw [tsss_real]
  simp only [clampCos_of_mem h1 h2, sq]

theorem tsss_symm (x y : List ℝ) : tsss x y = tsss y x := by
  rw [tsss_real, tsss_real]
  simp only [squaredEuclidean_comm x y, dotProd_comm x y, abs_sub_comm (Real.sqrt (normSq x)),
    mul_comm (Real.sqrt (normSq x)) (Real.sqrt (normSq y))]

/-- identical inputs give `0` (`ED = MD = 0`). -/
theorem tsss_self (x : List ℝ) : tsss x x = 0 := by
  rw [tsss_real]
  simp only [squaredEuclidean_self, Real.sqrt_zero, sub_self, abs_zero, add_zero, mul_zero, zero_mul]

/-- for non-zero vectors the divisor `norm_x * norm_y` is non-zero and the three `np.sqrt` have
non-negative arguments; and **the clamp**: whatever value `c` the quotient takes after rounding, the
argument of `np.arccos` is in `[-1, 1]`.  (Zero vectors: the code divides by zero — D7g.) -/
theorem tsss_defined (x y : List ℝ) (hx : normSq x ≠ 0) (hy : normSq y ≠ 0) :
    Real.sqrt (normSq x) * Real.sqrt (normSq y) ≠ 0 ∧
    0 ≤ normSq x ∧ 0 ≤ normSq y ∧ 0 ≤ squaredEuclidean x y ∧
    ∀ c : ℝ, -1 ≤ clampCos c ∧ clampCos c ≤ 1 :=
  ⟨(mul_pos (Real.sqrt_pos.2 (normSq_pos_of_ne hx)) (Real.sqrt_pos.2 (normSq_pos_of_ne hy))).ne',
    normSq_nonneg x, normSq_nonneg y, squaredEuclidean_nonneg x y, clampCos_memG⟩


/-! ## non-vacuity -/

/-- two points on the equator, half a turn apart, are at distance `π`. -/
example : haversine ([0, 0] : List ℝ) [0, Real.pi] = some Real.pi := by
  rw [(haversine_spec 0 0 0 Real.pi).1]
  simp

example : (bitHamming [5] [3] : ℝ) = 2 := by
  have : bitXorCount [5] [3] = 2 := by decide
  unfold bitHamming; rw [this]; simp only [real_arith]

example : bitAndCount [255, 1] [15, 2] = 4 ∧ bitOrCount [255, 1] [15, 2] = 10 := by decide

example : PosSemidef [[1, 0], [0, 1]] := by
  intro d hd
  obtain ⟨a, b, rfl⟩ := List.length_eq_two.1 hd
  unfold quadFormSpec
  simp
  exact add_nonneg (mul_self_nonneg a) (mul_self_nonneg b)

example : mahalanobis ([3, 0] : List ℝ) [0, 4] [[1, 0], [0, 1]] = 5 := by
  rw [mahalanobis_spec]
  unfold quadFormSpec
  have : (25 : ℝ) = 5 ^ 2 := by norm_num
  norm_num
  rw [this, Real.sqrt_sq (by norm_num)]

example : wasserstein1d ([1, 0] : List ℝ) [0, 1] 1 = 1 := by
  rw [(wasserstein_1d_spec _ _ _).1]
  unfold cdf
  norm_num [List.range_succ]

/-- the guardedness theorems are not vacuous: `ℝ` is an `RArithNU`. -/
example : hellingerG ([1, 2] : List ℝ) [2, 1] ≠ none :=
  hellinger_guarded _ _
    (by intro a ha; simp at ha; rcases ha with rfl | rfl <;> (show (0 : ℝ) ≤ _) <;> norm_num)
    (by intro a ha; simp at ha; rcases ha with rfl | rfl <;> (show (0 : ℝ) ≤ _) <;> norm_num)

end Pynn.C07b
