import PynnVerif.Model.Alias

/-!
# C17 — the caller's arrays are never modified

Over the alias model of `Model/Alias.lean`: for every input class (dtype, memory
layout, dense / sparse, CSR or not, sorted indices or not), every metric class
(plain, the normalising `dot`, bit-packed) and every history of prepare / update /
compress / pickle, no in-place write ever targets a buffer that is reachable from
an array the caller passed in.
-/
namespace Pynn.C17
open Pynn.Alias

/-- once the current buffer is index-owned, no step changes the state: steps only copy or write the
current buffer -/
theorem owned_stays_safe (ops : List BufOp) (w : Bool) : ops.foldl exec (false, w) = (false, w) := by
  induction ops with
  | nil => rfl
  | cons o rest ih => cases o <;> simpa [exec] using ih

/-- a run never reports a caller write unless some write happened while the buffer was caller-reachable;
writes are safe after any copy -/
theorem write_after_copy_safe (pre post : List BufOp) :
    (run (pre ++ [BufOp.copy] ++ post)).2 = (run pre).2 := by
  unfold run
  rw [List.foldl_append, List.foldl_append, List.foldl_cons, List.foldl_nil, exec, owned_stays_safe]

/-- every life-cycle step copies before it writes: it leaves the caller-write flag as it found it -/
theorem step_safe (s : Step) (st : Bool × Bool) : ((stepOps s).foldl exec st).2 = st.2 := by
  cases s with
  | prepare t => cases t <;> rfl
  | update => simp [stepOps, updateOps, exec]
  | compress => rfl
  | pickle => rfl

/-- a whole history of steps leaves the caller-write flag as it found it -/
theorem steps_safe (h : List Step) (st : Bool × Bool) :
    ((h.flatMap stepOps).foldl exec st).2 = st.2 := by
  induction h generalizing st with
  | nil => rfl
  | cons s rest ih => rw [List.flatMap_cons, List.foldl_append, ih, step_safe]

/-- input that `copy_on_normalize` does not cover (not float32, or dense and not C-contiguous) has
already been copied by `check_array` -/
theorem checkArrayCopies_of_not_copyOnNormalize (c : InClass) (h : copyOnNormalize c = false) :
    checkArrayCopies c .f32 = true :=
  (by decide : ∀ sp cs f l : Bool,
    (f && (sp || l)) = false → (if sp then !(cs && f) else !(f && l)) = true)
    c.sparse c.csr (c.dtype == .f32) (c.layout == .c) h

/-- the three stages of `initOps` (conversion, index sort, normalisation) over the flags that select
them: the normalising write is safe because it follows a copy, its own or the conversion's -/
theorem run_init_stages : ∀ a b d k : Bool, (d = true → k = false → a = true) →
    run ([if a then .copy else .alias] ++ (if b then [.copy] else []) ++
         (if d then (if k then [.copy, .write] else [.write]) else [])) = (!a && !b && !d, false) := by
  decide +kernel

/-- the state after construction: the index still aliases the caller's array iff nothing copied it, and no
caller-reachable buffer has been written -/
theorem run_initOps (c : InClass) (m : MetricClass) :
    run (initOps c m) = (!(checkArrayCopies c (if m == .bit then .u8 else .f32)) &&
                          !(c.sparse && !c.sortedIdx) && !(m == .dot), false) := by
  refine run_init_stages _ _ _ _ fun hd hk => ?_
  obtain rfl : m = .dot := by simpa using hd
  exact checkArrayCopies_of_not_copyOnNormalize c hk

/-- construction never writes a caller-reachable buffer — in particular the normalising `dot`
metric writes only into a copy, for float32 C-contiguous input that the index would otherwise alias -/
theorem init_never_writes_caller (c : InClass) (m : MetricClass) : (run (initOps c m)).2 = false :=
  congrArg Prod.snd (run_initOps c m)

/-- **C17**: over every input class, metric class and history, no in-place write ever targets a
buffer reachable from the caller's data array. -/
theorem caller_buffers_unchanged (c : InClass) (m : MetricClass) (h : List Step) :
    (run (historyOps c m h)).2 = false := by
  unfold historyOps run
  rw [List.foldl_append, steps_safe]
  exact init_never_writes_caller c m

/-- query arrays are only read: no write at all occurs in `queryOps` -/
theorem query_never_writes (c : InClass) : (run (queryOps c)).2 = false := by
  unfold queryOps
  cases c.sparse <;> cases checkArrayCopies c .f32 <;> cases c.sortedIdx <;> rfl

/-- when does the index keep sharing memory with the caller (so that the theorem above matters)?
exactly for input that needs no conversion, no index sort and no normalisation -/
theorem alias_iff (c : InClass) (m : MetricClass) :
    aliasAfterInit c m = (!(checkArrayCopies c (if m == .bit then .u8 else .f32)) &&
                          !(c.sparse && !c.sortedIdx) && !(m == .dot)) :=
  congrArg Prod.fst (run_initOps c m)

/-- Non-vacuity: float32 C input really is aliased, and the unsafe variants are rejected by the check:
`normalize(copy=False)` on aliased input, and the pre-repair in-place `sort_indices()`. -/
example : aliasAfterInit ⟨.f32, .c, false, false, true⟩ .plain = true := by decide
example : (run [BufOp.alias, BufOp.write]).2 = true := by decide
example : (run ([BufOp.alias] ++ [BufOp.write] ++ updateOps)).2 = true := by decide

end Pynn.C17
