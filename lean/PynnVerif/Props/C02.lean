import PynnVerif.Proofs.Search
import PynnVerif.Proofs.SearchReach
import PynnVerif.Proofs.GenVisited
import Mathlib.Data.Nat.Basic  -- `LinearOrder Nat` for the concrete examples

/-!
# C02 — query answers are true, in the caller's row order, and never fabricated

Property theorems, with four lemmas they share (`InputsOk.cand_lt`, `InputsOk.steps`, `translate_of_nonneg`,
`translate_entry`); the other helper lemmas live in `Proofs/Search.lean`, the model in `Model/Search.lean`.
`P` is any linear order with greatest element `top` (`np.inf`); the theorems hold for **every** search graph, distance table `dq`,
leaf, generator stream `draws` (hence for whatever a shared or racy generator
state delivers), `k`, `n_neighbors`, bound scaling `scale` (`(1+ε)·`, not even
assumed monotone) and fuel.
-/
namespace Pynn.C02
open Pynn
variable {P : Type} [LinearOrder P]

/-- What the theorems assume about the inputs of one query; the harness checks every
clause on the real arrays of every case.  `k_pos`, `indptr_size`, `indptr_le` are the
guards under which the model's total reads (`rootPrio`, `nbrs`) coincide with the code's
`heap_priorities[0]` and `indices[indptr[v] : indptr[v+1]]`; the proofs need the last four:
CSR entries are vertices (`_search_graph` is `n × n`), the leaf is a slice of a permutation,
generator values are reduced `% n`. -/
structure InputsOk (n k : Nat) (indptr indices : Array Nat) (leaf draws : List Nat) : Prop where
  k_pos : 1 ≤ k
  indptr_size : indptr.size = n + 1
  indptr_le : ∀ v (h : v < indptr.size), indptr[v] ≤ indices.size
  indices_lt : ∀ c ∈ indices, c < n
  leaf_nodup : leaf.Nodup
  leaf_lt : ∀ c ∈ leaf, c < n
  draws_lt : ∀ c ∈ draws, c < n

theorem InputsOk.cand_lt {n k : Nat} {indptr indices : Array Nat} {leaf draws : List Nat}
    (hin : InputsOk n k indptr indices leaf draws) (m : Nat) : ∀ c ∈ leaf ++ draws.take m, c < n :=
  fun c hc => (List.mem_append.mp hc).elim (hin.leaf_lt c) fun h => hin.draws_lt c (List.mem_of_mem_take h)

theorem InputsOk.steps {n k : Nat} {indptr indices : Array Nat} {leaf draws : List Nat}
    (hin : InputsOk n k indptr indices leaf draws) (top : P) (scale : P → P) (nNeighbors : Nat) (dq : Nat → P)
    (fuel : Nat) :
    Steps n dq (emptyState top n k) (search top scale n k nNeighbors indptr indices dq leaf draws fuel).1 :=
  ((stepInv_steps n dq _).keeps_search top scale n k nNeighbors leaf draws hin.leaf_nodup (hin.cand_lt _) indptr indices
    (fun _ c _ hc => hin.indices_lt c (mem_nbrs _ _ _ _ hc)) (Steps.refl _) fuel).1

/-- **Soundness of one search** (any fuel — also a search cut short holds only truths).
The raw result row `h` has `k` slots and is a max-heap; every filled slot is a vertex
`v < n` that was visited, paired with its own distance `dq v`, which is finite; every
unfilled slot is exactly `(-1, top)`; no vertex is held twice — `simple_heap_push` has no
duplicate scan, the proof discharges its "never offered twice" obligation from the
`visited` table.  After `deheap_sort` the row `r` holds the same entries, ascending, hence
filled slots first and sentinels last. -/
theorem search_sound (top : P) (htop : ∀ x : P, x ≤ top) (scale : P → P) (n k nNeighbors : Nat)
    (indptr indices : Array Nat) (dq : Nat → P) (leaf draws : List Nat) (fuel : Nat)
    (hin : InputsOk n k indptr indices leaf draws) :
    let s := (search top scale n k nNeighbors indptr indices dq leaf draws fuel).1
    let h := s.heap
    let r := queryRow top scale n k nNeighbors indptr indices dq leaf draws fuel
    h.size = k ∧ IsHeap h ∧
    (∀ e ∈ h, 0 ≤ e.idx → e.idx.toNat < n ∧ visited s.vis e.idx.toNat = true ∧
        e.prio = dq e.idx.toNat ∧ e.prio < top) ∧
    (∀ e ∈ h, e.idx < 0 → e.idx = -1 ∧ e.prio = top) ∧
    ((h.toList.filter (fun e => 0 ≤ e.idx)).map (·.idx)).Nodup ∧
    r.Perm h ∧
    (∀ i j (hi : i < r.size) (hj : j < r.size), i ≤ j → r[i].prio ≤ r[j].prio) ∧
    (∀ i j (hi : i < r.size) (hj : j < r.size), i ≤ j → r[i].idx < 0 → r[j].idx < 0) := by
  intro s h r
  have hsteps := hin.steps top scale nNeighbors dq fuel
  obtain ⟨offers, hrow, hinv⟩ := Steps.preserves (fun s => ∃ offers, HInv top n dq offers s)
    (fun _ _ h hs => h.hinv htop hs) hsteps ⟨[], empty_hinv top n k dq⟩
  have hperm : r.Perm h := deheapSort_perm h
  have hsorted := deheapSort_sorted h hrow.heap
  refine ⟨Steps.preserves (·.heap.size = k) (fun _ _ h hs => h.sizes.2.trans hs) hsteps
      (emptyState_heap_size top n k),
    hrow.heap, fun e he h0 => ?_, hrow.sent, hrow.nodup, hperm, hsorted,
    fun i j hi hj hij hneg => Int.not_le.mp fun hnn => ?_⟩
  · obtain ⟨ho, h2⟩ := hrow.of_map.1 e he h0
    exact ⟨hinv.lt _ ho, hinv.vis _ ho, h2⟩
  · -- a sentinel in front of a real entry: `top ≤` a finite distance
    have hpi := (hrow.sent _ (hperm.mem_iff.mp (Array.getElem_mem hi)) hneg).2
    have hlt := (hrow.real _ (hperm.mem_iff.mp (Array.getElem_mem hj)) hnn).2.2
    exact not_lt_of_ge (hpi ▸ hsorted i j hi hj hij) hlt

/-- **The loop ends by its own condition**: with fuel `n` (a fortiori `n + 1`, what the
driver uses) the first `heappop` finds a seed (`k ≥ 1`, `n_neighbors ≥ 1`, the generator
delivers the `min(k, n_neighbors) − |leaf|` values asked for) and the `while` loop leaves
through `d_vertex ≥ distance_bound` or the empty seed set: every iteration pops one seed,
and a vertex becomes a seed at most once because it is marked visited when it does. -/
theorem search_terminates (top : P) (scale : P → P) (n k nNeighbors : Nat)
    (indptr indices : Array Nat) (dq : Nat → P) (leaf draws : List Nat) (fuel : Nat)
    (hin : InputsOk n k indptr indices leaf draws) (hnn : 1 ≤ nNeighbors)
    (hdr : min k nNeighbors - leaf.length ≤ draws.length) (hfuel : n ≤ fuel) :
    (search top scale n k nNeighbors indptr indices dq leaf draws fuel).2 = true := by
  have hne := init_seeds_nonempty top scale n k nNeighbors dq leaf draws hin.k_pos hnn hdr
  have hmu := ((stepInv_steps n dq _).keeps_init top scale n k nNeighbors leaf draws hin.leaf_nodup (hin.cand_lt _)
    (Steps.refl _)).mu_le (emptyState_vis_size top n k)
  rw [empty_mu] at hmu
  rw [search_eq]
  split
  · next hp => exact absurd (popMin_none _ hp) hne
  · next x rest hp =>
    have hlen := popMin_length _ _ _ hp
    refine loop_terminates n top scale indptr indices dq hin.indices_lt fuel _ _ _ hmu.2 ?_
    refine Nat.lt_of_lt_of_le (Nat.lt_of_succ_le ?_) hfuel
    show rest.length + unvis _ + 1 ≤ n
    rw [Nat.add_right_comm, hlen]
    exact hmu.1

/-- **More fuel changes nothing** once the loop has ended by its own condition.  Together
with `search_terminates`: for every `fuel ≥ n` the result is the result at fuel `n`. -/
theorem search_fuel_irrelevant (top : P) (scale : P → P) (n k nNeighbors : Nat)
    (indptr indices : Array Nat) (dq : Nat → P) (leaf draws : List Nat) (fuel fuel' : Nat)
    (hle : fuel ≤ fuel')
    (h : (search top scale n k nNeighbors indptr indices dq leaf draws fuel).2 = true) :
    search top scale n k nNeighbors indptr indices dq leaf draws fuel'
      = search top scale n k nNeighbors indptr indices dq leaf draws fuel := by
  simp only [search_eq] at h ⊢
  cases hp : popMin (initState top scale n k nNeighbors dq leaf draws).seeds with
  | none => rfl
  | some xr =>
    obtain ⟨x, rest⟩ := xr
    rw [hp] at h
    exact loop_fuel_mono top scale indptr indices dq fuel fuel' _ _ _ hle h

/-- **The seed set never holds a vertex twice** (at every loop head — take any fuel — and
at the end), every seed is a visited real vertex paired with its own distance.  Hence the
tuples `(d, v)` in the `heapq` are pairwise different and totally ordered by `seedLt`. -/
theorem seeds_distinct (top : P) (scale : P → P) (n k nNeighbors : Nat)
    (indptr indices : Array Nat) (dq : Nat → P) (leaf draws : List Nat) (fuel : Nat)
    (hin : InputsOk n k indptr indices leaf draws) :
    let s := (search top scale n k nNeighbors indptr indices dq leaf draws fuel).1
    (s.seeds.map (·.2)).Nodup ∧
    ∀ x ∈ s.seeds, x.2 < n ∧ x.1 = dq x.2 ∧ visited s.vis x.2 = true := by
  intro s
  obtain ⟨offers, hinv⟩ := Steps.preserves (fun s => ∃ offers, VInv n dq offers s)
    (fun _ _ h hs => h.vinv hs) (hin.steps top scale nNeighbors dq fuel) ⟨[], empty_vinv top n k dq⟩
  exact ⟨hinv.nodup, fun x hx =>
    let ⟨ho, hd⟩ := hinv.seed x hx
    ⟨hinv.lt _ ho, hd, hinv.vis _ ho⟩⟩

/-- **`popMin` is `heappop`**: it removes one element (the rest is the same multiset) and
no remaining seed is smaller in the tuple order.  With `seeds_distinct` the least element
is unique, so the internal layout of the `heapq` list is unobservable. -/
theorem popMin_least (l : List (P × Nat)) (x : P × Nat) (rest : List (P × Nat))
    (h : popMin l = some (x, rest)) :
    l.Perm (x :: rest) ∧ ∀ y ∈ rest, seedLt y x = false :=
  ⟨popMin_perm l x rest h, Pynn.popMin_least l x rest h⟩

/-- **Sentinels stay sentinels, real rows stay real**: the (repaired) translation maps
`-1` to `-1`, never maps a negative index to a row number, and never maps an internal row
to a negative number. -/
theorem translate_sentinel (vo : Array Nat) :
    translate vo (-1) = -1 ∧ ∀ i : Int, (translate vo i < 0 ↔ i < 0) ∧ (i < 0 → translate vo i = -1) := by
  refine ⟨rfl, fun i => ?_⟩
  unfold translate
  split
  · next h =>
    exact ⟨iff_of_false (Int.not_lt.mpr (Int.natCast_nonneg _)) (Int.not_lt.mpr h),
      fun h' => absurd h' (Int.not_lt.mpr h)⟩
  · next h => exact ⟨iff_of_true (by decide) (Int.not_le.mp h), fun _ => rfl⟩

theorem translate_of_nonneg (vo : Array Nat) (i : Int) (hi0 : 0 ≤ i) (hi : i.toNat < vo.size) :
    translate vo i = (vo[i.toNat] : Int) := by
  unfold translate
  rw [if_pos hi0, Array.getElem?_eq_getElem hi]; rfl

omit [LinearOrder P] in
/-- **Caller's numbering**: if the internal array is the caller's data re-ordered by
`vo` (`raw[r] = data[vo[r]]`, what `_init_search_graph` establishes), a slot `(i, d)` whose
distance is the true distance to internal row `i` is answered as `(vo[i], d)` and `d` is
the true distance to the caller's row `vo[i]`. -/
theorem translate_truth {X : Type} (dist : X → X → P) (data raw : Nat → X) (q : X) (vo : Array Nat)
    (hraw : ∀ r (h : r < vo.size), raw r = data vo[r])
    (i : Int) (d : P) (hi0 : 0 ≤ i) (hi : i.toNat < vo.size) (hd : d = dist (raw i.toNat) q) :
    translate vo i = (vo[i.toNat] : Int) ∧ d = dist (data (translate vo i).toNat) q := by
  have h1 := translate_of_nonneg vo i hi0 hi
  refine ⟨h1, ?_⟩
  rw [h1, hd, hraw _ hi]; rfl

/-- **Distinct internal rows are distinct caller rows** (`vo` is a permutation). -/
theorem translate_injective (vo : Array Nat) (hnd : vo.toList.Nodup) (i j : Int)
    (hi0 : 0 ≤ i) (hj0 : 0 ≤ j) (hi : i.toNat < vo.size) (hj : j.toNat < vo.size)
    (h : translate vo i = translate vo j) : i = j := by
  rw [translate_of_nonneg vo i hi0 hi, translate_of_nonneg vo j hj0 hj] at h
  -- `vo[i]` is `vo.toList[i]`
  have hidx : i.toNat = j.toNat := (List.getElem_inj hnd).mp (Int.natCast_inj.mp h)
  rw [← Int.toNat_of_nonneg hi0, ← Int.toNat_of_nonneg hj0, hidx]

/-- what the translation does to one entry of a result row: a real entry becomes the caller's row with the true
distance, a sentinel stays the sentinel -/
theorem translate_entry {X : Type} (top : P) (dist : X → X → P) (data raw : Nat → X) (q : X)
    (vo : Array Nat) (hvo_lt : ∀ x ∈ vo, x < vo.size)
    (hraw : ∀ r (h : r < vo.size), raw r = data vo[r]) (e : Entry P)
    (hreal : 0 ≤ e.idx → e.idx.toNat < vo.size ∧ e.prio = dist (raw e.idx.toNat) q ∧ e.prio < top)
    (hsent : e.idx < 0 → e.idx = -1 ∧ e.prio = top) :
    (0 ≤ translate vo e.idx → (translate vo e.idx).toNat < vo.size ∧
      e.prio = dist (data (translate vo e.idx).toNat) q ∧ e.prio < top) ∧
    (translate vo e.idx < 0 → translate vo e.idx = -1 ∧ e.prio = top) := by
  rcases Int.lt_or_le e.idx 0 with h | h
  · rw [((translate_sentinel vo).2 _).2 h]
    exact ⟨fun h0 => absurd h0 (by decide), fun _ => ⟨rfl, (hsent h).2⟩⟩
  · obtain ⟨h1, h2, h3⟩ := hreal h
    obtain ⟨t1, t2⟩ := translate_truth dist data raw q vo hraw e.idx e.prio h h1 h2
    refine ⟨fun _ => ⟨?_, t2, h3⟩,
      fun hneg => absurd (((translate_sentinel vo).2 _).1.mp hneg) (Int.not_lt.mpr h)⟩
    rw [t1, Int.toNat_natCast]
    exact hvo_lt _ (Array.getElem_mem _)

/-- **C02, one row end to end**: `answerRow vo ∘ deheapSort ∘ search` with the distance
table of a query `q` against the internal array.  The answer has `k` slots; each filled
slot names a row `< n` of the *caller's* data together with the true (surrogate) distance
from `q` to that row, which is finite; no row is named twice; distances ascend; an unfilled
slot is `(-1, top)`, never a row number, and unfilled slots come last.  (`query` finally
applies the monotone distance correction to the second components — C09.) -/
theorem query_sound {X : Type} (top : P) (htop : ∀ x : P, x ≤ top) (scale : P → P)
    (n k nNeighbors : Nat) (indptr indices : Array Nat) (leaf draws : List Nat) (fuel : Nat)
    (dist : X → X → P) (data raw : Nat → X) (q : X) (vo : Array Nat)
    (hin : InputsOk n k indptr indices leaf draws)
    (hvo : vo.size = n) (hvo_lt : ∀ x ∈ vo, x < n) (hvo_nd : vo.toList.Nodup)
    (hraw : ∀ r (h : r < vo.size), raw r = data vo[r]) :
    let ans := answerRow vo
      (queryRow top scale n k nNeighbors indptr indices (fun v => dist (raw v) q) leaf draws fuel)
    ans.size = k ∧
    (∀ j (hj : j < ans.size), 0 ≤ ans[j].1 →
        ans[j].1.toNat < n ∧ ans[j].2 = dist (data ans[j].1.toNat) q ∧ ans[j].2 < top) ∧
    (∀ j (hj : j < ans.size), ans[j].1 < 0 → ans[j].1 = -1 ∧ ans[j].2 = top) ∧
    (∀ i j (hi : i < ans.size) (hj : j < ans.size), i < j → 0 ≤ ans[i].1 → ans[i].1 ≠ ans[j].1) ∧
    (∀ i j (hi : i < ans.size) (hj : j < ans.size), i ≤ j → ans[i].2 ≤ ans[j].2) ∧
    (∀ i j (hi : i < ans.size) (hj : j < ans.size), i ≤ j → ans[i].1 < 0 → ans[j].1 < 0) := by
  subst hvo
  obtain ⟨hsz, _, hreal, hsent, hnd, hperm, hsorted, hlast⟩ :=
    search_sound top htop scale vo.size k nNeighbors indptr indices (fun v => dist (raw v) q) leaf draws
      fuel hin
  generalize queryRow top scale vo.size k nNeighbors indptr indices (fun v => dist (raw v) q)
    leaf draws fuel = r at *
  -- slot `j` of the answer is `(translate vo r[j].idx, r[j].prio)`
  simp only [answerRow, Array.size_map, Array.getElem_map]
  have hmem := fun j (hj : j < r.size) => hperm.mem_iff.mp (Array.getElem_mem hj)
  have hent := fun j (hj : j < r.size) =>
    translate_entry top dist data raw q vo hvo_lt hraw r[j]
      (fun h0 => let ⟨h1, _, h2⟩ := hreal _ (hmem j hj) h0; ⟨h1, h2⟩) (hsent _ (hmem j hj))
  have hneg : ∀ i, translate vo i < 0 ↔ i < 0 := fun i => ((translate_sentinel vo).2 i).1
  have hnn : ∀ i, 0 ≤ translate vo i ↔ 0 ≤ i :=
    fun i => Int.not_lt.symm.trans ((not_congr (hneg i)).trans Int.not_lt)
  refine ⟨hperm.size_eq.trans hsz, fun j hj => (hent j hj).1, fun j hj => (hent j hj).2,
    fun i j hi hj hij h0 heq => ?_, hsorted,
    fun i j hi hj hij hlt => (hneg _).mpr (hlast i j hi hj hij ((hneg _).mp hlt))⟩
  -- equal answers are translations of real entries, `vo` is injective, the row holds no vertex twice
  have hi0 := (hnn _).mp h0
  have hj0 := (hnn _).mp (heq ▸ h0)
  exact real_idx_distinct r ((((Array.perm_iff_toList_perm.mp hperm).filter _).map _).nodup_iff.mpr hnd)
    i j hi hj hij hi0
    (translate_injective vo hvo_nd _ _ hi0 hj0 (hreal _ (hmem i hi) hi0).1 (hreal _ (hmem j hj) hj0).1 heq)

/-- **Serial and parallel batches**: the batch answer is the map of the per-row function
over the rows' own `(distance table, leaf, generator values)`; no row reads anything a
sibling wrote.  Whatever generator values a row receives — the serial loop threads one
state through the rows, the parallel loop derives `state + i` — `search_sound` /
`query_sound` apply to it, so both modes are sound (that the real `prange` body touches
only row `i` of `result` and private tables is C05's footprint check). -/
theorem batch_rows_independent (top : P) (scale : P → P) (n k nNeighbors : Nat)
    (indptr indices : Array Nat) (fuel : Nat) (rows : List ((Nat → P) × List Nat × List Nat))
    (i : Nat) :
    (queryBatch top scale n k nNeighbors indptr indices fuel rows)[i]? =
      rows[i]?.map (fun r => queryRow top scale n k nNeighbors indptr indices r.1 r.2.1 r.2.2 fuel) :=
  List.getElem?_map ..

/-- **Every row of a batch is sound**, whatever generator values each row received. -/
theorem batch_sound (top : P) (htop : ∀ x : P, x ≤ top) (scale : P → P) (n k nNeighbors : Nat)
    (indptr indices : Array Nat) (fuel : Nat) (rows : List ((Nat → P) × List Nat × List Nat))
    (hin : ∀ r ∈ rows, InputsOk n k indptr indices r.2.1 r.2.2) (i : Nat) (hi : i < rows.length) :
    ∃ out, (queryBatch top scale n k nNeighbors indptr indices fuel rows)[i]? = some out ∧
      out.size = k ∧
      (∀ e ∈ out, 0 ≤ e.idx → e.idx.toNat < n ∧ e.prio = rows[i].1 e.idx.toNat ∧ e.prio < top) ∧
      (∀ e ∈ out, e.idx < 0 → e.idx = -1 ∧ e.prio = top) ∧
      ((out.toList.filter (fun e => 0 ≤ e.idx)).map (·.idx)).Nodup ∧
      (∀ a b (ha : a < out.size) (hb : b < out.size), a ≤ b → out[a].prio ≤ out[b].prio) := by
  obtain ⟨hsz, _, hreal, hsent, hnd, hperm, hsorted, _⟩ :=
    search_sound top htop scale n k nNeighbors indptr indices rows[i].1 rows[i].2.1 rows[i].2.2
      fuel (hin _ (List.getElem_mem hi))
  exact ⟨_, by rw [batch_rows_independent, List.getElem?_eq_getElem hi]; rfl, hperm.size_eq.trans hsz,
    fun e he h0 => let ⟨h1, _, h2, h3⟩ := hreal e (hperm.mem_iff.mp he) h0; ⟨h1, h2, h3⟩,
    fun e he => hsent e (hperm.mem_iff.mp he),
    (((Array.perm_iff_toList_perm.mp hperm).filter _).map _).nodup_iff.mpr hnd, hsorted⟩

/-- **A skipped query stays unanswered**: the row of a zero-norm query under the dense
angular surrogates consists of `k` sentinels `(-1, top)`, which the translation keeps. -/
theorem skipped_row (top : P) (k : Nat) (vo : Array Nat) :
    (skippedRow top k).size = k ∧ (∀ e ∈ skippedRow top k, e.idx = -1 ∧ e.prio = top) ∧
    ∀ x ∈ answerRow vo (skippedRow top k), x = (-1, top) := by
  have hperm := deheapSort_perm (mkRow top k)
  have hall : ∀ e ∈ skippedRow top k, e.idx = -1 ∧ e.prio = top :=
    fun e he => mem_mkRow (hperm.mem_iff.mp he) ▸ ⟨rfl, rfl⟩
  refine ⟨hperm.size_eq.trans Array.size_replicate, hall, fun x hx => ?_⟩
  obtain ⟨e, he, rfl⟩ := Array.mem_map.mp hx
  rw [(hall e he).1, (hall e he).2, (translate_sentinel vo).1]

/-! ## The translation before the repair (D5) fabricates a neighbour

`indices = self._vertex_order[indices]` sends the sentinel `-1` to `vo[n-1]`.  Two data
points at internal positions `0, 1` with caller rows `vo = [1, 0]`, distances `1, 2` from
the query, `k = 3`: the third slot was never filled, yet the old translation reports the
caller's row `0` (at distance `top`). -/
example : translateOld #[1, 0] (-1) = 0 ∧ translate #[1, 0] (-1) = -1 := by decide

example : ¬ ∀ (vo : Array Nat) (i : Int), i < 0 → translateOld vo i < 0 :=
  fun h => absurd (h #[1, 0] (-1) (by decide)) (by decide)

example :
    let r := queryRow (100 : Nat) id 2 3 3 #[0, 1, 2] #[1, 0] (fun v => [1, 2].getD v 100) [0, 1] [] 3
    r.toList.map (fun e => (e.idx, e.prio)) = [(0, 1), (1, 2), (-1, 100)] ∧
    (r.toList.map (fun e => (translateOld #[1, 0] e.idx, e.prio)))[2]? = some (0, 100) ∧
    (answerRow #[1, 0] r).toList = [(1, 1), (0, 2), (-1, 100)] := by decide +kernel

/-- **Answers are reachable from the seeds.**  Every filled slot of the result names a vertex that is one of the
leaf candidates, one of the random candidates actually drawn, or reachable from one of them along edges of the
search graph (`Reach`).  (What a search can return at all is bounded by the component structure of the graph —
"truth, not recall".) -/
theorem search_answers_reachable (top : P) (htop : ∀ x : P, x ≤ top) (scale : P → P) (n k nNeighbors : Nat)
    (indptr indices : Array Nat) (dq : Nat → P) (leaf draws : List Nat) (fuel : Nat)
    (hin : InputsOk n k indptr indices leaf draws) :
    ∀ e ∈ (search top scale n k nNeighbors indptr indices dq leaf draws fuel).1.heap, 0 ≤ e.idx →
      Reach indptr indices (leaf ++ draws.take (min k nNeighbors - leaf.length)) e.idx.toNat := by
  intro e he h0
  have hs := search_sound top htop scale n k nNeighbors indptr indices dq leaf draws fuel hin
  exact (search_stays top scale n k nNeighbors indptr indices dq leaf draws hin.leaf_nodup fuel _ (fun _ => Reach.seed)
    fun _ _ => Reach.edge).1 _ (hs.2.2.1 e he h0).2.1

/-! ## Non-vacuity: a concrete run

Path graph `0 – 1 – 2 – 3 – 4` plus the isolated pair `5 – 6`; distances `9 7 5 3 1 0 8`
(`P = Nat`, `top = 100`), leaf `[0]`, `k = 2`, `n_neighbors = 2`, one random candidate
(`1`; the spare draw `6` must not be consumed), `scale = id` (ε = 0).  The search walks
down the path to vertex 4; vertex 5 (distance 0, the true nearest neighbour) is never
reached — C02 promises truth, not recall.  The loop ends by its own condition within
fuel 7 = n. -/
example :
    let out := search (100 : Nat) id 7 2 2 #[0, 1, 3, 5, 7, 8, 9, 10] #[1, 0, 2, 1, 3, 2, 4, 3, 6, 5]
      (fun v => [9, 7, 5, 3, 1, 0, 8].getD v 100) [0] [1, 6] 7
    out.2 = true ∧ out.1.heap.toList.map (fun e => (e.idx, e.prio)) = [(3, 3), (4, 1)] ∧
    out.1.vis.toList = [true, true, true, true, true, false, false] := by decide +kernel

/-- … and its inputs satisfy the hypotheses of the theorems. -/
example : InputsOk 7 2 #[0, 1, 3, 5, 7, 8, 9, 10] #[1, 0, 2, 1, 3, 2, 4, 3, 6, 5] [0] [1, 6] := by
  constructor <;> decide +kernel

/-- `Reach` on that graph: vertex 4 (returned) is reachable from the seeds `[0, 1]` along `1 → 2 → 3 → 4`;
the isolated pair `5 – 6` is not adjacent to anything on the path (`nbrs` of the path vertices never contain 5). -/
example : Reach #[0, 1, 3, 5, 7, 8, 9, 10] #[1, 0, 2, 1, 3, 2, 4, 3, 6, 5] [0, 1] 4 :=
  .edge (.edge (.edge (.seed (by decide)) (by decide : 2 ∈ nbrs _ _ 1)) (by decide : 3 ∈ nbrs _ _ 2))
    (by decide : 4 ∈ nbrs _ _ 3)
example : ∀ u < 5, 5 ∉ nbrs #[0, 1, 3, 5, 7, 8, 9, 10] #[1, 0, 2, 1, 3, 2, 4, 3, 6, 5] u := by decide +kernel

/-! ## The generated visited-table kernels

`utils.has_been_visited` / `utils.mark_visited` keep one bit per vertex in a byte array (`table[c >> 3]`, bit
`c & 7`).  `Gen/Kernels.lean` holds their translation (regenerated from the source on every run; `>>`, `<<`, `&`,
`|` on non-negative ints go through `Nat`, a negative operand is `none`).  `visOf table` is the model's
`Array Bool` table read off the bytes. -/

/-- **`has_been_visited` is the model's `visited`.**  For a vertex `c` whose byte exists (`c / 8 < len(table)`)
and a table of non-negative bytes, the translated kernel reads inside the table and returns a non-zero value
iff the model's table says "visited". -/
theorem kernel_has_been_visited_refines (table : Array Int) (c : Nat) (fuel : Nat) (hc : c / 8 < table.size)
    (hb : ∀ j (h : j < table.size), 0 ≤ table[j]) :
    ∃ r, GenK.has_been_visited fuel table (c : Int) = some r ∧ (r ≠ 0 ↔ visited (visOf table) c = true) := by
  obtain ⟨x, hx⟩ := Int.eq_ofNat_of_zero_le (hb _ hc)
  unfold GenK.has_been_visited
  simp only [shr_three, band_seven, shl_one, band_nat, Option.bind_eq_bind, Option.bind_some, GenK.rd_lt table _ hc, hx,
    Option.some.injEq]
  refine ⟨_, rfl, ?_⟩
  rw [visited_visOf, bitOf_of_byte (by rw [Array.getElem?_eq_getElem hc, hx]), ← and_two_pow_ne_zero]
  omega

/-- **`mark_visited` is the model's `mark`**: it stays inside the table, sets the bit of `c` and no other
(`visOf table' = mark (visOf table) c`), and bytes stay bytes (`< 2^8`, non-negative). -/
theorem kernel_mark_visited_refines (table : Array Int) (c : Nat) (fuel : Nat) (hc : c / 8 < table.size)
    (hb : ∀ j (h : j < table.size), 0 ≤ table[j]) (hB : ∀ j (h : j < table.size), table[j] < 2 ^ 8) :
    ∃ table', GenK.mark_visited fuel table (c : Int) = some table' ∧ table'.size = table.size ∧
      (∀ j (h : j < table'.size), 0 ≤ table'[j] ∧ table'[j] < 2 ^ 8) ∧
      visOf table' = mark (visOf table) c := by
  obtain ⟨t', h1, h2, h3, h4, h5⟩ := mark_visited_refines table c fuel hc hb
  exact ⟨t', h1, h2, fun j h => ⟨h3 j h, h4 8 hB (by omega) j h⟩, visOf_mark table t' c h2 h5⟩

/-- a vertex outside the table (`c / 8 ≥ len(table)`) makes both kernels read out of bounds: the search's
`visited = np.zeros((n // 8) + 1)` is what keeps every `c < n` inside -/
theorem kernel_visited_out_of_table (table : Array Int) (c : Nat) (fuel : Nat) (hc : table.size ≤ c / 8) :
    GenK.has_been_visited fuel table (c : Int) = none ∧ GenK.mark_visited fuel table (c : Int) = none := by
  simp only [GenK.has_been_visited, GenK.mark_visited, shr_three, band_seven, shl_one, Option.bind_eq_bind,
    Option.bind_some, GenK.rd_ge table _ hc, Option.bind_none, and_self]

/-- generated kernels executed by the Lean kernel: vertex 10 is bit 2 of byte 1 -/
example : GenK.mark_visited 0 #[0, 0] 10 = some #[0, 4] ∧ GenK.has_been_visited 0 #[0, 4] 10 = some 4 ∧
    GenK.has_been_visited 0 #[0, 4] 11 = some 0 ∧ GenK.mark_visited 0 #[255, 4] 3 = some #[255, 4] ∧
    GenK.has_been_visited 0 #[0, 4] 16 = none := by decide +kernel

end Pynn.C02
