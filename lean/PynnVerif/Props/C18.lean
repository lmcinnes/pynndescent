import PynnVerif.Proofs.Transformer

/-!
# C18 — `PyNNDescentTransformer.transform` / `fit_transform` return the query answer as a CSR matrix

Property: *`PyNNDescentTransformer.transform` returns a CSR matrix with one row per query and one
column per fitted sample whose stored entries are exactly the neighbors and distances the
underlying index's query returns for `n_neighbors`, and `fit_transform` returns the fitted data's
neighbor graph in the same layout with `n_neighbors + 1` entries per row.*

Model (`Model/Transformer.lean`): `inds : List (List Int)` / `dists : List (List D)` are the
`(indices, distances)` arrays the index returned (`query(X, k = n_neighbors)` in `transform(X)`,
`neighbor_graph` — built with `n_neighbors + 1` columns — in `fit_transform`, which is
`transform(X=None)`); `coo` is the masked COO assembly (`found = indices.ravel() >= 0`), `tocsr`
is scipy's `tocsr()` (canonical order, entries with equal coordinates are **summed**), and
`transform = tocsr ∘ coo`.  A stored entry is a triple `(row, col, value)`.  `D` is any value
type with an addition; no algebraic law is used.

What the theorems say for the code:

* the matrix stores exactly the answered slots — `transform_entries` — **provided no row of the
  answer names the same sample twice** (that is what C02 gives for a query answer);
* without that proviso `tocsr()` silently adds the two distances up (last section below): this
  was the symptom when a `-1` "not found" marker was translated to a real row number that also
  occurred in the same row.
-/
namespace Pynn.C18
open Pynn.Xf

variable {D : Type}

/-- The COO triples `transform` hands to `tocsr()` are exactly the slots `(i, j)` of the answer
whose index is non-negative, as `(i, indices[i][j], distances[i][j])`.  A slot holding a negative
index (the `-1` "no neighbour found" marker) contributes nothing, because `(c : Int)` with
`c : Nat` is never negative.  No hypothesis on the shapes is needed: the `zip` truncation of the
model agrees with both `[i]?` / `[j]?` look-ups being `some`. -/
theorem mem_coo (inds : List (List Int)) (dists : List (List D)) (i c : Nat) (d : D) :
    (i, c, d) ∈ coo inds dists ↔
      ∃ (ir : List Int) (dr : List D) (j : Nat), inds[i]? = some ir ∧ dists[i]? = some dr ∧
        ir[j]? = some (c : Int) ∧ dr[j]? = some d :=
  Pynn.Xf.mem_coo inds dists i c d

/-- `tocsr()` on triples with pairwise distinct coordinates only reorders them: no value is
altered (nothing is summed), none is lost, none is invented. -/
theorem tocsr_perm_of_nodup [Add D] (es : List (Nat × Nat × D))
    (hnd : (es.map (fun e => (e.1, e.2.1))).Nodup) : (tocsr es).Perm es :=
  Pynn.Xf.tocsr_perm_of_nodup es hnd

/-- The coordinates of `tocsr es` are strictly increasing in (row, col) lexicographic order —
always, so the result is in canonical CSR form and never stores a coordinate twice. -/
theorem tocsr_sorted [Add D] (es : List (Nat × Nat × D)) :
    ((tocsr es).map (fun e => (e.1, e.2.1))).Pairwise (fun a b => keyLt a b = true) ∧
    ((tocsr es).map (fun e => (e.1, e.2.1))).Nodup :=
  ⟨Pynn.Xf.tocsr_sorted es, Pynn.Xf.tocsr_keys_nodup es⟩

/-- `tocsr()` stores exactly the coordinates that occur in its input (whether or not some occur
twice). -/
theorem tocsr_coords [Add D] (es : List (Nat × Nat × D)) (k : Nat × Nat) :
    k ∈ (tocsr es).map (fun e => (e.1, e.2.1)) ↔ k ∈ es.map (fun e => (e.1, e.2.1)) :=
  Pynn.Xf.mem_keys_tocsr es k

/-- If in every row of the answer the non-negative indices are pairwise distinct (what C02
guarantees for a query answer; several `-1` markers in a row are allowed), the COO triples have
pairwise distinct coordinates — so `tocsr()` has nothing to sum. -/
theorem coo_keys_nodup (inds : List (List Int)) (dists : List (List D))
    (hdistinct : ∀ r ∈ inds, (r.filter (fun c => decide (0 ≤ c))).Nodup) :
    ((coo inds dists).map (fun e => (e.1, e.2.1))).Nodup :=
  Pynn.Xf.coo_keys_nodup inds dists hdistinct

/-- Shape `(#queries, n_fit)`, unconditionally: every stored row number is a query number, and if
all returned indices are `< nFit` every stored column number is `< nFit`. -/
theorem transform_shape [Add D] (inds : List (List Int)) (dists : List (List D)) (nFit : Nat) :
    (∀ e ∈ transform inds dists, e.1 < inds.length) ∧
    ((∀ r ∈ inds, ∀ c ∈ r, c < (nFit : Int)) → ∀ e ∈ transform inds dists, e.2.1 < nFit) := by
  have key : ∀ e ∈ transform inds dists, ∃ (ir : List Int) (j : Nat),
      inds[e.1]? = some ir ∧ ir[j]? = some (e.2.1 : Int) := by
    intro e he
    have hk : (e.1, e.2.1) ∈ (tocsr (coo inds dists)).map (fun e => (e.1, e.2.1)) :=
      List.mem_map.mpr ⟨e, he, rfl⟩
    rw [tocsr_coords, List.mem_map] at hk
    obtain ⟨⟨i, c, d⟩, hmem, heq⟩ := hk
    simp only [Prod.mk.injEq] at heq
    obtain ⟨ir, dr, j, h1, _, h3, _⟩ := (mem_coo inds dists i c d).mp hmem
    rw [← heq.1, ← heq.2]
    exact ⟨ir, j, h1, h3⟩
  refine ⟨?_, ?_⟩
  · intro e he
    obtain ⟨ir, j, h1, _⟩ := key e he
    exact (List.getElem?_eq_some_iff.mp h1).1
  · intro hlt e he
    obtain ⟨ir, j, h1, h2⟩ := key e he
    exact Int.ofNat_lt.mp (hlt ir (List.mem_of_getElem? h1) _ (List.mem_of_getElem? h2))

/-- **C18 (`transform`)**.  Let `(inds, dists)` be the answer of the index's query, of equal
shapes, such that no row names the same sample twice.  Then the matrix `transform` returns

1. stores `(i, c, d)` iff some slot `j` of query `i` holds neighbour `c ≥ 0` at distance `d`
   (exactly the neighbours and distances the query returned; `-1` slots are not stored);
2. stores as many entries as there are slots with an index `≥ 0` (so nothing was merged);
3. has only row numbers `< #queries`, and only column numbers `< nFit` when the query's indices
   are `< nFit`: shape `(#queries, n_fit)`;
4. is in canonical CSR order (strictly increasing (row, col), no coordinate twice).

Parts 1 and 2 are false without `hdistinct` (see the last section); part 2 also needs `hshape`
because the model's `zip` would drop the surplus slots of a longer `inds` row. -/
theorem transform_entries [Add D] (inds : List (List Int)) (dists : List (List D)) (nFit : Nat)
    (hshape : inds.map List.length = dists.map List.length)
    (hdistinct : ∀ r ∈ inds, (r.filter (fun c => decide (0 ≤ c))).Nodup) :
    (∀ (i c : Nat) (d : D), (i, c, d) ∈ transform inds dists ↔
      ∃ (ir : List Int) (dr : List D) (j : Nat), inds[i]? = some ir ∧ dists[i]? = some dr ∧
        ir[j]? = some (c : Int) ∧ dr[j]? = some d) ∧
    (transform inds dists).length = inds.flatten.countP (fun c => decide (0 ≤ c)) ∧
    (∀ e ∈ transform inds dists, e.1 < inds.length) ∧
    ((∀ r ∈ inds, ∀ c ∈ r, c < (nFit : Int)) → ∀ e ∈ transform inds dists, e.2.1 < nFit) ∧
    ((transform inds dists).map (fun e => (e.1, e.2.1))).Pairwise (fun a b => keyLt a b = true) := by
  have hperm : (transform inds dists).Perm (coo inds dists) :=
    tocsr_perm_of_nodup _ (coo_keys_nodup inds dists hdistinct)
  refine ⟨?_, ?_, (transform_shape inds dists nFit).1, (transform_shape inds dists nFit).2,
    (tocsr_sorted (coo inds dists)).1⟩
  · intro i c d
    rw [hperm.mem_iff]
    exact mem_coo inds dists i c d
  · rw [hperm.length_eq]
    exact Pynn.Xf.coo_length inds dists hshape

/-- Row `i` of the returned matrix stores one entry per slot of query `i` with an index `≥ 0`
(same hypotheses as `transform_entries`). -/
theorem transform_row_count [Add D] (inds : List (List Int)) (dists : List (List D))
    (hshape : inds.map List.length = dists.map List.length)
    (hdistinct : ∀ r ∈ inds, (r.filter (fun c => decide (0 ≤ c))).Nodup)
    (i : Nat) (ir : List Int) (hi : inds[i]? = some ir) :
    (transform inds dists).countP (fun e => e.1 == i) = ir.countP (fun c => decide (0 ≤ c)) := by
  have hperm : (transform inds dists).Perm (coo inds dists) :=
    tocsr_perm_of_nodup _ (coo_keys_nodup inds dists hdistinct)
  rw [hperm.countP_eq]
  exact Pynn.Xf.coo_countP_row i inds dists hshape ir hi

/-- **C18 (`fit_transform`)**.  `fit_transform(X)` is `transform` applied to the index's own
`neighbor_graph`, which was built with `n_neighbors + 1 = k + 1` columns.  If every row of that
graph has exactly `k + 1` entries, all non-negative and pairwise distinct, every row of the
returned matrix stores exactly `k + 1` entries (and, by `transform_entries`, they are that row's
neighbours and distances). -/
theorem fit_transform_row_count [Add D] (inds : List (List Int)) (dists : List (List D)) (k : Nat)
    (hshape : inds.map List.length = dists.map List.length)
    (hrows : ∀ r ∈ inds, r.length = k + 1 ∧ r.Nodup ∧ ∀ c ∈ r, 0 ≤ c)
    (i : Nat) (hi : i < inds.length) :
    (transform inds dists).countP (fun e => e.1 == i) = k + 1 := by
  have hdistinct : ∀ r ∈ inds, (r.filter (fun c => decide (0 ≤ c))).Nodup :=
    fun r hr => (hrows r hr).2.1.sublist List.filter_sublist
  have hget : inds[i]? = some inds[i] := List.getElem?_eq_getElem hi
  rw [transform_row_count inds dists hshape hdistinct i inds[i] hget]
  obtain ⟨hlen, _, hnn⟩ := hrows inds[i] (List.getElem_mem hi)
  rw [← hlen, List.countP_eq_length]
  intro c hc
  simpa using hnn c hc

/-! ## Non-vacuity: concrete answers (`D = Nat`)

A 2-query answer over 4 fitted samples in which the second query found only two neighbours
(`-1` in its last slot): the hypotheses of `transform_entries` hold and the matrix is the
expected one; the `-1` slot (distance `99`) is not stored. -/

example : transform [[2, 0, 3], [1, 3, -1]] [[5, 7, 9], [4, 6, 99]] =
    [(0, 0, 7), (0, 2, 5), (0, 3, 9), (1, 1, 4), (1, 3, 6)] := by decide +kernel

example : ∀ r ∈ [[2, 0, 3], [1, 3, -1]], (r.filter (fun c : Int => decide (0 ≤ c))).Nodup := by
  decide +kernel

example : ([[2, 0, 3], [1, 3, -1]] : List (List Int)).map List.length =
    ([[5, 7, 9], [4, 6, 99]] : List (List Nat)).map List.length := by decide +kernel

example : (transform [[2, 0, 3], [1, 3, -1]] [[5, 7, 9], [4, 6, 99]]).length =
    ([[2, 0, 3], [1, 3, -1]] : List (List Int)).flatten.countP (fun c => decide (0 ≤ c)) := by
  decide +kernel

/-- a neighbour graph with `k + 1 = 3` columns: the hypothesis of `fit_transform_row_count` holds
and every row stores 3 entries, the diagonal (distance 0) among them -/
example : (∀ r ∈ ([[0, 2, 1], [1, 0, 2], [2, 1, 0]] : List (List Int)),
      r.length = 2 + 1 ∧ r.Nodup ∧ ∀ c ∈ r, 0 ≤ c) ∧
    transform [[0, 2, 1], [1, 0, 2], [2, 1, 0]] [[0, 3, 4], [0, 4, 5], [0, 3, 5]] =
      [(0, 0, 0), (0, 1, 4), (0, 2, 3), (1, 0, 4), (1, 1, 0), (1, 2, 5),
       (2, 0, 5), (2, 1, 3), (2, 2, 0)] := by decide +kernel

/-! ## The failure the hypothesis excludes

Pre-repair symptom: the search answered `[3, -1]` (one neighbour found) and the `-1` was then
translated through the vertex-order table into the real row number `3`, which is already in the
row.  The answer `[3, 3]` with distances `[2, 9]` violates `hdistinct`, its COO triples have a
duplicate coordinate, and `tocsr()` **sums** the two distances: the matrix stores `11`, a value
the query never returned, in one entry instead of two. -/

/-- duplicate coordinate ⇒ the two distances `2` and `9` are summed to `11` -/
example : transform [[3, 3]] [[2, 9]] = [(0, 3, 11)] := by decide +kernel

example : ¬ ∀ r ∈ ([[3, 3]] : List (List Int)), (r.filter (fun c => decide (0 ≤ c))).Nodup := by
  decide +kernel

example : ¬ ((coo [[3, 3]] [[2, 9]]).map (fun e => (e.1, e.2.1))).Nodup := by decide +kernel

/-- both conclusions 1 and 2 of `transform_entries` fail on it: the returned pair `(3, 2)` is not
stored, and 1 entry is stored for 2 found slots -/
example : (0, 3, 2) ∉ transform [[3, 3]] [[2, 9]] ∧ (0, 3, 2) ∈ coo [[3, 3]] [[2, 9]] ∧
    (transform [[3, 3]] [[2, 9]]).length = 1 ∧
    ([[3, 3]] : List (List Int)).flatten.countP (fun c => decide (0 ≤ c)) = 2 := by decide +kernel

/-- with the marker left in place (the repaired behaviour) the same answer is stored faithfully -/
example : transform [[3, -1]] [[2, 9]] = [(0, 3, 2)] := by decide +kernel

end Pynn.C18
