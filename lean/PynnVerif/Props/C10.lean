import PynnVerif.Proofs.Transport
import PynnVerif.Proofs.Transport1D

/-!
# C10 — the optimal-transport metric returns the true minimum transport cost

**What is and is not covered.**  The pivoting network simplex of
`optimal_transport.py` is *not modelled*.  Every run of the real solver is instead
*certified*: the harness (`harness/c10.py`) reads the flow `f` and the node potentials
`u`, `v` out of the solver's arrays, turns the doubles into exact rationals and the native
driver evaluates `Pynn.Transport.certify` on them.  The theorems below say what an accepted
certificate means (`certify_sound`, `certify_sound_exact_marginals`, `residuals_sound`,
`certify_value`) — for
every size, every cost matrix (metric or not, ties, zeros, negative entries even) and every
candidate `(f, u, v)`, however it was produced — and derive the consequences the property
lists for the LP optimum itself (`ot_*`).  Termination of the pivot loop is *observed* by the
harness, not proved: a run that stops at `max_iter` before reaching an optimum yields a
certificate with a large gap, which the harness reports.

Notation: `cost C f = Σ_i Σ_j C i j * f i j`; `Feasible a b f`: `f ≥ 0` with row sums `a`,
column sums `b`; `IsMin a b C val`: `val` is attained by a feasible plan and is `≤` the cost
of every feasible plan; `mat n m M`, `vec n a`: the matrix / vector read off an array.
All sums are finite, over `Fin n`, `Fin m`, for all `n`, `m`; all numbers are rationals.

Not proved: that a minimum *exists* for an arbitrary cost matrix (that needs LP vertex theory; the
statements about "the minimum" are of the form `IsMin … val → …`, and existence is exhibited where the
property names the value: `ot_zero_of_equal`, `ot_1d_closed_form`); that the floating-point
normalisation `a /= a.sum()` is exact (covered by `residuals_sound` + the harness's bound on the
residuals); termination of the pivot loop.
-/
namespace Pynn.C10
open Pynn.Transport Finset BigOperators

variable {n m : ℕ}

/-- **Weak duality with tolerance** (the mathematical core, all sizes).  If `(u, v)` is
`ε`-dual-feasible (`C i j + u i - v j ≥ -ε`, the reduced costs of `find_entering_arc`) then `f`
is within `gap = Σ (C i j + u i - v j) * f i j + ε * Σ f i j` of every non-negative plan `g`
that has the marginals of `f`. -/
theorem weak_duality_tol (C f g : Fin n → Fin m → ℚ) (u : Fin n → ℚ) (v : Fin m → ℚ) (ε : ℚ)
    (hg : ∀ i j, 0 ≤ g i j) (hrow : ∀ i, ∑ j, g i j = ∑ j, f i j)
    (hcol : ∀ j, ∑ i, g i j = ∑ i, f i j) (hdual : ∀ i j, -ε ≤ C i j + u i - v j) :
    cost C f ≤ cost C g + (∑ i, ∑ j, (C i j + u i - v j) * f i j + ε * ∑ i, ∑ j, f i j) := by
  simpa only [sub_self, mul_zero, Finset.sum_const_zero, add_zero] using
    weak_duality_gen C f u v ε ⟨hg, hrow, hcol⟩ hdual

/-- **Soundness of the executable checker** (the function the native driver runs on the arrays
extracted from the real solver).  If `certify a b C f u v eps` answers `(true, gap)` then all
shapes are `a.size × b.size` (so no read below is a default), `f ≥ 0`, and for **every**
non-negative plan `g` with the same marginals as `f`:  `⟨C,f⟩ ≤ ⟨C,g⟩ + gap`. -/
theorem certify_sound (a b u v : Array Rat) (C f : Array (Array Rat)) (eps gap : Rat)
    (h : certify a b C f u v eps = (true, gap)) :
    (C.size = a.size ∧ ∀ i, i < a.size → (C.getD i #[]).size = b.size) ∧
    (f.size = a.size ∧ ∀ i, i < a.size → (f.getD i #[]).size = b.size) ∧
    u.size = a.size ∧ v.size = b.size ∧
    (∀ i j, 0 ≤ mat a.size b.size f i j) ∧
    ∀ g : Fin a.size → Fin b.size → ℚ, (∀ i j, 0 ≤ g i j) →
      (∀ i, ∑ j, g i j = ∑ j, mat a.size b.size f i j) →
      (∀ j, ∑ i, g i j = ∑ i, mat a.size b.size f i j) →
      cost (mat a.size b.size C) (mat a.size b.size f) ≤ cost (mat a.size b.size C) g + gap := by
  simp only [certify, Prod.mk.injEq] at h
  obtain ⟨hok, hgap⟩ := h
  obtain ⟨hC, hf, hu, hv, hpos, hdual⟩ := certOk_spec a b C f u v eps hok
  refine ⟨hC, hf, hu, hv, hpos, ?_⟩
  intro g hg hrow hcol
  rw [← hgap, certGap_eq]
  exact weak_duality_tol (mat a.size b.size C) (mat a.size b.size f) g (vec a.size u) (vec b.size v) eps
    hg hrow hcol hdual

/-- **Against the exactly normalised inputs.**  With the same acceptance, for every plan `g`
whose marginals are *exactly* `a` and `b` (the harness passes `a = x/Σx`, `b = y/Σy` as exact
rationals): `⟨C,f⟩ ≤ ⟨C,g⟩ + gapAB`, where `gapAB` adds to the complementary-slackness term the
marginal residuals of `f` weighted by the potentials.  (`f` itself need not be feasible for
`(a, b)`: floating-point flows reproduce the marginals only up to rounding; `rowRes`, `colRes`
report by how much.) -/
theorem certify_sound_exact_marginals (a b u v : Array Rat) (C f : Array (Array Rat)) (eps : Rat)
    (h : (certify a b C f u v eps).1 = true)
    (g : Fin a.size → Fin b.size → ℚ) (hg : Feasible (vec a.size a) (vec b.size b) g) :
    cost (mat a.size b.size C) (mat a.size b.size f)
      ≤ cost (mat a.size b.size C) g + gapAB a b C f u v eps := by
  obtain ⟨_, _, _, _, _, hdual⟩ := certOk_spec a b C f u v eps h
  rw [gapAB_eq]
  exact weak_duality_gen (mat a.size b.size C) (mat a.size b.size f) (vec a.size u) (vec b.size v) eps hg hdual

/-- **The reported residuals are bounds**: every row / column sum of `f` is within `rowRes` /
`colRes` (the numbers the driver prints, which the harness requires to be `≤ 1e-9`) of the
corresponding entry of `a` / `b`. -/
theorem residuals_sound (a b : Array Rat) (f : Array (Array Rat)) :
    (∀ i : Fin a.size, |∑ j, mat a.size b.size f i j - vec a.size a i| ≤ rowRes a b f) ∧
    (∀ j : Fin b.size, |∑ i, mat a.size b.size f i j - vec b.size b j| ≤ colRes a b f) :=
  ⟨rowRes_spec a b f, colRes_spec a b f⟩

/-- **The certified value is the LP minimum up to the gap** (two-sided): if `val` is the
minimum of the transport LP between the marginals of the certified `f`, then
`val ≤ ⟨C,f⟩ ≤ val + gap`. -/
theorem certify_value (a b u v : Array Rat) (C f : Array (Array Rat)) (eps gap : Rat)
    (h : certify a b C f u v eps = (true, gap)) (val : ℚ)
    (hmin : IsMin (fun i => ∑ j, mat a.size b.size f i j) (fun j => ∑ i, mat a.size b.size f i j)
      (mat a.size b.size C) val) :
    val ≤ costOf a.size b.size C f ∧ costOf a.size b.size C f ≤ val + gap := by
  obtain ⟨_, _, _, _, hpos, hall⟩ := certify_sound a b u v C f eps gap h
  obtain ⟨⟨g, hg, hgv⟩, hle⟩ := hmin
  rw [costOf_eq]
  refine ⟨hle _ ⟨hpos, fun _ => rfl, fun _ => rfl⟩, ?_⟩
  rw [← hgv]
  exact hall g hg.nonneg hg.row hg.col

/-- The minimum of a transport LP is a single number. -/
theorem min_unique (a : Fin n → ℚ) (b : Fin m → ℚ) (C : Fin n → Fin m → ℚ) (v w : ℚ)
    (hv : IsMin a b C v) (hw : IsMin a b C w) : v = w := hv.unique hw

/-- **Symmetry.**  Swapping the two distributions and transposing the cost leaves the minimum
unchanged (the transposed plan is feasible for the swapped marginals at equal cost) … -/
theorem ot_transpose (a : Fin n → ℚ) (b : Fin m → ℚ) (C : Fin n → Fin m → ℚ) (val : ℚ)
    (h : IsMin a b C val) : IsMin b a (fun j i => C i j) val := h.transpose

/-- … hence for a symmetric cost the metric is symmetric. -/
theorem ot_symmetric (a b : Fin n → ℚ) (C : Fin n → Fin n → ℚ) (hC : ∀ i j, C i j = C j i)
    (val : ℚ) (h : IsMin a b C val) : IsMin b a C val := by
  have := h.transpose
  rwa [funext₂ fun j i => hC i j] at this

/-- **Zero for equal distributions** under a non-negative cost with zero diagonal: the diagonal
plan costs `0` and no plan costs less. -/
theorem ot_zero_of_equal (a : Fin n → ℚ) (C : Fin n → Fin n → ℚ) (ha : ∀ i, 0 ≤ a i)
    (hC : ∀ i j, 0 ≤ C i j) (hd : ∀ i, C i i = 0) : IsMin a a C 0 := by
  refine ⟨⟨diag a, diag_feasible a ha, ?_⟩, fun g hg => cost_nonneg C g hC hg.nonneg⟩
  rw [cost_diag]
  exact Finset.sum_eq_zero fun i _ => by rw [hd, zero_mul]

/-- **Rescaling either input** by non-zero factors changes neither the support mask
(`x != 0`) nor the normalised distribution `x / Σ x`, hence not the LP that `kantorovich`
hands to the solver, hence not its minimum. -/
theorem ot_scale_invariant (x : Fin n → ℚ) (y : Fin m → ℚ) (c d : ℚ) (hc : c ≠ 0) (hd : d ≠ 0)
    (C : Fin n → Fin m → ℚ) (val : ℚ) :
    (∀ i, c * x i ≠ 0 ↔ x i ≠ 0) ∧ (∀ j, d * y j ≠ 0 ↔ y j ≠ 0) ∧
    normalize (fun i => c * x i) = normalize x ∧ normalize (fun j => d * y j) = normalize y ∧
    (IsMin (normalize fun i => c * x i) (normalize fun j => d * y j) C val
      ↔ IsMin (normalize x) (normalize y) C val) := by
  refine ⟨fun i => mul_ne_zero_iff_left hc, fun j => mul_ne_zero_iff_left hd, normalize_scale c hc x,
    normalize_scale d hd y, ?_⟩
  rw [normalize_scale c hc x, normalize_scale d hd y]

/-- Normalising a vector of non-zero total mass gives total mass one (so both normalised
inputs have equal mass and the LP is the balanced transport problem). -/
theorem normalize_mass (x : Fin n → ℚ) (hx : ∑ k, x k ≠ 0) : ∑ i, normalize x i = 1 := by
  simp only [normalize, div_eq_mul_inv, ← Finset.sum_mul]
  exact mul_inv_cancel₀ hx

/-- **Support masking is harmless.**  A plan moves nothing out of a zero-mass row or into a
zero-mass column, so the minimum depends on the cost matrix only through its entries on
`supp a × supp b` — the sub-matrix `cost[row_mask, :][:, col_mask]` that `kantorovich` keeps. -/
theorem ot_support_only (a : Fin n → ℚ) (b : Fin m → ℚ) (C C' : Fin n → Fin m → ℚ)
    (hC : ∀ i j, a i ≠ 0 → b j ≠ 0 → C i j = C' i j) (val : ℚ) :
    (∀ f, Feasible a b f → ∀ i j, (a i = 0 ∨ b j = 0) → f i j = 0) ∧
    (IsMin a b C val ↔ IsMin a b C' val) := by
  refine ⟨?_, isMin_congr_support hC⟩
  rintro f hf i j (h | h)
  · exact hf.row_zero i h j
  · exact hf.col_zero j h i

/-- **The masked problem is the same problem.**  `kantorovich` solves the LP between the
compressed arrays `x[x != 0]`, `y[y != 0]` with `cost[row_mask, :][:, col_mask]`.  For any
injective enumerations `e`, `e'` whose ranges contain the supports of `a`, `b` (the order of
the surviving indices does not matter), the LP on the compressed index sets and the LP on the
full index sets have the same minimum (plans restrict, and extend by zero, at equal cost). -/
theorem ot_masked_same_min {n' m' : ℕ} (e : Fin n' → Fin n) (e' : Fin m' → Fin m)
    (he : Function.Injective e) (he' : Function.Injective e') (a : Fin n → ℚ) (b : Fin m → ℚ)
    (ha : ∀ i, a i ≠ 0 → i ∈ Set.range e) (hb : ∀ j, b j ≠ 0 → j ∈ Set.range e')
    (C : Fin n → Fin m → ℚ) (val : ℚ) :
    IsMin (a ∘ e) (b ∘ e') (fun i j => C (e i) (e' j)) val ↔ IsMin a b C val :=
  (isMin_maskRows he a (b ∘ e') ha (fun i j => C i (e' j)) val).trans <| isMin_transpose_iff.symm.trans <|
    (isMin_maskRows he' b a hb (fun j i => C i j) val).trans isMin_transpose_iff

/-- **1-D lower bound.**  Under the ground cost `|i - j|` every plan between `a` and `b` costs
at least `Σ_k |F k - G k|`, `F`, `G` the cumulative sums. -/
theorem ot_1d_lower (a b : Fin n → ℚ) (g : Fin n → Fin n → ℚ) (hg : Feasible a b g) :
    ∑ k, |cdf a k - cdf b k| ≤ cost absCost g := w1_le_cost hg

/-- **1-D closed form.**  For non-negative `a`, `b` of equal mass the minimum of the transport
LP with ground cost `|i - j|` *equals* `Σ_k |F k - G k|` — the number
`distances.wasserstein_1d(x, y, p=1)` computes — attained by the comonotone coupling. -/
theorem ot_1d_closed_form (a b : Fin n → ℚ) (ha : ∀ i, 0 ≤ a i) (hb : ∀ j, 0 ≤ b j)
    (hab : ∑ i, a i = ∑ j, b j) : IsMin a b absCost (∑ k, |cdf a k - cdf b k|) :=
  ⟨⟨comono a b, comono_feasible a b ha hb hab, cost_comono a b ha hb hab⟩, fun _ hg => w1_le_cost hg⟩

/-! ### Non-vacuity (concrete certificates, evaluated by the kernel)

`a = b = (1/2, 1/2)`, cost `[[0,1],[1,0]]`. -/

/-- the optimal (diagonal) plan with potentials `0`: accepted, gap `0` -/
example : certify #[1/2, 1/2] #[1/2, 1/2] #[#[0, 1], #[1, 0]] #[#[1/2, 0], #[0, 1/2]]
    #[0, 0] #[0, 0] 0 = (true, 0) := by decide +kernel
/-- the anti-diagonal plan (cost 1, the maximum): still accepted — the potentials are dual
feasible — but with gap `1`, i.e. the certificate proves nothing better than `1 ≤ 0 + 1` -/
example : certify #[1/2, 1/2] #[1/2, 1/2] #[#[0, 1], #[1, 0]] #[#[0, 1/2], #[1/2, 0]]
    #[0, 0] #[0, 0] 0 = (true, 1) := by decide +kernel
/-- dual-infeasible potentials (reduced cost of arc (1,1) is `0 + 0 - 1 < 0`): rejected -/
example : (certify #[1/2, 1/2] #[1/2, 1/2] #[#[0, 1], #[1, 0]] #[#[1/2, 0], #[0, 1/2]]
    #[0, 0] #[0, 1] 0).1 = false := by decide +kernel
/-- … accepted once the tolerance covers the violation, and the gap says what that costs:
`Σ r f + eps * Σ f = -1/2 + 1` -/
example : certify #[1/2, 1/2] #[1/2, 1/2] #[#[0, 1], #[1, 0]] #[#[1/2, 0], #[0, 1/2]]
    #[0, 0] #[0, 1] 1 = (true, 1/2) := by decide +kernel
/-- a negative flow entry: rejected -/
example : (certify #[1/2, 1/2] #[1/2, 1/2] #[#[0, 1], #[1, 0]] #[#[1, -1/2], #[-1/2, 1]]
    #[0, 0] #[0, 0] 0).1 = false := by decide +kernel
/-- a ragged cost matrix: rejected (no default is ever read inside an accepted certificate) -/
example : (certify #[1/2, 1/2] #[1/2, 1/2] #[#[0, 1], #[1]] #[#[1/2, 0], #[0, 1/2]]
    #[0, 0] #[0, 0] 0).1 = false := by decide +kernel
/-- residuals are reported exactly: this `f` misses `a` by `1/4` in each row -/
example : rowRes #[1/2, 1/2] #[1/2, 1/2] #[#[1/4, 0], #[0, 3/4]] = 1/4 := by decide +kernel
/-- the 1-D closed form on `a = (1,0,0)`, `b = (0,0,1)`: `|1-0| + |1-0| + |1-1| = 2` -/
example : (∑ k, |cdf (n := 3) ![1, 0, 0] k - cdf ![0, 0, 1] k|) = 2 := by decide +kernel

end Pynn.C10
