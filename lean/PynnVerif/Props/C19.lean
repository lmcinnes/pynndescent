import PynnVerif.Proofs.ThreadFlow
import PynnVerif.Gen.ThreadFlow

/-!
# C19 — an index never leaves the process-wide thread setting changed

`Gen.threadSkeletons` is regenerated from /repo on every run: one exception-flow
skeleton per function of the package that calls `numba.set_num_threads`.
-/
namespace Pynn.C19
open Pynn.TF

/-- General theorem (proved once): a skeleton accepted by the decidable check
`safe` restores the thread count on *every* exit — normal return, `return`
inside a `try`, or an exception raised at any may-raise point. -/
theorem safe_restores (st : Stmt) (hs : safe st = true) :
    ∀ e s', Run st ⟨false, none⟩ e s' → s'.changed = false := safe_sound st hs

/-- Obligation over today's source: every function that limits the thread count
is safe. -/
theorem all_skeletons_safe : ∀ p ∈ Gen.threadSkeletons, safe p.2 = true := by decide +kernel

/-- Every execution of every thread-limiting function in /repo's current source
ends with the process-wide thread count unchanged. -/
theorem thread_count_restored :
    ∀ p ∈ Gen.threadSkeletons, ∀ e s', Run p.2 ⟨false, none⟩ e s' → s'.changed = false :=
  fun p hp => safe_sound p.2 (all_skeletons_safe p hp)

/-- The check is not vacuous: the pre-repair shape (set, may-raise, restore without
`try/finally`) is rejected, and so is a restore from a stale saved value. -/
example : safe (.seq .getT (.seq .setT (.seq .mayRaise .restore))) = false := by decide +kernel
example : safe (.seq .setT (.tryFin .mayRaise .restore)) = false := by decide +kernel
example : safe (.seq .getT (.seq (.br .setT .skip) (.tryFin (.seq .mayRaise (.br .ret .raise_)) .restore))) = true := by decide +kernel
/-- a nested call of another thread-limiting method of the same object INSIDE the limited region overwrites the shared
saved value with the limited count: rejected; the same call after the `finally` is harmless -/
example : safe (.seq .getT (.seq .setT (.tryFin (.seq .mayRaise .callT) .restore))) = false := by decide +kernel
example : safe (.seq .getT (.seq .setT (.seq (.tryFin .mayRaise .restore) .callT))) = true := by decide +kernel
/-- …and the relational semantics really contains the offending execution. -/
example : Run (.seq .getT (.seq .setT (.seq .mayRaise .restore))) ⟨false, none⟩ .raised ⟨true, some false⟩ := by
  refine .seq_go _ _ _ ⟨false, some false⟩ _ _ (.get ⟨false, none⟩) ?_
  refine .seq_go _ _ _ ⟨true, some false⟩ _ _ (.set_ok ⟨false, some false⟩) ?_
  exact .seq_stop _ _ _ _ _ (.may_raise _) (by decide)

end Pynn.C19
