import PynnVerif.Proofs.RowWise
import PynnVerif.Proofs.LowHigh
import PynnVerif.Proofs.GenApply
import PynnVerif.Proofs.GenApplyHigh
import Mathlib.Data.Nat.Basic  -- `LinearOrder Nat` for the concrete examples at the end

/-!
# C12 — low-memory and high-memory NN-descent compute the same graph

`apply_graph_updates_low_memory` (every thread scans all updates and pushes into the rows it owns)
and `apply_graph_updates_high_memory` (sequential, with the per-row record `in_graph` of everything
that was ever in the row, and pushes of recorded candidates skipped) return the same graph and the
same change count; hence `nn_descent(low_memory=True)` and `nn_descent(low_memory=False)` return
the same graph and leave the generator in the same state.

`P` is any linear order of distances, `dist` any symmetric function on row numbers.  Of the
well-formedness invariant `GraphInv` only two parts are used: every row is a max-heap, and stored
distances are true (`HeapTruth`, `GraphInv.heapTruth`).
-/
namespace Pynn.C12
open Pynn
variable {P : Type} [LinearOrder P]

/-- **The thread count is irrelevant** for `apply_graph_updates_low_memory` (graph and change
count): row `r` is touched only by thread `r % T`, in update order, so every row is fed the same
offers in the same order whatever `T` is.  The common value is the sequential application `applySeq`. -/
theorem low_memory_thread_count_irrelevant (T T' : Nat) (hT : 0 < T) (hT' : 0 < T') (g : Graph P)
    (ups : List (Upd P)) :
    applyLow T g ups = applyLow T' g ups ∧ applyLow T g ups = applySeq g ups ∧
    (applyLow T g ups).1 = ups.foldl applyBoth g :=
  ⟨by rw [applyLow_eq_applySeq T hT, applyLow_eq_applySeq T' hT'], applyLow_eq_applySeq T hT g ups,
   applyLow_fst T hT g ups⟩

/-- **Row-wise form of the low-memory result**: row `r` is its old content fed with the offers
addressed to it, and the change count is the sum over the rows of the number of offers the row's
feed accepts. -/
theorem applyLow_rowwise (T : Nat) (hT : 0 < T) (g : Graph P) (ups : List (Upd P)) :
    (∀ r, (applyLow T g ups).1[r]? = g[r]?.map (fun row => feed row (offersFor r ups))) ∧
    (applyLow T g ups).2 =
      ((List.range g.size).map (fun r =>
        (g[r]?.map (fun row => feedCount row (offersFor r ups))).getD 0)).sum :=
  ⟨applyLow_row T hT g ups, applyLow_count T hT g ups⟩

/-- **The initial record** `in_graph[i] = set(current_graph[0][i])` satisfies the record
invariant: every recorded candidate is held. -/
theorem initial_record_valid (dist : Nat → Nat → P) (g : Graph P) :
    InGraphInv dist g (initInGraph g) := Pynn.initInGraph_inv dist g

/-- **A skipped push loses nothing.**  If candidate `q` is recorded for row `p`, pushing it
(with its true distance) is rejected and leaves the graph unchanged: `q` is still held (duplicate
scan), or it has been evicted and is at least as far as the current root. -/
theorem recorded_push_rejected (dist : Nat → Nat → P) (g : Graph P) (s : InGraph)
    (hI : InGraphInv dist g s) (p q : Nat) (hrec : s.has p (q : Int) = true) :
    pushInto g p (dist p q) (q : Int) true = (g, false) := pushInto_recorded hI p q hrec true

/-- **Recording an accepted push keeps the record invariant**, for all rows: the evicted entry was
the root, so its true distance is the old root, which bounds the new root; other rows are
unchanged.  A rejected push changes nothing. -/
theorem push_keeps_record_inv (top : P) (n k : Nat) (dist : Nat → Nat → P) (g : Graph P)
    (s : InGraph) (hG : GraphInv top n k dist g) (hI : InGraphInv dist g s) (r q : Nat) (d : P) :
    ((pushInto g r d (q : Int) true).2 = true →
      InGraphInv dist (pushInto g r d (q : Int) true).1 (s.add r (q : Int))) ∧
    ((pushInto g r d (q : Int) true).2 = false → (pushInto g r d (q : Int) true).1 = g) :=
  ⟨pushInto_inGraphInv_accept hG.heapTruth hI r q d, pushInto_reject g r d q true⟩

/-- **One application: high = low** (graph *and* change count), for every positive thread count,
on a well-formed graph with a valid record and truthful updates of a symmetric distance; the
record invariant holds again afterwards.  (No range hypothesis on the updates is needed: a push
into a row that does not exist is the identity in both paths.) -/
theorem applyHigh_eq_applyLow (T : Nat) (hT : 0 < T) (top : P) (n k : Nat) (dist : Nat → Nat → P)
    (hsymm : ∀ a b, dist a b = dist b a) (g : Graph P) (s : InGraph) (ups : List (Upd P))
    (hG : GraphInv top n k dist g) (hI : InGraphInv dist g s) (hTr : Truthful dist ups) :
    (applyHigh g ups s).1 = applyLow T g ups ∧
    InGraphInv dist (applyHigh g ups s).1.1 (applyHigh g ups s).2 := by
  obtain ⟨h1, _, h3⟩ := applyHigh_eq_applyLow_of_heapTruth hsymm T hT g ups s hG.heapTruth hI hTr
  exact ⟨h1, h3⟩

section whole
variable {C : Type} [LE C] [LT C] [DecidableLE C] [DecidableLT C]

/-- **`nn_descent` is mode-independent.**  For every configuration, every generator `draw` of the
candidate priorities, every stop test, leaf array and seed: the low-memory and the high-memory run
return the same (sorted) graph and the same generator state — provided the distance is symmetric,
there is at least one thread, and a supplied initial heap is a heap with true distances.
(Nothing is assumed about `top` or the leaf array: out-of-range leaf entries are pushes into rows
that do not exist, the identity in both modes.) -/
theorem descent_low_eq_high (top : P) (ctop : C) (draw : RngState → C × RngState)
    (dist : Nat → Nat → P) (hsymm : ∀ a b, dist a b = dist b a) (n : Nat) (cfg : Cfg)
    (hT : 0 < cfg.nThreads) (stop : Nat → Bool) (rng : RngState) (init : Option (Graph P))
    (hinit : ∀ g, init = some g → HeapTruth dist g) (rpTreeInit : Bool)
    (leafArray : List (List Int)) :
    nnDescent top ctop draw dist n { cfg with lowMemory := true } stop rng init rpTreeInit leafArray =
      nnDescent top ctop draw dist n { cfg with lowMemory := false } stop rng init rpTreeInit leafArray := by
  rw [nnDescent_eq, nnDescent_eq]
  exact congrArg (fun g : Graph P => (g.map deheapSort, _))
    (descentLoop_low_high top ctop draw hsymm cfg hT stop _ cfg.nIters _ _ _
      (startGraph_heapTruth top hsymm n cfg rng init hinit rpTreeInit leafArray) (initInGraph_inv dist _))

/-- the same with the supplied heap required to satisfy the full `GraphInv` -/
theorem descent_low_eq_high_of_graphInv (top : P) (ctop : C) (draw : RngState → C × RngState)
    (dist : Nat → Nat → P) (hsymm : ∀ a b, dist a b = dist b a) (n : Nat) (cfg : Cfg)
    (hT : 0 < cfg.nThreads) (stop : Nat → Bool) (rng : RngState) (init : Option (Graph P))
    (hinit : ∀ g, init = some g → GraphInv top n cfg.k dist g) (rpTreeInit : Bool)
    (leafArray : List (List Int)) :
    nnDescent top ctop draw dist n { cfg with lowMemory := true } stop rng init rpTreeInit leafArray =
      nnDescent top ctop draw dist n { cfg with lowMemory := false } stop rng init rpTreeInit leafArray :=
  descent_low_eq_high top ctop draw dist hsymm n cfg hT stop rng init
    (fun g hg => (hinit g hg).heapTruth) rpTreeInit leafArray

end whole

/-! ## The same about the *generated* low-memory applier

`Gen/Kernels.lean` is regenerated on every run from the source text of `utils.py`
(`harness/translate_kernels.py`); `GenK.apply_graph_updates_low_memory fuel indices priorities flags updates
n_threads` is the translation of `apply_graph_updates_low_memory` (three nested loops over thread number,
update block and entry; `(p, q, d) = updates[i][j]`; `continue` on `p == -1 or q == -1`; `p % n_threads == n`;
two calls of the translated `checked_flagged_heap_push` on the rows with write-back).  `zipGraph D I F` reads
the three 2-D arrays as the model's graph; `updsOf updates` is the model's update list: the blocks
concatenated in order, every triple with `p = -1` or `q = -1` dropped, `(p, q, d) ↦ ⟨p.toNat, q.toNat, d⟩`. -/

/-- **`utils.apply_graph_updates_low_memory` is the model's `applyLow`.**  For a rectangular graph (`n` rows
of `k ≥ 1` slots in all three arrays), `n_threads = T > 0`, update blocks of at most `M` triples each of which
is a placeholder (`p = -1` or `q = -1`) or names two rows (`0 ≤ p, q < n`), and
`fuel ≥ T + #blocks + M + k + 3`: the translated kernel never reads or writes outside an array (result
`some`), keeps the shape of the three arrays, returns the model's change count, and row for row the arrays
are the model's graph.  No order axioms are used (`Q` is any type with decidable `≤`, `<`). -/
theorem kernel_apply_graph_updates_low_memory_refines {Q : Type} [LE Q] [LT Q] [DecidableLE Q] [DecidableLT Q]
    (k : Nat) (hk : 0 < k) (I : Array (Array Int)) (D : Array (Array Q)) (F : Array (Array Int))
    (updates : Array (Array (Int × Int × Q))) (T M : Nat) (hT : 0 < T)
    (hI : I.size = D.size) (hF : F.size = D.size)
    (hrect : ∀ r (h : r < D.size), D[r].size = k ∧ (I[r]'(by omega)).size = k ∧ (F[r]'(by omega)).size = k)
    (hM : ∀ b ∈ updates.toList, b.size ≤ M)
    (hok : ∀ b ∈ updates.toList, ∀ x ∈ b.toList, OkTriple D.size x)
    (fuel : Nat) (hf : T + updates.size + M + k + 3 ≤ fuel) :
    ∃ I' D' F', GenK.apply_graph_updates_low_memory fuel I D F updates (T : Int)
        = some (I', D', F', (((applyLow T (zipGraph D I F) (updsOf updates)).2 : Nat) : Int)) ∧
      D'.size = D.size ∧ I'.size = D.size ∧ F'.size = D.size ∧
      (∀ r (h : r < D'.size) (h' : r < I'.size) (h'' : r < F'.size),
        D'[r].size = k ∧ I'[r].size = k ∧ F'[r].size = k ∧
        (applyLow T (zipGraph D I F) (updsOf updates)).1[r]? = some (zip3 D'[r] I'[r] F'[r])) ∧
      zipGraph D' I' F' = (applyLow T (zipGraph D I F) (updsOf updates)).1 := by
  obtain ⟨_, ⟨D', I', F', _, hR'⟩, e⟩ := low_loop0 D.size k hk updates T M hM hok fuel
    (0, D, I, F) (zipGraph D I F, 0) (.mk _ _ _ (_, 0) (Rep.of_rect k D I F hI hF hrect))
    (by simp only [← Nat.add_assoc]; exact Nat.le_of_succ_le (Nat.le_of_succ_le hf))
  simp only [← applyLow_eq_lowStep] at e hR'
  refine ⟨I', D', F', ?_, hR'.explicit⟩
  simp only [GenK.apply_graph_updates_low_memory, Option.bind_eq_bind, e, Option.bind_some]
  rfl

/-- **The thread count does not matter — for the generated kernel.**  Run the translated
`apply_graph_updates_low_memory` on the same arrays and updates with any two positive thread counts: both
runs stay in bounds, and they return the same graph (all rows, entries with their flags) and the same
change count, namely the sequential application `applySeq`. -/
theorem kernel_low_memory_thread_count_irrelevant (k : Nat) (hk : 0 < k) (I : Array (Array Int))
    (D : Array (Array P)) (F : Array (Array Int)) (updates : Array (Array (Int × Int × P)))
    (T T' M : Nat) (hT : 0 < T) (hT' : 0 < T') (hI : I.size = D.size) (hF : F.size = D.size)
    (hrect : ∀ r (h : r < D.size), D[r].size = k ∧ (I[r]'(by omega)).size = k ∧ (F[r]'(by omega)).size = k)
    (hM : ∀ b ∈ updates.toList, b.size ≤ M)
    (hok : ∀ b ∈ updates.toList, ∀ x ∈ b.toList, OkTriple D.size x)
    (fuel : Nat) (hf : T + updates.size + M + k + 3 ≤ fuel) (hf' : T' + updates.size + M + k + 3 ≤ fuel) :
    ∃ I1 D1 F1 I2 D2 F2 c,
      GenK.apply_graph_updates_low_memory fuel I D F updates (T : Int) = some (I1, D1, F1, c) ∧
      GenK.apply_graph_updates_low_memory fuel I D F updates (T' : Int) = some (I2, D2, F2, c) ∧
      zipGraph D1 I1 F1 = zipGraph D2 I2 F2 ∧
      (zipGraph D1 I1 F1, c) = ((applySeq (zipGraph D I F) (updsOf updates)).1,
                                (((applySeq (zipGraph D I F) (updsOf updates)).2 : Nat) : Int)) := by
  obtain ⟨I1, D1, F1, h1, _, _, _, _, z1⟩ :=
    kernel_apply_graph_updates_low_memory_refines k hk I D F updates T M hT hI hF hrect hM hok fuel hf
  obtain ⟨I2, D2, F2, h2, _, _, _, _, z2⟩ :=
    kernel_apply_graph_updates_low_memory_refines k hk I D F updates T' M hT' hI hF hrect hM hok fuel hf'
  obtain ⟨e1, e2, _⟩ := low_memory_thread_count_irrelevant T T' hT hT' (zipGraph D I F) (updsOf updates)
  refine ⟨I1, D1, F1, I2, D2, F2, _, h1, ?_, ?_, ?_⟩
  · rw [h2, e1]
  · rw [z1, z2, e1]
  · rw [z1, e2]

/-- **High-memory model = generated low-memory kernel.**  On a well-formed graph held in the three
arrays, with a valid `in_graph` record and truthful updates of a symmetric distance, what the translated
`apply_graph_updates_low_memory` leaves in the arrays and returns is exactly the graph and change count of
the (modelled) `apply_graph_updates_high_memory`, for every positive thread count. -/
theorem kernel_low_memory_eq_high_memory (k : Nat) (hk : 0 < k) (I : Array (Array Int))
    (D : Array (Array P)) (F : Array (Array Int)) (updates : Array (Array (Int × Int × P)))
    (T M : Nat) (hT : 0 < T) (hI : I.size = D.size) (hF : F.size = D.size)
    (hrect : ∀ r (h : r < D.size), D[r].size = k ∧ (I[r]'(by omega)).size = k ∧ (F[r]'(by omega)).size = k)
    (hM : ∀ b ∈ updates.toList, b.size ≤ M)
    (hok : ∀ b ∈ updates.toList, ∀ x ∈ b.toList, OkTriple D.size x)
    (fuel : Nat) (hf : T + updates.size + M + k + 3 ≤ fuel)
    (dist : Nat → Nat → P) (hsymm : ∀ a b, dist a b = dist b a) (s : InGraph)
    (hH : HeapTruth dist (zipGraph D I F)) (hS : InGraphInv dist (zipGraph D I F) s)
    (hTr : Truthful dist (updsOf updates)) :
    ∃ I' D' F' c, GenK.apply_graph_updates_low_memory fuel I D F updates (T : Int) = some (I', D', F', c) ∧
      zipGraph D' I' F' = (applyHigh (zipGraph D I F) (updsOf updates) s).1.1 ∧
      c = (((applyHigh (zipGraph D I F) (updsOf updates) s).1.2 : Nat) : Int) := by
  obtain ⟨I', D', F', h1, _, _, _, _, z1⟩ :=
    kernel_apply_graph_updates_low_memory_refines k hk I D F updates T M hT hI hF hrect hM hok fuel hf
  rw [← (applyHigh_eq_applyLow_of_heapTruth hsymm T hT (zipGraph D I F) (updsOf updates) s hH hS hTr).1] at h1 z1
  exact ⟨I', D', F', _, h1, z1, rfl⟩

/-- **`utils.apply_graph_updates_high_memory` is the model's `applyHigh`.**  The translation keeps `in_graph` (a
list of sets, used only through `x in in_graph[r]` and `in_graph[r].add(x)`) as `Array (List Int)` — `add` conses,
`in` is list membership — which *is* the model's `InGraph`.  For a rectangular graph (`n` rows of `k ≥ 1` slots),
one recorded set per row, update blocks of at most `M` triples each a placeholder or naming two rows, and
`fuel ≥ #blocks + M + k + 2`: the translated kernel never leaves an array, keeps the shape, and returns exactly
the model's record, change count and (row for row) graph.  No order axioms. -/
theorem kernel_apply_graph_updates_high_memory_refines {Q : Type} [LE Q] [LT Q] [DecidableLE Q] [DecidableLT Q]
    (k : Nat) (hk : 0 < k) (I : Array (Array Int)) (D : Array (Array Q)) (F : Array (Array Int))
    (updates : Array (Array (Int × Int × Q))) (s : InGraph) (M : Nat)
    (hI : I.size = D.size) (hF : F.size = D.size) (hS : s.size = D.size)
    (hrect : ∀ r (h : r < D.size), D[r].size = k ∧ (I[r]'(by omega)).size = k ∧ (F[r]'(by omega)).size = k)
    (hM : ∀ b ∈ updates.toList, b.size ≤ M)
    (hok : ∀ b ∈ updates.toList, ∀ x ∈ b.toList, OkTriple D.size x)
    (fuel : Nat) (hf : updates.size + M + k + 2 ≤ fuel) :
    ∃ I' D' F', GenK.apply_graph_updates_high_memory fuel I D F updates s
        = some (I', D', F', (applyHigh (zipGraph D I F) (updsOf updates) s).2,
                (((applyHigh (zipGraph D I F) (updsOf updates) s).1.2 : Nat) : Int)) ∧
      D'.size = D.size ∧ I'.size = D.size ∧ F'.size = D.size ∧
      (∀ r (h : r < D'.size) (h' : r < I'.size) (h'' : r < F'.size),
        D'[r].size = k ∧ I'[r].size = k ∧ F'[r].size = k) ∧
      zipGraph D' I' F' = (applyHigh (zipGraph D I F) (updsOf updates) s).1.1 := by
  obtain ⟨_, ⟨D', I', F', _, hR', _⟩, e⟩ := high_loop0 D.size k hk updates M hM hok fuel
    (D, I, F, 0, s) ((zipGraph D I F, 0), s) (.mk _ _ _ ((_, 0), _) (Rep.of_rect k D I F hI hF hrect) hS)
    (Nat.add_assoc .. ▸ Nat.le_of_succ_le hf)
  simp only [← foldl_updsOf] at e hR'
  rw [applyHigh_eq_foldl_highStep]
  obtain ⟨a1, a2, a3, a4, a5⟩ := hR'.explicit
  refine ⟨I', D', F', ?_, a1, a2, a3, fun r h h' h'' => ?_, a5⟩
  · simp only [GenK.apply_graph_updates_high_memory, Option.bind_eq_bind, e, Option.bind_some]
    rfl
  · obtain ⟨b1, b2, b3, _⟩ := a4 r h h' h''
    exact ⟨b1, b2, b3⟩

/-- **C12 on the two regenerated kernels.**  On a graph with heap order and true distances held in the three
arrays, a valid `in_graph` record with one set per row, and truthful updates of a symmetric distance: the
*translated* `apply_graph_updates_high_memory` and the *translated* `apply_graph_updates_low_memory` (any
positive thread count) both stay in bounds and return the same graph (every row, entries with flags) and the
same change count. -/
theorem kernel_high_memory_eq_low_memory (k : Nat) (hk : 0 < k) (I : Array (Array Int))
    (D : Array (Array P)) (F : Array (Array Int)) (updates : Array (Array (Int × Int × P))) (s : InGraph)
    (T M : Nat) (hT : 0 < T) (hI : I.size = D.size) (hF : F.size = D.size) (hS : s.size = D.size)
    (hrect : ∀ r (h : r < D.size), D[r].size = k ∧ (I[r]'(by omega)).size = k ∧ (F[r]'(by omega)).size = k)
    (hM : ∀ b ∈ updates.toList, b.size ≤ M)
    (hok : ∀ b ∈ updates.toList, ∀ x ∈ b.toList, OkTriple D.size x)
    (fuel : Nat) (hf : T + updates.size + M + k + 3 ≤ fuel)
    (dist : Nat → Nat → P) (hsymm : ∀ a b, dist a b = dist b a)
    (hH : HeapTruth dist (zipGraph D I F)) (hInv : InGraphInv dist (zipGraph D I F) s)
    (hTr : Truthful dist (updsOf updates)) :
    ∃ Ih Dh Fh sh Il Dl Fl c,
      GenK.apply_graph_updates_high_memory fuel I D F updates s = some (Ih, Dh, Fh, sh, c) ∧
      GenK.apply_graph_updates_low_memory fuel I D F updates (T : Int) = some (Il, Dl, Fl, c) ∧
      zipGraph Dh Ih Fh = zipGraph Dl Il Fl ∧
      InGraphInv dist (zipGraph Dh Ih Fh) sh := by
  obtain ⟨Ih, Dh, Fh, h1, _, _, _, _, zh⟩ :=
    kernel_apply_graph_updates_high_memory_refines k hk I D F updates s M hI hF hS hrect hM hok fuel (Nat.le_trans
      (Nat.add_le_add_right (Nat.add_le_add_right (Nat.add_le_add_right (Nat.le_add_left _ T) M) k) 2)
      (Nat.le_of_succ_le hf))
  obtain ⟨Il, Dl, Fl, h2, _, _, _, _, zl⟩ :=
    kernel_apply_graph_updates_low_memory_refines k hk I D F updates T M hT hI hF hrect hM hok fuel hf
  obtain ⟨e, _, hinv⟩ := applyHigh_eq_applyLow_of_heapTruth hsymm T hT (zipGraph D I F) (updsOf updates) s hH hInv hTr
  rw [← e] at h2 zl
  exact ⟨Ih, Dh, Fh, _, Il, Dl, Fl, _, h1, h2, zh.trans zl.symm, zh ▸ hinv⟩

/-! ## non-vacuity -/

/-- distance on a line -/
private def lineDist : Nat → Nat → Nat := fun a b => if a ≤ b then b - a else a - b

/-- Three points on a line, one slot per row.  `(0,2,2)` fills rows 0 and 2; `(0,1,1)` evicts
candidate 2 from row 0; when `(0,2,2)` arrives again the high-memory path finds `2 ∈ in_graph[0]`
(although row 0 no longer holds 2) and `0 ∈ in_graph[2]` and skips both pushes; the low-memory
path performs them and the heap rejects both (too far / duplicate).  Same graph, same count. -/
example :
    let g := mkGraph (100 : Nat) 3 1
    let ups : List (Upd Nat) := [⟨0, 2, 2⟩, ⟨0, 1, 1⟩, ⟨0, 2, 2⟩]
    let mid := applyHigh g (ups.take 2) (initInGraph g)
    -- before the third update: 2 is recorded for row 0 but not held by it
    mid.2.has 0 2 = true ∧ (mid.1.1.map (fun r => r.toList.map (·.idx))).toList = [[1], [0], [0]] ∧
    -- the third update is skipped entirely
    applyHigh mid.1.1 (ups.drop 2) mid.2 = ((mid.1.1, 0), mid.2) ∧
    -- and the two modes agree on graph and count (3 threads / 1 thread)
    (applyHigh g ups (initInGraph g)).1 = applyLow 3 g ups ∧
    (applyHigh g ups (initInGraph g)).1 = applyLow 1 g ups ∧
    (applyLow 3 g ups).2 = 4 := by decide +kernel

/-- the hypotheses of `applyHigh_eq_applyLow` are satisfiable on that input -/
example : Truthful lineDist [⟨0, 2, 2⟩, ⟨0, 1, 1⟩, ⟨0, 2, 2⟩] ∧ (∀ a b, lineDist a b = lineDist b a) := by
  refine ⟨by unfold Truthful; decide, ?_⟩
  intro a b
  simp only [lineDist]
  split <;> split <;> omega

private def exI : Array (Array Int) := #[#[-1], #[-1], #[-1]]
private def exD : Array (Array Nat) := #[#[100], #[100], #[100]]
private def exF : Array (Array Int) := #[#[0], #[0], #[0]]
private def exUps : Array (Array (Int × Int × Nat)) :=
  #[#[(-1, -1, 100), (0, 2, 2), (0, 1, 1)], #[(-1, -1, 100), (0, 2, 2)]]

/-- The generated low-memory applier executed by the Lean kernel on the three-point example above (one slot
per row, two update blocks each starting with the `(-1, -1, ·)` placeholder `nn_descent` puts there): with 3
threads and with 1 thread it returns the same arrays and 4 changes, and the arrays zip to the model's
`applyLow`; an update naming row 3 of a 3-row graph makes it read outside `priorities` (`none`) — the range
hypothesis `OkTriple` of the refinement theorem is a real precondition of the kernel. -/
example : GenK.apply_graph_updates_low_memory 12 exI exD exF exUps 3
    = some (#[#[1], #[0], #[0]], #[#[1], #[1], #[2]], #[#[1], #[1], #[1]], 4) := by decide +kernel
example : GenK.apply_graph_updates_low_memory 12 exI exD exF exUps 1
    = GenK.apply_graph_updates_low_memory 12 exI exD exF exUps 3 := by decide +kernel
example : (updsOf exUps).map (fun u => (u.p, u.q, u.d)) = [(0, 2, 2), (0, 1, 1), (0, 2, 2)] := by decide +kernel
example : zipGraph #[#[1], #[1], #[2]] #[#[1], #[0], #[0]] #[#[1], #[1], #[1]]
    = (applyLow 3 (zipGraph exD exI exF) (updsOf exUps)).1 := by decide +kernel
example : (applyLow 3 (zipGraph exD exI exF) (updsOf exUps)).2 = 4 := by decide +kernel
example : GenK.apply_graph_updates_low_memory 12 exI exD exF #[#[(0, 3, 2)]] 1 = none := by decide +kernel

/-- the generated high-memory applier on the same input, from the initial record `in_graph[i] = set(indices[i])`: same
arrays and count as the generated low-memory applier; the record gains the accepted candidates -/
example : (GenK.apply_graph_updates_high_memory 12 exI exD exF exUps #[[-1], [-1], [-1]]).map (fun r => (r.1, r.2.1, r.2.2.1))
    = some (#[#[1], #[0], #[0]], #[#[1], #[1], #[2]], #[#[1], #[1], #[1]]) := by decide +kernel
example : (GenK.apply_graph_updates_high_memory 12 exI exD exF exUps #[[-1], [-1], [-1]]).map (fun r => r.2.2.2)
    = some (#[[1, 2, -1], [0, -1], [0, -1]], 4) := by decide +kernel
example : (GenK.apply_graph_updates_high_memory 12 exI exD exF exUps #[[-1], [-1]]).isSome = false := by decide +kernel

/-- the hypotheses of `kernel_apply_graph_updates_low_memory_refines` hold of that input (`k = 1`, `M = 3`) -/
example : (∀ b ∈ exUps.toList, b.size ≤ 3) ∧ (∀ b ∈ exUps.toList, ∀ x ∈ b.toList, OkTriple 3 x) := by
  unfold OkTriple
  decide

/-- candidate priorities for the concrete run: the Tausworthe stream reduced mod 1000 -/
private def drawN (s : RngState) : Nat × RngState := ((tauRandInt s).1.natAbs % 1000, (tauRandInt s).2)

/-- a whole `nn_descent` run (six points on a line, two leaves, `k = 2`, three candidates, two
threads, real `tau_rand_int` stream) evaluated in both modes by the kernel: identical results.
Every row holds the point itself (distance 0, from the `(p, p, 0)` self pair) and a nearest other
point. -/
private def runBoth (low : Bool) : Graph Nat × RngState :=
  nnDescent (100 : Nat) (1000 : Nat) drawN lineDist 6
    { k := 2, maxCand := 3, nIters := 3, nThreads := 2, lowMemory := low }
    (fun c => c == 0) (RngState.ofInts 1234 5678 91011) none true [[0, 1, 2, -1], [3, 4, 5, -1]]

example : runBoth true = runBoth false ∧
    ((runBoth false).1.map (fun r => r.toList.map (·.idx))).toList
      = [[0, 1], [1, 0], [2, 1], [3, 4], [4, 3], [5, 4]] := by decide +kernel

/-- the hypotheses of `descent_low_eq_high` are satisfiable: any configuration with a thread, any
candidate generator, stop test, seed and leaf array, from an empty heap -/
example (cfg : Cfg) (hT : 0 < cfg.nThreads) (draw : RngState → Nat × RngState) (stop : Nat → Bool)
    (rng : RngState) (leafArray : List (List Int)) :
    nnDescent (100 : Nat) (1000 : Nat) draw lineDist 6 { cfg with lowMemory := true } stop rng none true leafArray =
      nnDescent (100 : Nat) (1000 : Nat) draw lineDist 6 { cfg with lowMemory := false } stop rng none true leafArray :=
  descent_low_eq_high _ _ _ _ (by intro a b; simp only [lineDist]; split <;> split <;> omega) 6 cfg hT
    stop rng none (fun _ h => nomatch h) true leafArray

/-- The second branch as it was before the repair: it pushed `(d, q)` into row `p` *again*
instead of `(d, p)` into row `q`. -/
private def applyHighBuggy (g : Graph Nat) (ups : List (Upd Nat)) (s : InGraph) : (Graph Nat × Nat) × InGraph :=
  ups.foldl (fun (acc : (Graph Nat × Nat) × InGraph) u =>
    let g := acc.1.1; let c := acc.1.2; let s := acc.2
    let p : Int := u.p; let q : Int := u.q
    if s.has u.p q && s.has u.q p then acc else
      let acc1 : (Graph Nat × Nat) × InGraph :=
        if s.has u.p q then acc else
          let r := pushInto g u.p u.d q true
          if r.2 then ((r.1, c + 1), s.add u.p q) else ((r.1, c), s)
      let g := acc1.1.1; let c := acc1.1.2; let s := acc1.2
      if u.p = u.q || s.has u.q p then acc1 else
        let r := pushInto g u.p u.d q true      -- the defect: row `p`, candidate `q`
        if r.2 then ((r.1, c + 1), s.add u.p q) else ((r.1, c), s)) ((g, 0), s)

/-- Two points, one update `(0,1,1)`: the pre-repair code never tells row 1 about point 0, so the
high-memory graph differs from the low-memory one — the equality above is a property of the
repaired code, not of any code of this shape. -/
example :
    let g := mkGraph (100 : Nat) 2 1
    let ups : List (Upd Nat) := [⟨0, 1, 1⟩]
    ((applyHighBuggy g ups (initInGraph g)).1.1.map (fun r => r.toList.map (·.idx))).toList = [[1], [-1]] ∧
    ((applyLow 1 g ups).1.map (fun r => r.toList.map (·.idx))).toList = [[1], [0]] ∧
    (applyHighBuggy g ups (initInGraph g)).1 ≠ applyLow 1 g ups ∧
    (applyHigh g ups (initInGraph g)).1 = applyLow 1 g ups := by decide +kernel

end Pynn.C12
