import PynnVerif.Proofs.Metrics
import PynnVerif.Props.C07b
import PynnVerif.Proofs.GenMetrics

/-!
# C07 — every dense metric computes its documented definition

Property theorems only (model of the kernels, following their loop and branch structure:
`Model/Metrics.lean`; helpers: `Proofs/Metrics.lean`).  Per metric, over `ℝ`:

* `…_spec`     the modelled kernel equals a declarative formula (list sums; `IsGreatest` for the
               maximum), on the documented domain, the explicit degenerate branches included;
* `…_symm`     the value is unchanged when the arguments are swapped;
* `…_self`     identical inputs give `0` (`1` for `true_angular` on a non-zero vector — it is
               similarity-like; the zero-vector branches are stated);
* `…_defined`  every partial operation the kernel reaches is used inside its domain: the divisor is
               non-zero, the argument of `sqrt` is `≥ 0`, of `arccos` in `[-1,1]` — established by
               the code's own branches / clamps (Mathlib totalises `x/0`, `√(-1)`, `arccos 2`; the
               `…_spec` / `…_defined` theorems do not rely on that, the unconditional `…_self` /
               `…_symm` theorems do: see the head of `Proofs/Metrics.lean`).
Vectors are `List ℝ`; "equal length" (`x.length = y.length`) is stated where it is used.

The theorems are about the kernels' arithmetic on exact numbers.  Float rounding is outside them:
`harness/c07.py` compares the real numba kernels with float64 references under a tolerance, and
`harness/c07_model.py` ties this model (executed over `Float` by the driver) to the same kernels.

REACHED (all four clauses unless noted): euclidean, squared_euclidean, manhattan, chebyshev,
minkowski, cosine, dot, true_angular, correlation, hellinger, hamming, jaccard, dice, matching
(binary family: identities over the counts for every dimension + the count symmetries), canberra,
bray_curtis; the clamp of `hellinger` (`hellinger_clamp_defined`).

Also over the counts (formula, positive divisor under the guard, range, degenerate branch,
symmetry, identical inputs): kulsinski, rogers_tanimoto (= sokal_michener), sokal_sneath,
russellrao, yule.
CONTINUED in `Props/C07b.lean` (the same clauses for standardised_euclidean, weighted_minkowski,
mahalanobis, haversine, tsss, jensen_shannon, symmetric_kl, wasserstein_1d, bit_jaccard; without
`…_defined` for spearmanr and bit_hamming) and `Props/C07bGuarded.lean` (the `RArith` "guardedness
under rounding" formulation of DESIGN C07; `hellinger_clamp_defined` below is its instance over `ℝ`
for the clamp of `hellinger`).
NOT MODELLED (harness `c07.py` only): circular_kantorovich, kantorovich, sinkhorn.
NOT DONE: the relation of euclidean / manhattan / chebyshev to Mathlib's `dist` on `EuclideanSpace` /
`PiLp` (the specs are self-contained list formulas instead); `decide` over all 0/1 pairs of dim ≤ 4
for the count extraction (the harness enumerates them on the real kernels).
Recorded finding kept as is: `true_angular` returns the sentinel `FLOAT32_MAX` for `⟨x,y⟩ ≤ 0`
(`true_angular_sentinel_region`); `true_angular_spec` excludes that region by hypothesis.
-/
namespace Pynn.C07
open Pynn.Metrics

/-! ## accumulators -/

/-- `Σ xᵢyᵢ`, `Σ xᵢ²`, `Σ xᵢ` — the loops are the sums they look like. -/
theorem accumulators_spec (x y : List ℝ) :
    dotProd x y = (List.zipWith (fun a b => a * b) x y).sum ∧
    normSq x = (x.map (fun v => v ^ 2)).sum ∧ l1 x = x.sum := by
  refine ⟨sumBy_real _ x y, ?_, l1_real x⟩
  rw [normSq, sum1_real]
  simp only [sq]

/-! ## euclidean, squared_euclidean -/

theorem squared_euclidean_spec (x y : List ℝ) :
    squaredEuclidean x y = (List.zipWith (fun a b => (a - b) ^ 2) x y).sum := by
  rw [squaredEuclidean_real]
  simp only [sq]

theorem squared_euclidean_symm (x y : List ℝ) : squaredEuclidean x y = squaredEuclidean y x :=
  squaredEuclidean_comm x y

theorem squared_euclidean_self (x : List ℝ) : squaredEuclidean x x = 0 := squaredEuclidean_self x

/-- `D(x,y) = √(Σ (xᵢ − yᵢ)²)` (the docstring). -/
theorem euclidean_spec (x y : List ℝ) :
    euclidean x y = Real.sqrt ((List.zipWith (fun a b => (a - b) ^ 2) x y).sum) := by
  rw [euclidean_real, squared_euclidean_spec]

theorem euclidean_symm (x y : List ℝ) : euclidean x y = euclidean y x := by
  rw [euclidean_real, euclidean_real, squared_euclidean_symm]

theorem euclidean_self (x : List ℝ) : euclidean x x = 0 := by
  rw [euclidean_real, squared_euclidean_self, Real.sqrt_zero]

/-- the argument of `np.sqrt` is a sum of squares, `≥ 0`. -/
theorem euclidean_defined (x y : List ℝ) : 0 ≤ squaredEuclidean x y := squaredEuclidean_nonneg x y

/-! ## manhattan -/

/-- `D(x,y) = Σ |xᵢ − yᵢ|` (the docstring). -/
theorem manhattan_spec (x y : List ℝ) :
    manhattan x y = (List.zipWith (fun a b => |a - b|) x y).sum := sumBy_real _ x y

theorem manhattan_symm (x y : List ℝ) : manhattan x y = manhattan y x :=
  sumBy_comm _ abs_sub_comm x y

theorem manhattan_self (x : List ℝ) : manhattan x x = 0 :=
  sumBy_self_zero _ (fun a => (congrArg abs (sub_self a)).trans abs_zero) x

/-! ## chebyshev -/

/-- `D(x,y) = maxᵢ |xᵢ − yᵢ|` (the docstring; `0` for dimension 0): the running maximum from `0.0`
is the greatest element of `{0} ∪ {|xᵢ − yᵢ|}`. -/
theorem chebyshev_spec (x y : List ℝ) :
    IsGreatest (insert 0 {v | v ∈ List.zipWith (fun a b => |a - b|) x y}) (chebyshev x y) :=
  chebyshev_real x y ▸ foldl_max_isGreatest _ 0

theorem chebyshev_symm (x y : List ℝ) : chebyshev x y = chebyshev y x := by
  rw [chebyshev_real, chebyshev_real, List.zipWith_comm_of_comm (fun a b => abs_sub_comm a b)]

theorem chebyshev_self (x : List ℝ) : chebyshev x x = 0 := by
  rw [chebyshev_real, List.zipWith_self]
  rcases (foldl_max_isGreatest (x.map fun a => |a - a|) 0).1 with h | h
  · exact h
  · obtain ⟨a, _, ha⟩ := List.mem_map.1 h
    rw [← ha, sub_self, abs_zero]

/-! ## minkowski -/

/-- `D(x,y) = (Σ |xᵢ − yᵢ|^p)^(1/p)` (the docstring), real powers. -/
theorem minkowski_spec (x y : List ℝ) (p : ℝ) :
    minkowski x y p = (List.zipWith (fun a b => |a - b| ^ p) x y).sum ^ (1 / p) :=
  minkowski_real x y p

theorem minkowski_symm (x y : List ℝ) (p : ℝ) : minkowski x y p = minkowski y x p :=
  minkowski_comm x y p

theorem minkowski_self (x : List ℝ) (p : ℝ) (hp : p ≠ 0) : minkowski x x p = 0 :=
  Metrics.minkowski_self x p hp

/-- with `p ≠ 0` (documented: `p ≥ 1`) the division `1.0 / p` is defined and both powers have a
non-negative base (no complex-valued `**`). -/
theorem minkowski_defined (x y : List ℝ) (p : ℝ) :
    (∀ v ∈ List.zipWith (fun a b => |a - b|) x y, 0 ≤ v) ∧
    0 ≤ (List.zipWith (fun a b => |a - b| ^ p) x y).sum := by
  constructor
  · rw [← List.map_uncurry_zip_eq_zipWith]
    exact List.forall_mem_map.2 fun _ _ => abs_nonneg _
  · exact sumBy_real _ x y ▸ sumBy_nonneg (fun a b => |a - b| ^ p) x y fun _ _ =>
      Real.rpow_nonneg (abs_nonneg _) _

/-! ## cosine -/

/-- `1 − ⟨x,y⟩ / (‖x‖‖y‖)` for non-zero vectors; `0` for two zero vectors, `1` for exactly one. -/
theorem cosine_spec (x y : List ℝ) :
    (normSq x ≠ 0 → normSq y ≠ 0 →
      cosine x y = 1 - dotProd x y / (Real.sqrt (normSq x) * Real.sqrt (normSq y))) ∧
    (normSq x = 0 → normSq y = 0 → cosine x y = 0) ∧
    (normSq x = 0 → normSq y ≠ 0 → cosine x y = 1) ∧
    (normSq x ≠ 0 → normSq y = 0 → cosine x y = 1) := by
  refine ⟨fun hx hy => ?_, fun hx hy => ?_, fun hx hy => ?_, fun hx hy => ?_⟩
  · rw [cosine_live hx hy, cosSim_eq]
  · rw [cosine_real, if_pos ⟨hx, hy⟩]
  · rw [cosine_real, if_neg (fun h => hy h.2), if_pos (Or.inl hx)]
  · rw [cosine_real, if_neg (fun h => hx h.1), if_pos (Or.inr hy)]

/-- for vectors of equal length the value lies in `[0, 2]` (Cauchy–Schwarz). -/
theorem cosine_range (x y : List ℝ) (hl : x.length = y.length) : 0 ≤ cosine x y ∧ cosine x y ≤ 2 := by
  by_cases h0 : normSq x = 0 ∧ normSq y = 0
  · rw [cosine_real, if_pos h0]
    exact ⟨le_rfl, zero_le_two⟩
  by_cases h1 : normSq x = 0 ∨ normSq y = 0
  · rw [cosine_real, if_neg h0, if_pos h1]
    exact ⟨zero_le_one, one_le_two⟩
  · have hx : normSq x ≠ 0 := fun h => h1 (Or.inl h)
    have hy : normSq y ≠ 0 := fun h => h1 (Or.inr h)
    have := abs_le.1 (abs_cosSim_le_one hl (normSq_pos_of_ne hx) (normSq_pos_of_ne hy))
    rw [cosine_live hx hy]
    exact one_sub_mem this.1 this.2

theorem cosine_symm (x y : List ℝ) : cosine x y = cosine y x := cosine_comm x y

/-- identical inputs give `0` — the zero vector through the first branch. -/
theorem cosine_self (x : List ℝ) : cosine x x = 0 := Metrics.cosine_self x

/-- in the branch that divides, `norm_x * norm_y > 0`: the square root is of a positive number and
the divisor is non-zero. -/
theorem cosine_defined (x y : List ℝ) (h : ¬ (normSq x = 0 ∨ normSq y = 0)) :
    0 < normSq x * normSq y ∧ Real.sqrt (normSq x * normSq y) ≠ 0 :=
  have hx := normSq_pos_of_ne fun h' => h (Or.inl h')
  have hy := normSq_pos_of_ne fun h' => h (Or.inr h')
  ⟨mul_pos hx hy, (sqrt_norms_pos hx hy).ne'⟩

/-! ## dot (unit-norm input) -/

/-- `1 − max(⟨x,y⟩, 0)`: `1 − ⟨x,y⟩` clamped at `1`. -/
theorem dot_spec (x y : List ℝ) : dot x y = 1 - max (dotProd x y) 0 := by
  rw [dot_real]
  split_ifs with h
  · rw [max_eq_right h, sub_zero]
  · rw [max_eq_left (not_le.1 h).le]

theorem dot_symm (x y : List ℝ) : dot x y = dot y x := by
  rw [dot_real, dot_real, dotProd_comm]

/-- identical *unit-norm* inputs give `0` (the library normalises the data for this metric). -/
theorem dot_self (x : List ℝ) (h : normSq x = 1) : dot x x = 0 := by
  rw [dot_real, dotProd_self, h, if_neg (by norm_num), sub_self]

/-! ## true_angular (similarity-like) -/

/-- On `⟨x,y⟩ > 0`, equal lengths: `1 − θ/π` with `θ = arccos(⟨x,y⟩/(‖x‖‖y‖))` — the clamp
`min(·, 1)` is inactive over `ℝ` (Cauchy–Schwarz).  The region `⟨x,y⟩ ≤ 0` is excluded: there the
kernel returns the sentinel `FLOAT32_MAX` (`true_angular_sentinel_region`), a recorded finding. -/
theorem true_angular_spec (x y : List ℝ) (hl : x.length = y.length) (h : 0 < dotProd x y) :
    trueAngular x y =
      1 - Real.arccos (dotProd x y / (Real.sqrt (normSq x) * Real.sqrt (normSq y))) / Real.pi := by
  rw [trueAngular_live h, min_eq_left (cosSim_le_one hl h), cosSim_eq]

/-- what the code does outside: two zero vectors `0`; otherwise (`⟨x,y⟩ ≤ 0`, which includes exactly
one zero vector) `FLOAT32_MAX`. -/
theorem true_angular_sentinel_region (x y : List ℝ) :
    (normSq x = 0 ∧ normSq y = 0 → trueAngular x y = 0) ∧
    (¬ (normSq x = 0 ∧ normSq y = 0) → dotProd x y ≤ 0 → trueAngular x y = (f32maxNat : ℝ)) :=
  ⟨fun h0 => by rw [trueAngular_real, if_pos h0], fun h0 h => trueAngular_saturated (not_lt.2 h) h0⟩

theorem true_angular_symm (x y : List ℝ) : trueAngular x y = trueAngular y x := by
  rw [trueAngular_real, trueAngular_real, dotProd_comm x y, mul_comm (normSq x)]
  exact if_congr and_comm rfl (if_congr or_comm rfl rfl)

/-- identical non-zero inputs give the closest value `1`; the zero vector gives `0`. -/
theorem true_angular_self (x : List ℝ) :
    (normSq x ≠ 0 → trueAngular x x = 1) ∧ (normSq x = 0 → trueAngular x x = 0) := by
  refine ⟨fun hx => ?_, fun hx => by rw [trueAngular_real, if_pos ⟨hx, hx⟩]⟩
  have hd : 0 < dotProd x x := dotProd_self x ▸ normSq_pos_of_ne hx
  rw [trueAngular_live hd, cosSim_self hx, min_self, Real.arccos_one, zero_div, sub_zero]

/-- in the last branch the argument of `arccos` is in `[-1, 1]` whatever the quotient is
(`min(·, 1)` from above, `⟨x,y⟩ > 0` from below), the square root is of a positive number and the
two divisors (`√…`, `π`) are non-zero. -/
theorem true_angular_defined (x y : List ℝ) (h : 0 < dotProd x y) :
    0 < normSq x * normSq y ∧ Real.sqrt (normSq x * normSq y) ≠ 0 ∧ Real.pi ≠ 0 ∧
    -1 ≤ min (cosSim x y) 1 ∧ min (cosSim x y) 1 ≤ 1 :=
  have hx := normSq_pos_left h
  have hy := normSq_pos_right h
  ⟨mul_pos hx hy, (sqrt_norms_pos hx hy).ne', Real.pi_ne_zero,
    le_min (neg_one_lt_zero.le.trans (cosSim_pos h).le) (neg_one_lt_zero.le.trans zero_le_one),
    min_le_right _ _⟩

/-! ## correlation -/

/-- `correlation x y` is `cosine` of the centred vectors (both means taken over `x.shape[0]`
coordinates): in particular `0` when both are constant and `1` when exactly one is (the branch
`dot_product == 0` covers it, because a constant vector centres to zero). -/
theorem correlation_spec (x y : List ℝ) :
    correlation x y =
      cosine (x.map (fun v => v - l1 x / (x.length : ℝ))) (y.map (fun v => v - l1 y / (x.length : ℝ))) :=
  correlation_eq_cosine x y

theorem correlation_symm (x y : List ℝ) (hl : x.length = y.length) :
    correlation x y = correlation y x := correlation_comm x y hl

theorem correlation_self (x : List ℝ) : correlation x x = 0 := Metrics.correlation_self x

/-- the branch that divides is reached only with `dot_product ≠ 0`, and then both centred norms are
positive: the guard `dot_product == 0.0` dominates the division (exact arithmetic). -/
theorem correlation_defined (x y : List ℝ) (mx my : ℝ)
    (h : sumBy (fun a b => (a - mx) * (b - my)) x y ≠ 0) :
    0 < sum1 (fun v => (v - mx) * (v - mx)) x * sum1 (fun v => (v - my) * (v - my)) y := by
  rw [centred_normSq, centred_normSq]
  rw [centred_dotProd] at h
  exact mul_pos (normSq_pos_of_ne fun h0 => h (dotProd_eq_zero_of_normSq_left h0))
    (normSq_pos_of_ne fun h0 => h (dotProd_eq_zero_of_normSq_right h0))

/-! ## hellinger (non-negative vectors) -/

/-- `√(1 − Σ√(xᵢyᵢ)/√(Σx Σy))` for non-negative vectors of equal length with positive masses — the
clamp `max(·, 0)` is inactive over `ℝ` (Cauchy–Schwarz); `0` for two zero-mass vectors, `1` for
exactly one. -/
theorem hellinger_spec (x y : List ℝ) (hl : x.length = y.length)
    (hx : ∀ a ∈ x, 0 ≤ a) (hy : ∀ a ∈ y, 0 ≤ a) :
    (l1 x ≠ 0 → l1 y ≠ 0 →
      hellinger x y = Real.sqrt (1 - hellingerSum x y / Real.sqrt (l1 x * l1 y))) ∧
    (l1 x = 0 → l1 y = 0 → hellinger x y = 0) ∧
    (l1 x = 0 → l1 y ≠ 0 → hellinger x y = 1) ∧
    (l1 x ≠ 0 → l1 y = 0 → hellinger x y = 1) := by
  refine ⟨fun h1 h2 => ?_, fun h1 h2 => ?_, fun h1 h2 => ?_, fun h1 h2 => ?_⟩
  · rw [hellinger_live h1 h2, max_eq_left (sub_nonneg.2
      (hellSim_le_one hl hx hy (l1_pos_of_ne hx h1) (l1_pos_of_ne hy h2)))]
    rfl
  · rw [hellinger_real, if_pos ⟨h1, h2⟩]
  · rw [hellinger_real, if_neg (fun h => h2 h.2), if_pos (Or.inl h1)]
  · rw [hellinger_real, if_neg (fun h => h1 h.1), if_pos (Or.inr h2)]

theorem hellinger_symm (x y : List ℝ) : hellinger x y = hellinger y x := by
  rw [hellinger_real, hellinger_real, hellingerSum_comm x y, mul_comm (l1 x)]
  exact if_congr and_comm rfl (if_congr or_comm rfl rfl)

theorem hellinger_self (x : List ℝ) (hx : ∀ a ∈ x, 0 ≤ a) : hellinger x x = 0 := by
  by_cases h : l1 x = 0
  · rw [hellinger_real, if_pos ⟨h, h⟩]
  · rw [hellinger_live h h, hellSim, hellingerSum_self hx, Real.sqrt_mul_self (l1_nonneg hx), div_self h,
      sub_self, max_self, Real.sqrt_zero]

/-- **the clamp**: whatever value `q` the quotient `result / √(l1_norm_x·l1_norm_y)` takes (over `ℝ`
it is `≤ 1`; in float32 it can round above `1`, which made the unclamped kernel return NaN for
identical inputs), the argument of the outer `np.sqrt` is `≥ 0`; and for `q ≥ 1` the result is `0`. -/
theorem hellinger_clamp_defined (q : ℝ) :
    0 ≤ max (1 - q) 0 ∧ (1 ≤ q → Real.sqrt (max (1 - q) 0) = 0) :=
  ⟨le_max_right _ _, fun h => by rw [max_eq_right (sub_nonpos.2 h), Real.sqrt_zero]⟩

/-- on non-negative vectors every inner `np.sqrt(x[i]*y[i])` has a non-negative argument, and in the
branch that divides `l1_norm_x * l1_norm_y > 0`. -/
theorem hellinger_defined (x y : List ℝ) (hx : ∀ a ∈ x, 0 ≤ a) (hy : ∀ a ∈ y, 0 ≤ a) :
    (∀ p ∈ x.zip y, 0 ≤ p.1 * p.2) ∧
    (¬ (l1 x = 0 ∨ l1 y = 0) → 0 < l1 x * l1 y ∧ Real.sqrt (l1 x * l1 y) ≠ 0) := by
  refine ⟨fun p hp => mul_nonneg (hx _ (List.of_mem_zip hp).1) (hy _ (List.of_mem_zip hp).2),
    fun h => ?_⟩
  have hp := mul_pos (l1_pos_of_ne hx fun h' => h (Or.inl h')) (l1_pos_of_ne hy fun h' => h (Or.inr h'))
  exact ⟨hp, (Real.sqrt_pos.2 hp).ne'⟩

/-! ## canberra, bray_curtis -/

/-- `Σ |xᵢ − yᵢ| / (|xᵢ| + |yᵢ|)`, a `0/0` term counting `0` (the kernel's guard). -/
theorem canberra_spec (x y : List ℝ) : canberra x y =
    (List.zipWith (fun a b => if 0 < |a| + |b| then |a - b| / (|a| + |b|) else 0) x y).sum :=
  (canberra_eq_sumBy x y).trans (sumBy_real _ x y)

theorem canberra_symm (x y : List ℝ) : canberra x y = canberra y x := by
  rw [canberra_eq_sumBy, canberra_eq_sumBy]
  exact sumBy_comm _ (fun a b => by rw [add_comm |a|, abs_sub_comm]) x y

theorem canberra_self (x : List ℝ) : canberra x x = 0 := by
  rw [canberra_eq_sumBy]
  exact sumBy_self_zero _ (fun a => by rw [sub_self, abs_zero, zero_div, ite_self]) x

/-- `Σ|xᵢ − yᵢ| / Σ|xᵢ + yᵢ|`, `0` when the denominator is `0` (the kernel's guard; scipy: nan). -/
theorem bray_curtis_spec (x y : List ℝ) : brayCurtis x y =
    if 0 < (List.zipWith (fun a b => |a + b|) x y).sum
    then (List.zipWith (fun a b => |a - b|) x y).sum / (List.zipWith (fun a b => |a + b|) x y).sum
    else 0 := by
  rw [brayCurtis_real, sumBy_real, sumBy_real]

theorem bray_curtis_symm (x y : List ℝ) : brayCurtis x y = brayCurtis y x := by
  rw [brayCurtis_real, brayCurtis_real,
    sumBy_comm (fun a b => |a + b|) (fun a b => by rw [add_comm]) x y,
    sumBy_comm (fun a b => |a - b|) (fun a b => abs_sub_comm a b) x y]

theorem bray_curtis_self (x : List ℝ) : brayCurtis x x = 0 := by
  rw [brayCurtis_real,
    sumBy_self_zero (fun a b => |a - b|) (fun a => (congrArg abs (sub_self a)).trans abs_zero),
    zero_div, ite_self]

/-- both kernels divide only under their guard `denominator > 0` (`canberra`: per coordinate, see
`canberra_spec`; `bray_curtis`: once): the divisor is non-zero whenever a division happens. -/
theorem ratio_kernels_defined (d : ℝ) (h : 0 < d) : d ≠ 0 := h.ne'

/-! ## hamming and the binary family, over the counts (every dimension) -/

/-- `hamming`: the fraction of coordinates with `x[i] != y[i]`; in `[0,1]` for `dim > 0`, which is
also what makes the division defined. -/
theorem hamming_spec (x y : List ℝ) (hl : x.length = y.length) (hn : 0 < x.length) :
    hamming x y = (numDiffer x y : ℝ) / (x.length : ℝ) ∧ (x.length : ℝ) ≠ 0 ∧
    0 ≤ hamming x y ∧ hamming x y ≤ 1 :=
  have hn' : (0 : ℝ) < x.length := Nat.cast_pos.2 hn
  ⟨rfl, hn'.ne', div_mem_unit (Nat.cast_nonneg _) (Nat.cast_le.2 (countP_zip_le _ x y)) hn'⟩

theorem hamming_symm (x y : List ℝ) (hl : x.length = y.length) : hamming x y = hamming y x := by
  unfold hamming; rw [numDiffer_comm x y, hl]

theorem hamming_self (x : List ℝ) : hamming x x = 0 := by
  rw [hamming, numDiffer_self]
  exact (congrArg (· / _) Nat.cast_zero).trans (zero_div _)

/-- the counts are symmetric and, on identical inputs, `|x∧x| = |x∨x|`, `|x△x| = 0`; always
`|x∧y| ≤ |x∨y| = |x∧y| + |x△y|`. -/
theorem counts_symm_self (x y : List ℝ) :
    numNonZero y x = numNonZero x y ∧ numTrueTrue y x = numTrueTrue x y ∧
    numNotEqual y x = numNotEqual x y ∧
    numTrueTrue x x = numNonZero x x ∧ numNotEqual x x = 0 ∧
    numTrueTrue x y ≤ numNonZero x y ∧ numNonZero x y = numTrueTrue x y + numNotEqual x y :=
  ⟨numNonZero_comm y x, numTrueTrue_comm y x, numNotEqual_comm y x, numTrueTrue_self_eq_numNonZero x,
   numNotEqual_self x, numTrueTrue_le_numNonZero x y, numNonZero_eq x y⟩

/-- `jaccard` over the counts `n = |x∨y|`, `e = |x∧y| ≤ n`: `1 − e/n` (in `[0,1]`) for a non-empty
union — the guard is exactly what the division needs —, `0` for two empty supports, `0` when
`e = n` (identical supports). -/
theorem jaccard_counts (n e : ℕ) (hen : e ≤ n) :
    (0 < n → jaccardOfCounts (n : ℝ) (e : ℝ) = 1 - (e : ℝ) / n ∧ (n : ℝ) ≠ 0 ∧
      0 ≤ jaccardOfCounts (n : ℝ) (e : ℝ) ∧ jaccardOfCounts (n : ℝ) (e : ℝ) ≤ 1) ∧
    jaccardOfCounts (0 : ℝ) (0 : ℝ) = 0 ∧ jaccardOfCounts (n : ℝ) (n : ℝ) = 0 := by
  refine ⟨fun hn => ?_, by rw [jaccardOfCounts_real, if_pos rfl],
    by rw [jaccardOfCounts_real, sub_self, zero_div, ite_self]⟩
  have hn' : (0 : ℝ) < n := Nat.cast_pos.2 hn
  obtain ⟨h0, h1⟩ := div_mem_unit (Nat.cast_nonneg e) (Nat.cast_le.2 hen) hn'
  rw [jaccardOfCounts_live hn'.ne']
  exact ⟨rfl, hn'.ne', sub_nonneg.2 h1, sub_le_self 1 h0⟩

theorem jaccard_symm (x y : List ℝ) : jaccard x y = jaccard y x := by
  unfold jaccard; rw [numNonZero_comm x y, numTrueTrue_comm x y]

theorem jaccard_self (x : List ℝ) : jaccard x x = 0 := by
  unfold jaccard; rw [numTrueTrue_self_eq_numNonZero]; exact (jaccard_counts _ _ le_rfl).2.2

/-- `dice` over the counts `t = |x∧y|`, `d = |x△y|`: `d / (2t + d)` with a positive divisor when
`d > 0` (in `[0,1]`), `0` when `d = 0` (the guard). -/
theorem dice_counts (t d : ℕ) :
    (0 < d → diceOfCounts (t : ℝ) (d : ℝ) = (d : ℝ) / (2 * t + d) ∧ (0 : ℝ) < 2 * t + d ∧
      0 ≤ diceOfCounts (t : ℝ) (d : ℝ) ∧ diceOfCounts (t : ℝ) (d : ℝ) ≤ 1) ∧
    diceOfCounts (t : ℝ) (0 : ℝ) = 0 := by
  refine ⟨fun hd => ?_, by rw [diceOfCounts_real, if_pos rfl]⟩
  have hd' : (0 : ℝ) < d := Nat.cast_pos.2 hd
  have ht : (0 : ℝ) ≤ 2 * t := mul_nonneg zero_le_two t.cast_nonneg
  have hden : (0 : ℝ) < 2 * t + d := add_pos_of_nonneg_of_pos ht hd'
  rw [diceOfCounts_real, if_neg hd'.ne']
  exact ⟨rfl, hden, div_mem_unit hd'.le (le_add_of_nonneg_left ht) hden⟩

theorem dice_symm (x y : List ℝ) : dice x y = dice y x := by
  unfold dice; rw [numTrueTrue_comm x y, numNotEqual_comm x y]

theorem dice_self (x : List ℝ) : dice x x = 0 := by
  rw [dice, numNotEqual_self, diceOfCounts_real]
  exact if_pos Nat.cast_zero

/-- `matching`: the fraction of coordinates whose non-zero-ness differs; in `[0,1]` for `dim > 0`. -/
theorem matching_spec (x y : List ℝ) (hl : x.length = y.length) (hn : 0 < x.length) :
    matching x y = (numNotEqual x y : ℝ) / (x.length : ℝ) ∧ (x.length : ℝ) ≠ 0 ∧
    0 ≤ matching x y ∧ matching x y ≤ 1 :=
  have hn' : (0 : ℝ) < x.length := Nat.cast_pos.2 hn
  ⟨rfl, hn'.ne', div_mem_unit (Nat.cast_nonneg _) (Nat.cast_le.2 (countP_zip_le _ x y)) hn'⟩

theorem matching_symm (x y : List ℝ) (hl : x.length = y.length) : matching x y = matching y x := by
  unfold matching; rw [numNotEqual_comm x y, hl]

theorem matching_self (x : List ℝ) : matching x x = 0 := by
  rw [matching, numNotEqual_self]
  exact (congrArg (· / _) Nat.cast_zero).trans (zero_div _)

/-! ## the remaining binary kernels, over the counts

`t = |x∧y|`, `d = |x△y|`, `n = dim`. -/

/-- `rogers_tanimoto` (and `sokal_michener`, the same body): `2d/(n + d)`, divisor positive for
`n > 0`, value in `[0,1]` as `d ≤ n`, `0` for `d = 0`. -/
theorem rogers_tanimoto_counts (d n : ℕ) (hn : 0 < n) (hd : d ≤ n) :
    rogersTanimotoOfCounts (d : ℝ) (n : ℝ) = 2 * d / (n + d) ∧ (0 : ℝ) < n + d ∧
    0 ≤ rogersTanimotoOfCounts (d : ℝ) (n : ℝ) ∧ rogersTanimotoOfCounts (d : ℝ) (n : ℝ) ≤ 1 ∧
    rogersTanimotoOfCounts (0 : ℝ) (n : ℝ) = 0 := by
  have hd' : (d : ℝ) ≤ n := Nat.cast_le.2 hd
  have hden : (0 : ℝ) < n + d := add_pos_of_pos_of_nonneg (Nat.cast_pos.2 hn) d.cast_nonneg
  obtain ⟨h0, h1⟩ := div_mem_unit (mul_nonneg zero_le_two d.cast_nonneg)
    ((two_mul (d : ℝ)).trans_le ((add_le_add_iff_right _).2 hd')) hden
  rw [rogersTanimotoOfCounts_real, rogersTanimotoOfCounts_real]
  exact ⟨rfl, hden, h0, h1, by rw [mul_zero, zero_div]⟩

theorem rogers_tanimoto_symm_self (x y : List ℝ) (hl : x.length = y.length) :
    rogersTanimoto x y = rogersTanimoto y x ∧ (0 < x.length → rogersTanimoto x x = 0) := by
  refine ⟨by unfold rogersTanimoto; rw [numNotEqual_comm x y, hl], fun _ => ?_⟩
  rw [rogersTanimoto, numNotEqual_self, rogersTanimotoOfCounts_real, ofNat_real, Nat.cast_zero,
    mul_zero, zero_div]

/-- `sokal_sneath`: `d/(t/2 + d)` with a positive divisor for `d > 0` (in `[0,1]`), `0` for `d = 0`. -/
theorem sokal_sneath_counts (t d : ℕ) :
    (0 < d → sokalSneathOfCounts (t : ℝ) (d : ℝ) = d / (1 / 2 * t + d) ∧ (0 : ℝ) < 1 / 2 * t + d ∧
      0 ≤ sokalSneathOfCounts (t : ℝ) (d : ℝ) ∧ sokalSneathOfCounts (t : ℝ) (d : ℝ) ≤ 1) ∧
    sokalSneathOfCounts (t : ℝ) (0 : ℝ) = 0 := by
  refine ⟨fun hd => ?_, by rw [sokalSneathOfCounts_real, if_pos rfl]⟩
  have hd' : (0 : ℝ) < d := Nat.cast_pos.2 hd
  have ht : (0 : ℝ) ≤ 1 / 2 * t := mul_nonneg one_half_pos.le t.cast_nonneg
  have hden : (0 : ℝ) < 1 / 2 * t + d := add_pos_of_nonneg_of_pos ht hd'
  rw [sokalSneathOfCounts_real, if_neg hd'.ne']
  exact ⟨rfl, hden, div_mem_unit hd'.le (le_add_of_nonneg_left ht) hden⟩

theorem sokal_sneath_symm_self (x y : List ℝ) :
    sokalSneath x y = sokalSneath y x ∧ sokalSneath x x = 0 := by
  refine ⟨by unfold sokalSneath; rw [numTrueTrue_comm x y, numNotEqual_comm x y], ?_⟩
  rw [sokalSneath, numNotEqual_self, sokalSneathOfCounts_real]
  exact if_pos Nat.cast_zero

/-- `kulsinski`: `(d − t + n)/(d + n)` with a positive divisor for `d > 0`; in `[0,1]` because
`t ≤ n`; `0` for `d = 0` (identical supports — the code's convention, N6). -/
theorem kulsinski_counts (t d n : ℕ) (ht : t ≤ n) :
    (0 < d → kulsinskiOfCounts (t : ℝ) (d : ℝ) (n : ℝ) = (d - t + n) / (d + n) ∧ (0 : ℝ) < d + n ∧
      0 ≤ kulsinskiOfCounts (t : ℝ) (d : ℝ) (n : ℝ) ∧ kulsinskiOfCounts (t : ℝ) (d : ℝ) (n : ℝ) ≤ 1) ∧
    kulsinskiOfCounts (t : ℝ) (0 : ℝ) (n : ℝ) = 0 := by
  refine ⟨fun hd => ?_, by rw [kulsinskiOfCounts_real, if_pos rfl]⟩
  have hd' : (0 : ℝ) < d := Nat.cast_pos.2 hd
  have ht' : (t : ℝ) ≤ n := Nat.cast_le.2 ht
  have hden : (0 : ℝ) < d + n := add_pos_of_pos_of_nonneg hd' n.cast_nonneg
  rw [kulsinskiOfCounts_real, if_neg hd'.ne']
  refine ⟨rfl, hden, div_mem_unit ?_ ((add_le_add_iff_right _).2 (sub_le_self _ t.cast_nonneg)) hden⟩
  rw [sub_add_eq_add_sub, sub_nonneg]
  exact le_add_of_nonneg_of_le hd'.le ht'

theorem kulsinski_symm_self (x y : List ℝ) (hl : x.length = y.length) :
    kulsinski x y = kulsinski y x ∧ kulsinski x x = 0 := by
  refine ⟨by unfold kulsinski; rw [numTrueTrue_comm x y, numNotEqual_comm x y, hl], ?_⟩
  rw [kulsinski, numNotEqual_self, kulsinskiOfCounts_real]
  exact if_pos Nat.cast_zero

/-- `russellrao`: `(n − t)/n` for `n > 0` (in `[0,1]` as `t ≤ n`), except `0` when both supports
equal the intersection (identical supports — the code's convention, N6). -/
theorem russellrao_counts (t a b n : ℕ) (hn : 0 < n) (ht : t ≤ n) :
    (¬ (t = a ∧ t = b) → russellraoOfCounts (t : ℝ) (a : ℝ) (b : ℝ) (n : ℝ) = (n - t) / n ∧
      (n : ℝ) ≠ 0 ∧ 0 ≤ russellraoOfCounts (t : ℝ) (a : ℝ) (b : ℝ) (n : ℝ) ∧
      russellraoOfCounts (t : ℝ) (a : ℝ) (b : ℝ) (n : ℝ) ≤ 1) ∧
    russellraoOfCounts (t : ℝ) (t : ℝ) (t : ℝ) (n : ℝ) = 0 ∧
    russellraoOfCounts (t : ℝ) (a : ℝ) (b : ℝ) (n : ℝ) = russellraoOfCounts (t : ℝ) (b : ℝ) (a : ℝ) (n : ℝ) := by
  have hn' : (0 : ℝ) < n := Nat.cast_pos.2 hn
  refine ⟨fun h => ?_, by rw [russellraoOfCounts_real, if_pos ⟨rfl, rfl⟩], ?_⟩
  · rw [russellraoOfCounts_real,
      if_neg fun hh => h ⟨Nat.cast_injective hh.1, Nat.cast_injective hh.2⟩]
    exact ⟨rfl, hn'.ne',
      div_mem_unit (sub_nonneg.2 (Nat.cast_le.2 ht)) (sub_le_self _ t.cast_nonneg) hn'⟩
  · rw [russellraoOfCounts_real, russellraoOfCounts_real]
    exact if_congr and_comm rfl rfl

theorem russellrao_symm_self (x y : List ℝ) (hl : x.length = y.length) :
    russellrao x y = russellrao y x ∧ russellrao x x = 0 := by
  constructor
  · unfold russellrao
    rw [numTrueTrue_comm x y, hl, russellraoOfCounts_real, russellraoOfCounts_real]
    exact if_congr and_comm rfl rfl
  · unfold russellrao
    rw [numTrueTrue_self_eq_countP, russellraoOfCounts_real, if_pos ⟨rfl, rfl⟩]

/-- `yule`: `2·tf·ft/(tt·ff + tf·ft)` with a positive divisor whenever the guard passes
(`tf > 0`, `ft > 0`, `ff = n − tt − tf − ft ≥ 0`); `0` when `tf = 0` or `ft = 0`; symmetric in
`(tf, ft)`. -/
theorem yule_counts (tt tf ft n : ℕ) (hp : tt + tf + ft ≤ n) :
    (0 < tf → 0 < ft →
      yuleOfCounts (tt : ℝ) (tf : ℝ) (ft : ℝ) (n : ℝ) =
        2 * tf * ft / (tt * ((n : ℝ) - tt - tf - ft) + tf * ft) ∧
      (0 : ℝ) < tt * ((n : ℝ) - tt - tf - ft) + tf * ft ∧
      0 ≤ yuleOfCounts (tt : ℝ) (tf : ℝ) (ft : ℝ) (n : ℝ)) ∧
    yuleOfCounts (tt : ℝ) (0 : ℝ) (ft : ℝ) (n : ℝ) = 0 ∧
    yuleOfCounts (tt : ℝ) (tf : ℝ) (0 : ℝ) (n : ℝ) = 0 ∧
    yuleOfCounts (tt : ℝ) (tf : ℝ) (ft : ℝ) (n : ℝ) = yuleOfCounts (tt : ℝ) (ft : ℝ) (tf : ℝ) (n : ℝ) := by
  refine ⟨fun h1 h2 => ?_, by rw [yuleOfCounts_real, if_pos (Or.inl rfl)],
    by rw [yuleOfCounts_real, if_pos (Or.inr rfl)], ?_⟩
  · have h1' : (0 : ℝ) < tf := Nat.cast_pos.2 h1
    have h2' : (0 : ℝ) < ft := Nat.cast_pos.2 h2
    have hff : (0 : ℝ) ≤ (n : ℝ) - tt - tf - ft := by
      rw [sub_sub, sub_sub, sub_nonneg, ← add_assoc, ← Nat.cast_add, ← Nat.cast_add]
      exact Nat.cast_le.2 hp
    have hden : (0 : ℝ) < tt * ((n : ℝ) - tt - tf - ft) + tf * ft :=
      add_pos_of_nonneg_of_pos (mul_nonneg tt.cast_nonneg hff) (mul_pos h1' h2')
    rw [yuleOfCounts_real, if_neg (not_or.2 ⟨h1'.ne', h2'.ne'⟩)]
    exact ⟨rfl, hden, div_nonneg (mul_nonneg (mul_nonneg zero_le_two h1'.le) h2'.le) hden.le⟩
  · rw [yuleOfCounts_real, yuleOfCounts_real, mul_right_comm, mul_comm (tf : ℝ),
      sub_right_comm _ (tf : ℝ)]
    exact if_congr or_comm rfl rfl

theorem yule_symm_self (x y : List ℝ) (hl : x.length = y.length) :
    yule x y = yule y x ∧ yule x x = 0 := by
  constructor
  · unfold yule
    rw [numTrueTrue_comm y x, numTrueFalse_swap y x, ← numTrueFalse_swap x y, ← hl]
    exact (yule_counts _ _ _ _ (counts_le_length x y)).2.2.2
  · unfold yule
    rw [numTrueFalse_self, yuleOfCounts_real]
    exact if_pos (Or.inl Nat.cast_zero)

/-! ## the translated kernels (`Gen/MetricKernels.lean`) refine the model

`GenMetric.<kernel> fuel x y …` is the syntax-directed translation of the source text of
`pynndescent/distances.py` (`harness/translate_metrics.py`, re-run by `check` before every build),
over the SAME generic carrier `[Arith α]` as the model: `Option` monad, `none` = out-of-bounds
load or fuel exhausted.  Each theorem: for all `x y` with `x.size = y.size` and fuel
`≥ x.size + 1` the translated kernel is `some` of the model's value on `x.toList`, `y.toList` —
so every `…_spec / _symm / _self / _defined` theorem of this file (and of `Props/C07b.lean`,
`Props/C09.lean`) is a theorem about what `distances.py` says now.  No arithmetic law is used,
except by the counting kernels (`CountLaws`: `ofNat 0 = 0`, `ofNat (n+1) = ofNat n + 1`,
`a + 0 = a` — the code adds `1.0` / `0.0` to a float where the model counts in `ℕ`).
Each proof: what the loop hands on from cursor `0` (`zip_loop` of `Proofs/GenMetrics.lean`, or a
loop lemma there), then what follows the loop against the model by `rfl`.  NOT translated: rankdata / spearmanr,
jensen_shannon_divergence, symmetric_kl_divergence, wasserstein_1d, kantorovich, sinkhorn,
circular_kantorovich, bit_hamming, bit_jaccard (array temporaries / whole-array numpy operations:
outside the translator's subset; tied by sampled comparison only). -/
section KernelTie
open Pynn.GenMetricProofs

/-- `distances.euclidean`: the translated source text = the model `Metrics.euclidean`, memory safe -/
theorem kernel_euclidean_refines {α : Type} [Arith α] (x y : Array α) (h : x.size = y.size) (fuel : Nat)
    (hf : x.size + 1 ≤ fuel) :
    GenMetric.euclidean fuel x y = some (Metrics.euclidean x.toList y.toList) :=
  euclidean_refines x y h fuel hf

/-- `distances.squared_euclidean`: the translated source text = the model `Metrics.squaredEuclidean`, memory safe -/
theorem kernel_squared_euclidean_refines {α : Type} [Arith α] (x y : Array α) (h : x.size = y.size) (fuel : Nat)
    (hf : x.size + 1 ≤ fuel) :
    GenMetric.squared_euclidean fuel x y = some (Metrics.squaredEuclidean x.toList y.toList) :=
  squared_euclidean_refines x y h fuel hf

/-- `distances.manhattan`: the translated source text = the model `Metrics.manhattan`, memory safe -/
theorem kernel_manhattan_refines {α : Type} [Arith α] (x y : Array α) (h : x.size = y.size) (fuel : Nat)
    (hf : x.size + 1 ≤ fuel) :
    GenMetric.manhattan fuel x y = some (Metrics.manhattan x.toList y.toList) :=
  manhattan_refines x y h fuel hf

/-- `distances.chebyshev`: the translated source text = the model `Metrics.chebyshev`, memory safe -/
theorem kernel_chebyshev_refines {α : Type} [Arith α] (x y : Array α) (h : x.size = y.size) (fuel : Nat)
    (hf : x.size + 1 ≤ fuel) :
    GenMetric.chebyshev fuel x y = some (Metrics.chebyshev x.toList y.toList) :=
  chebyshev_refines x y h fuel hf

/-- `distances.cosine`: the translated source text = the model `Metrics.cosine`, memory safe -/
theorem kernel_cosine_refines {α : Type} [Arith α] (x y : Array α) (h : x.size = y.size) (fuel : Nat)
    (hf : x.size + 1 ≤ fuel) :
    GenMetric.cosine fuel x y = some (Metrics.cosine x.toList y.toList) :=
  cosine_refines x y h fuel hf

/-- `distances.alternative_cosine`: the translated source text = the model `Metrics.alternativeCosine`, memory safe -/
theorem kernel_alternative_cosine_refines {α : Type} [Arith α] (x y : Array α) (h : x.size = y.size) (fuel : Nat)
    (hf : x.size + 1 ≤ fuel) :
    GenMetric.alternative_cosine fuel x y = some (Metrics.alternativeCosine x.toList y.toList) :=
  alternative_cosine_refines x y h fuel hf

/-- `distances.dot`: the translated source text = the model `Metrics.dot`, memory safe -/
theorem kernel_dot_refines {α : Type} [Arith α] (x y : Array α) (h : x.size = y.size) (fuel : Nat)
    (hf : x.size + 1 ≤ fuel) :
    GenMetric.dot fuel x y = some (Metrics.dot x.toList y.toList) := by
  simp only [GenMetric.dot, dot_loop x y h fuel hf, Option.bind_eq_bind, Option.bind_some,
    Option.pure_def, ite_some]
  rfl

/-- `distances.alternative_dot`: the translated source text = the model `Metrics.alternativeDot`, memory safe -/
theorem kernel_alternative_dot_refines {α : Type} [Arith α] (x y : Array α) (h : x.size = y.size) (fuel : Nat)
    (hf : x.size + 1 ≤ fuel) :
    GenMetric.alternative_dot fuel x y = some (Metrics.alternativeDot x.toList y.toList) := by
  simp only [GenMetric.alternative_dot, alternative_dot_loop_eq, dot_loop x y h fuel hf,
    Option.bind_eq_bind, Option.bind_some, Option.pure_def, ite_some]
  rfl

/-- `distances.true_angular`: the translated source text = the model `Metrics.trueAngular`, memory safe -/
theorem kernel_true_angular_refines {α : Type} [Arith α] (x y : Array α) (h : x.size = y.size) (fuel : Nat)
    (hf : x.size + 1 ≤ fuel) :
    GenMetric.true_angular fuel x y = some (Metrics.trueAngular x.toList y.toList) := by
  simp only [GenMetric.true_angular, true_angular_loop_eq, cosine_loop x y h fuel hf,
    Option.bind_eq_bind, Option.bind_some, Option.pure_def, ite_some]
  rfl

/-- `distances.correlation`: the translated source text = the model `Metrics.correlation`, memory safe -/
theorem kernel_correlation_refines {α : Type} [Arith α] (x y : Array α) (h : x.size = y.size) (fuel : Nat)
    (hf : x.size + 1 ≤ fuel) :
    GenMetric.correlation fuel x y = some (Metrics.correlation x.toList y.toList) := by
  simp only [GenMetric.correlation, correlation_loop0 x y h fuel hf,
    correlation_loop1 x y _ _ h fuel hf, Option.bind_eq_bind, Option.bind_some, Option.pure_def,
    ite_some]
  rfl

/-- `distances.canberra`: the translated source text = the model `Metrics.canberra`, memory safe -/
theorem kernel_canberra_refines {α : Type} [Arith α] (x y : Array α) (h : x.size = y.size) (fuel : Nat)
    (hf : x.size + 1 ≤ fuel) :
    GenMetric.canberra fuel x y = some (Metrics.canberra x.toList y.toList) := by
  simp only [GenMetric.canberra, canberra_loop x y h fuel hf, Option.bind_eq_bind, Option.bind_some,
    Option.pure_def]

/-- `distances.bray_curtis`: the translated source text = the model `Metrics.brayCurtis`, memory safe -/
theorem kernel_bray_curtis_refines {α : Type} [Arith α] (x y : Array α) (h : x.size = y.size) (fuel : Nat)
    (hf : x.size + 1 ≤ fuel) :
    GenMetric.bray_curtis fuel x y = some (Metrics.brayCurtis x.toList y.toList) := by
  simp only [GenMetric.bray_curtis, bray_curtis_loop x y h fuel hf, Option.bind_eq_bind,
    Option.bind_some, Option.pure_def, ite_some]
  rfl

/-- `distances.hellinger`: the translated source text = the model `Metrics.hellinger`, memory safe -/
theorem kernel_hellinger_refines {α : Type} [Arith α] (x y : Array α) (h : x.size = y.size) (fuel : Nat)
    (hf : x.size + 1 ≤ fuel) :
    GenMetric.hellinger fuel x y = some (Metrics.hellinger x.toList y.toList) := by
  simp only [GenMetric.hellinger, hellinger_loop x y h fuel hf, Option.bind_eq_bind,
    Option.bind_some, Option.pure_def, ite_some]
  rfl

/-- `distances.alternative_hellinger`: the translated source text = the model `Metrics.alternativeHellinger`, memory safe -/
theorem kernel_alternative_hellinger_refines {α : Type} [Arith α] (x y : Array α) (h : x.size = y.size) (fuel : Nat)
    (hf : x.size + 1 ≤ fuel) :
    GenMetric.alternative_hellinger fuel x y = some (Metrics.alternativeHellinger x.toList y.toList) := by
  simp only [GenMetric.alternative_hellinger, alternative_hellinger_loop_eq,
    hellinger_loop x y h fuel hf, Option.bind_eq_bind, Option.bind_some, Option.pure_def, ite_some]
  rfl

/-- `distances.hamming`: the translated source text (a float accumulator incremented by `1.0` where
`x[i] != y[i]`) = the model `Metrics.hamming` (counts in `ℕ`, converted by `ofNat`) on every carrier with `CountLaws` -/
theorem kernel_hamming_refines {α : Type} [Arith α] (hc : CountLaws α) (x y : Array α)
    (h : x.size = y.size) (fuel : Nat) (hf : x.size + 1 ≤ fuel) :
    GenMetric.hamming fuel x y = some (Metrics.hamming x.toList y.toList) := by
  simp only [GenMetric.hamming, hamming_loop hc x y h fuel hf, Option.bind_eq_bind,
    Option.bind_some, Option.pure_def]
  rfl

/-- `distances.jaccard`: the translated source text (a float accumulator to which `1.0` / `0.0` is
added) = the model `Metrics.jaccard` (counts in `ℕ`, converted by `ofNat`) on every carrier with `CountLaws` -/
theorem kernel_jaccard_refines {α : Type} [Arith α] (hc : CountLaws α) (x y : Array α)
    (h : x.size = y.size) (fuel : Nat) (hf : x.size + 1 ≤ fuel) :
    GenMetric.jaccard fuel x y = some (Metrics.jaccard x.toList y.toList) := by
  simp only [GenMetric.jaccard, jaccard_loop hc x y h fuel hf, Option.bind_eq_bind,
    Option.bind_some, Option.pure_def, ite_some]
  rfl

/-- `distances.alternative_jaccard`: the translated source text (a float accumulator to which `1.0` / `0.0` is
added) = the model `Metrics.alternativeJaccard` (counts in `ℕ`, converted by `ofNat`) on every carrier with `CountLaws` -/
theorem kernel_alternative_jaccard_refines {α : Type} [Arith α] (hc : CountLaws α) (x y : Array α)
    (h : x.size = y.size) (fuel : Nat) (hf : x.size + 1 ≤ fuel) :
    GenMetric.alternative_jaccard fuel x y = some (Metrics.alternativeJaccard x.toList y.toList) := by
  simp only [GenMetric.alternative_jaccard, alternative_jaccard_loop_eq,
    jaccard_loop hc x y h fuel hf, Option.bind_eq_bind, Option.bind_some, Option.pure_def, ite_some]
  rfl

/-- `distances.matching`: the translated source text (a float accumulator to which `1.0` / `0.0` is
added) = the model `Metrics.matching` (counts in `ℕ`, converted by `ofNat`) on every carrier with `CountLaws` -/
theorem kernel_matching_refines {α : Type} [Arith α] (hc : CountLaws α) (x y : Array α)
    (h : x.size = y.size) (fuel : Nat) (hf : x.size + 1 ≤ fuel) :
    GenMetric.matching fuel x y = some (Metrics.matching x.toList y.toList) := by
  simp only [GenMetric.matching, matching_loop hc x y h fuel hf, Option.bind_eq_bind,
    Option.bind_some, Option.pure_def]
  rfl

/-- `distances.dice`: the translated source text (a float accumulator to which `1.0` / `0.0` is
added) = the model `Metrics.dice` (counts in `ℕ`, converted by `ofNat`) on every carrier with `CountLaws` -/
theorem kernel_dice_refines {α : Type} [Arith α] (hc : CountLaws α) (x y : Array α)
    (h : x.size = y.size) (fuel : Nat) (hf : x.size + 1 ≤ fuel) :
    GenMetric.dice fuel x y = some (Metrics.dice x.toList y.toList) := by
  simp only [GenMetric.dice, dice_loop hc x y h fuel hf, Option.bind_eq_bind, Option.bind_some,
    Option.pure_def, ite_some]
  rfl

/-- `distances.kulsinski`: the translated source text (a float accumulator to which `1.0` / `0.0` is
added) = the model `Metrics.kulsinski` (counts in `ℕ`, converted by `ofNat`) on every carrier with `CountLaws` -/
theorem kernel_kulsinski_refines {α : Type} [Arith α] (hc : CountLaws α) (x y : Array α)
    (h : x.size = y.size) (fuel : Nat) (hf : x.size + 1 ≤ fuel) :
    GenMetric.kulsinski fuel x y = some (Metrics.kulsinski x.toList y.toList) := by
  simp only [GenMetric.kulsinski, kulsinski_loop_eq, dice_loop hc x y h fuel hf,
    Option.bind_eq_bind, Option.bind_some, Option.pure_def, ite_some]
  rfl

/-- `distances.rogers_tanimoto`: the translated source text (a float accumulator to which `1.0` / `0.0` is
added) = the model `Metrics.rogersTanimoto` (counts in `ℕ`, converted by `ofNat`) on every carrier with `CountLaws` -/
theorem kernel_rogers_tanimoto_refines {α : Type} [Arith α] (hc : CountLaws α) (x y : Array α)
    (h : x.size = y.size) (fuel : Nat) (hf : x.size + 1 ≤ fuel) :
    GenMetric.rogers_tanimoto fuel x y = some (Metrics.rogersTanimoto x.toList y.toList) := by
  simp only [GenMetric.rogers_tanimoto, rogers_tanimoto_loop_eq, matching_loop hc x y h fuel hf,
    Option.bind_eq_bind, Option.bind_some, Option.pure_def]
  rfl

/-- `distances.sokal_michener`: the translated source text (a float accumulator to which `1.0` / `0.0` is
added) = the model `Metrics.rogersTanimoto` (counts in `ℕ`, converted by `ofNat`) on every carrier with `CountLaws` -/
theorem kernel_sokal_michener_refines {α : Type} [Arith α] (hc : CountLaws α) (x y : Array α)
    (h : x.size = y.size) (fuel : Nat) (hf : x.size + 1 ≤ fuel) :
    GenMetric.sokal_michener fuel x y = some (Metrics.rogersTanimoto x.toList y.toList) := by
  simp only [GenMetric.sokal_michener, sokal_michener_loop_eq, matching_loop hc x y h fuel hf,
    Option.bind_eq_bind, Option.bind_some, Option.pure_def]
  rfl

/-- `distances.sokal_sneath`: the translated source text (a float accumulator to which `1.0` / `0.0` is
added) = the model `Metrics.sokalSneath` (counts in `ℕ`, converted by `ofNat`) on every carrier with `CountLaws` -/
theorem kernel_sokal_sneath_refines {α : Type} [Arith α] (hc : CountLaws α) (x y : Array α)
    (h : x.size = y.size) (fuel : Nat) (hf : x.size + 1 ≤ fuel) :
    GenMetric.sokal_sneath fuel x y = some (Metrics.sokalSneath x.toList y.toList) := by
  simp only [GenMetric.sokal_sneath, sokal_sneath_loop_eq, dice_loop hc x y h fuel hf,
    Option.bind_eq_bind, Option.bind_some, Option.pure_def, ite_some]
  rfl

/-- `distances.russellrao`: the translated source text (a float accumulator to which `1.0` / `0.0` is
added) = the model `Metrics.russellrao` (counts in `ℕ`, converted by `ofNat`) on every carrier with `CountLaws` -/
theorem kernel_russellrao_refines {α : Type} [Arith α] (hc : CountLaws α) (x y : Array α)
    (h : x.size = y.size) (fuel : Nat) (hf : x.size + 1 ≤ fuel) :
    GenMetric.russellrao fuel x y = some (Metrics.russellrao x.toList y.toList) := by
  simp only [GenMetric.russellrao, russellrao_loop hc x y h fuel hf, Option.bind_eq_bind,
    Option.bind_some, Option.pure_def, ite_some]
  rfl

/-- `distances.yule`: the translated source text (a float accumulator to which `1.0` / `0.0` is
added) = the model `Metrics.yule` (counts in `ℕ`, converted by `ofNat`) on every carrier with `CountLaws` -/
theorem kernel_yule_refines {α : Type} [Arith α] (hc : CountLaws α) (x y : Array α)
    (h : x.size = y.size) (fuel : Nat) (hf : x.size + 1 ≤ fuel) :
    GenMetric.yule fuel x y = some (Metrics.yule x.toList y.toList) := by
  simp only [GenMetric.yule, yule_loop hc x y h fuel hf, Option.bind_eq_bind, Option.bind_some,
    Option.pure_def, ite_some]
  rfl

/-- `distances.minkowski` (the default `p=2` is an explicit argument) -/
theorem kernel_minkowski_refines {α : Type} [Arith α] (p : α) (x y : Array α) (h : x.size = y.size)
    (fuel : Nat) (hf : x.size + 1 ≤ fuel) :
    GenMetric.minkowski fuel x y p = some (Metrics.minkowski x.toList y.toList p) := by
  simp only [GenMetric.minkowski, minkowski_loop x y p h fuel hf, Option.bind_eq_bind,
    Option.bind_some, Option.pure_def]
  rfl

/-- `distances.standardised_euclidean` (`sigma` explicit, of the length of `x`) -/
theorem kernel_standardised_euclidean_refines {α : Type} [Arith α] (x y sigma : Array α)
    (h : x.size = y.size) (hs : x.size = sigma.size) (fuel : Nat) (hf : x.size + 1 ≤ fuel) :
    GenMetric.standardised_euclidean fuel x y sigma
      = some (Metrics.standardisedEuclidean x.toList y.toList sigma.toList) := by
  have L := standardised_euclidean_loop0 x y sigma h hs fuel 0 (Nat.zero_le _) hf
  rw [Int.ofNat_zero] at L
  simp only [GenMetric.standardised_euclidean, L, Option.bind_eq_bind, Option.bind_some,
    Option.pure_def]
  rfl

/-- `distances.weighted_minkowski` (`w`, `p` explicit) -/
theorem kernel_weighted_minkowski_refines {α : Type} [Arith α] (x y w : Array α) (p : α)
    (h : x.size = y.size) (hs : x.size = w.size) (fuel : Nat) (hf : x.size + 1 ≤ fuel) :
    GenMetric.weighted_minkowski fuel x y w p
      = some (Metrics.weightedMinkowski x.toList y.toList w.toList p) := by
  have L := weighted_minkowski_loop0 x y w p h hs fuel 0 (Nat.zero_le _) hf
  rw [Int.ofNat_zero] at L
  simp only [GenMetric.weighted_minkowski, L, Option.bind_eq_bind, Option.bind_some,
    Option.pure_def]
  rfl

/-- `distances.mahalanobis`: a local `np.empty` array filled by a first loop (stores in bounds, every cell
stored to before it is loaded), then the nested loop over the `n × n` matrix `vinv` (rows as arrays;
model: the list of its rows); fuel `≥ 2n + 2` -/
theorem kernel_mahalanobis_refines {α : Type} [Arith α] (x y : Array α) (vinv : Array (Array α))
    (h : x.size = y.size) (hv : vinv.size = x.size)
    (hr : ∀ i (hi : i < vinv.size), vinv[i].size = x.size) (fuel : Nat) (hf : 2 * x.size + 2 ≤ fuel) :
    GenMetric.mahalanobis fuel x y vinv
      = some (Metrics.mahalanobis x.toList y.toList (vinv.toList.map Array.toList)) := by
  have hf' : x.size + x.size + 1 < fuel := by
    rw [← Nat.two_mul]; exact hf
  have L0 := mahalanobis_loop0 x y h fuel 0 (Nat.zero_le _) (Nat.lt_of_le_of_lt (Nat.le_add_right x.size (x.size + 1)) hf')
    _ (mkEmpty_size x.size) (fun j hj => absurd hj (Nat.not_lt_zero j))
  have L1 := mahalanobis_loop1 x vinv (diffArr x y) (diffArr_size x y h) hv hr fuel 0 (Nat.zero_le _)
    (Nat.lt_of_succ_lt hf') 0
  rw [Int.ofNat_zero] at L0 L1
  simp only [GenMetric.mahalanobis, L0, L1, Option.bind_eq_bind, Option.bind_some, Option.pure_def]
  rfl

/-- `distances.tsss` -/
theorem kernel_tsss_refines {α : Type} [Arith α] [Trig α] (x y : Array α) (h : x.size = y.size)
    (fuel : Nat) (hf : x.size + 1 ≤ fuel) :
    GenMetric.tsss fuel x y = some (Metrics.tsss x.toList y.toList) := by
  simp only [GenMetric.tsss, tsss_loop x y h fuel hf, Option.bind_eq_bind, Option.bind_some,
    Option.pure_def]
  rfl

/-- `distances.haversine`: equal as `Option`s — `none` on both sides is the `ValueError` for
`x.shape[0] != 2`; for 2-vectors both are `some` of the same value (no out-of-bounds load) -/
theorem kernel_haversine_refines {α : Type} [Arith α] [Trig α] (x y : Array α) (h : x.size = y.size)
    (fuel : Nat) :
    GenMetric.haversine fuel x y = Metrics.haversine x.toList y.toList := by
  obtain ⟨xl⟩ := x
  obtain ⟨yl⟩ := y
  simp only [List.size_toArray] at h
  by_cases hx : xl.length = 2
  · obtain ⟨x0, x1, rfl⟩ := List.length_eq_two.1 hx
    obtain ⟨y0, y1, rfl⟩ := List.length_eq_two.1 (h ▸ hx)
    rfl
  · have hn : ((xl.length : Nat) : Int) ≠ 2 := fun e => hx (Int.ofNat.inj e)
    simp only [GenMetric.haversine, List.size_toArray, hn, ne_eq, not_false_eq_true, if_true]
    unfold Metrics.haversine
    split
    · exact absurd rfl hx
    · rfl

/-- the four scalar corrections (`@numba.vectorize` ufuncs of `distances.py`; C09 is about them) -/
theorem kernel_corrections_refine {α : Type} [Arith α] (fuel : Nat) (d : α) :
    GenMetric.correct_alternative_cosine fuel d = some (Metrics.correctAlternativeCosine d) ∧
    GenMetric.true_angular_from_alt_cosine fuel d = some (Metrics.trueAngularFromAltCosine d) ∧
    GenMetric.correct_alternative_hellinger fuel d = some (Metrics.correctAlternativeHellinger d) ∧
    GenMetric.correct_alternative_jaccard fuel d = some (Metrics.correctAlternativeJaccard d) :=
  ⟨rfl, rfl, rfl, rfl⟩

/-- `ℝ` has the laws that relate the code's float counters to the model's `ℕ` counters -/
theorem countLaws_real : CountLaws ℝ :=
  ⟨Nat.cast_zero, fun n => Nat.cast_succ n, fun a => add_zero a⟩

/-! ### composed: theorems of this file, restated on the translated source text (over `ℝ`) -/

/-- **the translated `euclidean` returns `√(Σ (xᵢ − yᵢ)²)`** (`kernel_euclidean_refines` +
`euclidean_spec`), without out-of-bounds access, for all real vectors of equal length -/
theorem kernel_euclidean_spec (x y : Array ℝ) (h : x.size = y.size) (fuel : Nat)
    (hf : x.size + 1 ≤ fuel) :
    GenMetric.euclidean fuel x y
      = some (Real.sqrt ((List.zipWith (fun a b => (a - b) ^ 2) x.toList y.toList).sum)) := by
  rw [kernel_euclidean_refines x y h fuel hf, euclidean_spec]

/-- **the translated `cosine` is symmetric and lies in `[0, 2]`** (`cosine_symm`, `cosine_range`) -/
theorem kernel_cosine_symm_range (x y : Array ℝ) (h : x.size = y.size) (fuel : Nat)
    (hf : x.size + 1 ≤ fuel) :
    GenMetric.cosine fuel x y = GenMetric.cosine fuel y x ∧
    ∃ c, GenMetric.cosine fuel x y = some c ∧ 0 ≤ c ∧ c ≤ 2 := by
  rw [kernel_cosine_refines x y h fuel hf, kernel_cosine_refines y x h.symm fuel (h ▸ hf),
    cosine_symm]
  exact ⟨rfl, _, rfl, cosine_range y.toList x.toList (by simpa using h.symm)⟩

/-- **the translated `jaccard` over `ℝ`** needs no extra hypothesis (`countLaws_real`), is symmetric
and vanishes on identical inputs (`jaccard_symm`, `jaccard_self`) -/
theorem kernel_jaccard_real (x y : Array ℝ) (h : x.size = y.size) (fuel : Nat)
    (hf : x.size + 1 ≤ fuel) :
    GenMetric.jaccard fuel x y = some (Metrics.jaccard x.toList y.toList) ∧
    GenMetric.jaccard fuel x y = GenMetric.jaccard fuel y x ∧
    GenMetric.jaccard fuel x x = some 0 := by
  rw [kernel_jaccard_refines countLaws_real x y h fuel hf,
    kernel_jaccard_refines countLaws_real y x h.symm fuel (h ▸ hf),
    kernel_jaccard_refines countLaws_real x x rfl fuel hf, jaccard_symm, jaccard_self]
  exact ⟨rfl, rfl, rfl⟩

end KernelTie

/-! ## non-vacuity -/

example : euclidean ([3, 0] : List ℝ) [0, 4] = 5 := by
  rw [euclidean_spec]
  have : (List.zipWith (fun a b : ℝ => (a - b) ^ 2) [3, 0] [0, 4]).sum = 5 ^ 2 := by norm_num
  rw [this, Real.sqrt_sq (by norm_num)]

example : chebyshev ([3, 0] : List ℝ) [0, 4] = 4 := by
  rw [chebyshev_real]; norm_num

example : jaccardOfCounts (3 : ℝ) (1 : ℝ) = 2 / 3 := by
  rw [jaccardOfCounts_real]; norm_num

end Pynn.C07
