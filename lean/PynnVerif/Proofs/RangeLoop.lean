import PynnVerif.Proofs.LoopSimp

/-! # Induction for the translated loops

The translator turns a loop into a function recursive on fuel; `for i in range(n): …` carries the
cursor `i : Int`.  `range_loop` serves directly the counted loops of `Proofs/GenMetrics.lean`, the
duplicate scan of the checked pushes (`dup_scan_eq`), the row loop of `deheap_sort`
(`deheap_loop0_spec`) and the row loops of the update generators (`for_rows`), and, through its instances `GenK.for_fold` / `GenK.for_emit`
(`Proofs/GenLoop.lean`), the loops of the other `Gen*` files; `descent_loop` serves the `while True:`
loops of the heap kernels.  Loops that walk a
list with their cursor go by `GenK.At.loop` (`Proofs/GenBasics.lean`), the two-cursor merge loops by
`GenMerge.merge_loop` (`Proofs/GenMerge.lean`); only the count-down loop `GenDeheap.deheap_loop1_spec`,
whose callee asks less with every pass, keeps an induction of its own.

One convention for the fuel throughout: a loop lemma asks for `passes + m < fuel`, where `m` is what
the callees of one pass ask to be exceeded (`0` if there are none), and gives the pass `m < fuel`.
So a nested loop with `w` passes over a callee asking `k < fuel` asks `w + k < fuel`, the loop around
it `n + (w + k) < fuel`, and each hands the hypothesis of its pass to its callee as it stands.
The property theorems in `Props/` spell the same bound `k + 1 ≤ fuel`, which is `k < fuel` by definition,
so they too pass their hypothesis on unchanged.

The simp set `loop_simp` (`Proofs/LoopSimp.lean`) holds `cursor_lt` and `cursor_succ` below; only
`Proofs/GenMetrics.lean` calls it, the other files name these lemmas in their `simp only`. -/
namespace Pynn

/-- A claim `P fuel k` about a translated `for i in range(n)` loop entered at cursor `k` holds for
every `k ≤ n` with more fuel than the `n - k` passes still to make and the `m` that the callees of one
pass have to exceed (an inner loop, a push), once one iteration carries it from `k + 1` back to `k < n`
and it holds at the exit `k = n`. -/
theorem range_loop {n m : Nat} {P : Nat → Nat → Prop}
    (step : ∀ fuel k, k < n → m < fuel → P fuel (k + 1) → P (fuel + 1) k)
    (stop : ∀ fuel, P (fuel + 1) n) :
    ∀ fuel k, k ≤ n → n - k + m < fuel → P fuel k := by
  intro fuel
  induction fuel with
  | zero => intro k _ hf; exact absurd hf (Nat.not_lt_zero _)
  | succ fuel ih =>
    intro k hk hf
    rcases Nat.lt_or_eq_of_le hk with c | rfl
    · rw [← Nat.succ_pred_eq_of_pos (Nat.sub_pos_of_lt c), Nat.succ_add] at hf
      have hf' : n - (k + 1) + m < fuel := Nat.lt_of_succ_lt_succ hf
      exact step fuel k c (Nat.lt_of_le_of_lt (Nat.le_add_left m _) hf') (ih (k + 1) c hf')
    · exact stop fuel

/-- The same for a `while True:` loop that walks down the implicit tree of a heap of `n` slots: one pass either leaves
the loop or goes on from a later position `c < n`, so more fuel than `n - i` covers it from `i`. -/
theorem descent_loop {n : Nat} {P : Nat → Nat → Prop}
    (step : ∀ fuel i, (∀ c, i < c → c < n → P fuel c) → P (fuel + 1) i) :
    ∀ fuel i, n - i < fuel → P fuel i := by
  intro fuel
  induction fuel with
  | zero => intro i hf; exact absurd hf (Nat.not_lt_zero _)
  | succ fuel ih =>
    intro i hf
    exact step fuel i fun c hic hc =>
      ih c (Nat.lt_of_lt_of_le (Nat.sub_lt_sub_left (Nat.lt_trans hic hc) hic) (Nat.le_of_lt_succ hf))

theorem drop_cons {α : Type} (x : Array α) (k : Nat) (h : k < x.size) : x.toList.drop k = x[k] :: x.toList.drop (k + 1) :=
  List.drop_eq_getElem_cons h

/-- the range test `i < stop` at a natural-number cursor (an equation of its own: tagging the core
`Int.ofNat_lt : _ ↔ _` would create an auxiliary declaration that other libraries create too) -/
@[loop_simp] theorem cursor_lt (k n : Nat) : ((k : Int) < (n : Int)) = (k < n) := propext Int.ofNat_lt

/-- the cursor after `i + 1`, in the form the induction hypothesis of `range_loop` has it -/
@[loop_simp] theorem cursor_succ (k : Nat) : (k : Int) + 1 = ((k + 1 : Nat) : Int) := rfl

/-- the cursor of a loop that counts down (`range(k, 0, -1)`) after `j + (-1)`; its test is `Int.natCast_succ_pos` -/
theorem cursor_pred (k : Nat) : ((k + 1 : Nat) : Int) + (-1) = (k : Int) := Int.add_neg_cancel_right (k : Int) 1

end Pynn
