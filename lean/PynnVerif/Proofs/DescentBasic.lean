import PynnVerif.Model.Descent
import PynnVerif.Proofs.HeapBasic

/-!
# What the kernels of the modelled NN-descent do, whatever the order is

Everything `nn_descent` does to the graph is a `pushInto` (one `checked_flagged_heap_push`) or a
`clearFlags`.  This file has what every argument about the kernels starts from; nothing in it uses
a law of the order, so it serves the graph (a linear order), the candidate heaps and the refinement
proofs of the translated kernels (any decidable `≤`, `<`) alike.  No Mathlib here.

The file goes by what a statement asks of `P`: nothing at all (the empty graph, `AllRows`,
`clearFlags`, `joinUpdates.go`), then `≤` alone (`joinUpdates`), `<` alone (`leafUpdates`), and
from `pushInto` on both.
-/
namespace Pynn
variable {P C : Type}

theorem chunks_mem {α : Type} (size : Nat) (l : List α) :
    ∀ b ∈ chunks size l, ∀ x ∈ b, x ∈ l := by
  fun_induction chunks size l
  case case1 h => intro b hb; simp at hb
  case case2 l h hl =>
    intro b hb x hx
    simp only [List.mem_singleton] at hb; subst hb; exact hx
  case case3 l h ih =>
    intro b hb x hx
    rcases List.mem_cons.mp hb with rfl | hb'
    · exact List.mem_of_mem_take hx
    · exact List.mem_of_mem_drop (ih b hb' x hx)

/-! ## the empty graph -/

@[simp] theorem mkGraph_size (top : P) (n k : Nat) : (mkGraph top n k).size = n := Array.size_replicate

theorem mkGraph_getElem? (top : P) (n k r : Nat) :
    (mkGraph top n k)[r]? = if r < n then some (mkRow top k) else none := Array.getElem?_replicate

theorem threshold_mkGraph (top : P) (n k p : Nat) : threshold top (mkGraph top n k) p = top := by
  unfold threshold mkGraph
  by_cases hp : p < n
  · simp only [Array.getElem?_replicate, hp, ↓reduceIte]
    by_cases hk : 0 < k
    · simp [mkRow, hk]
    · simp [mkRow, hk]
  · simp [hp]

/-! ## predicates that speak of one row at a time -/

/-- every row of `g` satisfies `R` (which may depend on the row number) -/
def AllRows (R : Nat → Row P → Prop) (g : Graph P) : Prop :=
  ∀ (r : Nat) (row : Row P), g[r]? = some row → R r row

theorem AllRows.mkGraph {R : Nat → Row P → Prop} (top : P) (n k : Nat)
    (h : ∀ r, r < n → R r (mkRow top k)) : AllRows R (Pynn.mkGraph top n k) := by
  intro r row hr
  rw [mkGraph_getElem?] at hr
  split at hr
  · cases hr
    exact h r ‹_›
  · cases hr

theorem AllRows.map {R R' : Nat → Row P → Prop} {g : Graph P} (hg : AllRows R g)
    (F : Row P → Row P) (h : ∀ r row, R r row → R' r (F row)) : AllRows R' (g.map F) := by
  intro r row' hr
  rw [Array.getElem?_map] at hr
  obtain ⟨row, hrow, rfl⟩ := Option.map_eq_some_iff.mp hr
  exact h r row (hg r row hrow)

/-- a fold over a numbered list whose step `i` changes row `i` only (by `F` of the `i`-th element),
read at row `r` -/
theorem foldl_zipIdx_rows {α : Type} (F : α → Row P → Row P) (l : List α) (k : Nat) (g : Graph P)
    (r : Nat) (step : Graph P → α × Nat → Graph P)
    (hstep : ∀ g xi r', (step g xi)[r']? = if r' = xi.2 then g[xi.2]?.map (F xi.1) else g[r']?) :
    ((l.zipIdx k).foldl step g)[r]? =
      g[r]?.map (fun row => if k ≤ r then
        match l[r - k]? with
        | some x => F x row
        | none => row else row) := by
  induction l generalizing k g with
  | nil =>
    simp only [List.zipIdx_nil, List.foldl_nil]
    cases g[r]? <;> simp only [Option.map_none, Option.map_some, List.getElem?_nil, ite_self]
  | cons x l ih =>
    rw [List.zipIdx_cons, List.foldl_cons, ih (k + 1), hstep]
    by_cases hrk : r = k
    · subst hrk
      simp only [if_true, Nat.le_refl, Nat.sub_self, List.getElem?_cons_zero]
      simp only [Nat.not_succ_le_self r, if_false]
      cases g[r]? <;> rfl
    · simp only [hrk, if_false]
      by_cases hle : k + 1 ≤ r
      · have hle' : k ≤ r := Nat.le_of_succ_le hle
        have : r - k = (r - (k + 1)) + 1 := (Nat.succ_pred_eq_of_pos (Nat.sub_pos_of_lt hle)).symm
        simp only [hle, hle', if_true, this, List.getElem?_cons_succ]
      · have hle' : ¬ k ≤ r := fun h => hle (Nat.lt_of_le_of_ne h (Ne.symm hrk))
        simp only [hle, hle', if_false]

/-! ## `clearFlags` only changes flags -/

theorem clearFlags_size (g : Graph P) (c : Cands C) : (clearFlags g c).size = g.size := by
  unfold clearFlags
  exact Array.size_mapIdx

/-- every row of `clearFlags g c` is the old row with a key-preserving map applied -/
theorem clearFlags_getElem? (g : Graph P) (c : Cands C) (i : Nat) :
    ∃ φ : Entry P → Entry P, KeepsKey φ ∧ (clearFlags g c)[i]? = g[i]?.map (fun row => row.map φ) := by
  unfold clearFlags
  rw [Array.getElem?_mapIdx]
  cases c[i]? with
  | none => exact ⟨id, fun e => ⟨rfl, rfl⟩, by simp only [Array.map_id_fun, id_eq]⟩
  | some crow =>
    refine ⟨fun e => if crow.any (fun c => c.idx == e.idx) then { e with flag := false } else e, ?_, rfl⟩
    intro e
    dsimp only
    split <;> exact ⟨rfl, rfl⟩

theorem AllRows.clearFlags {R : Nat → Row P → Prop} {g : Graph P} (hg : AllRows R g)
    (h : ∀ r row (φ : Entry P → Entry P), KeepsKey φ → R r row → R r (row.map φ)) (c : Cands C) :
    AllRows R (clearFlags g c) := by
  intro r row' hr
  obtain ⟨φ, hφ, heq⟩ := clearFlags_getElem? g c r
  rw [heq] at hr
  obtain ⟨row, hrow, rfl⟩ := Option.map_eq_some_iff.mp hr
  exact h r row φ hφ (hg r row hrow)

variable [LE C] [LT C] [DecidableLE C] [DecidableLT C]

theorem newBuildCandidates_snd (ctop : C) (draw : RngState → C × RngState) (g : Graph P) (maxCand : Nat)
    (rng : RngState) (T : Nat) :
    ∃ nc : Cands C, (newBuildCandidates ctop draw g maxCand rng T).2 = clearFlags g nc := by
  unfold newBuildCandidates
  exact ⟨_, rfl⟩

/-! ## `generate_graph_updates`, entry by entry; its updates are truthful and come from the candidate rows -/

theorem validC_nil : validC ([] : List Int) = [] := rfl
theorem validC_neg (x : Int) (l : List Int) (h : x < 0) : validC (x :: l) = validC l := by
  have h' : ¬ (0 ≤ x) := by omega
  simp [validC, h']
theorem validC_nonneg (x : Nat) (l : List Int) : validC ((x : Int) :: l) = x :: validC l := by
  simp [validC]

theorem mem_validC {l : List Int} {x : Nat} (h : x ∈ validC l) : (x : Int) ∈ l := by
  unfold validC at h
  obtain ⟨y, hy, rfl⟩ := List.mem_map.mp h
  have := List.mem_filter.mp hy
  have h0 : 0 ≤ y := by simpa using this.2
  rw [Int.toNat_of_nonneg h0]; exact this.1

theorem joinUpdates_go_neg (oldRow : List Int) (test : Nat → Nat → Option (Upd P)) (x : Int) (l : List Int) (h : x < 0) :
    joinUpdates.go oldRow test (x :: l) = joinUpdates.go oldRow test l := by
  rw [joinUpdates.go.eq_2]; simp [h]
theorem joinUpdates_go_nonneg (oldRow : List Int) (test : Nat → Nat → Option (Upd P)) (x : Nat) (l : List Int) :
    joinUpdates.go oldRow test ((x : Int) :: l)
      = List.filterMap (test x) (validC ((x : Int) :: l)) ++ List.filterMap (test x) (validC oldRow)
        ++ joinUpdates.go oldRow test l := by
  rw [joinUpdates.go.eq_2]
  have : ¬ ((x : Nat) : Int) < 0 := by omega
  simp [this]

section
variable [LE P] [DecidableLE P]

/-- the test of `generate_graph_updates` on one pair (`<=`) -/
def joinTest (thr : Nat → P) (dist : Nat → Nat → P) (p q : Nat) : Option (Upd P) :=
  let d := dist p q
  if d ≤ thr p ∨ d ≤ thr q then some ⟨p, q, d⟩ else none

theorem joinUpdates_eq (thr : Nat → P) (dist : Nat → Nat → P) (newRow oldRow : List Int) :
    joinUpdates thr dist newRow oldRow = joinUpdates.go oldRow (joinTest thr dist) newRow := rfl

/-- every update generated by the local join carries the true distance of its pair,
and both endpoints are (non-negative) entries of the candidate rows -/
theorem joinUpdates_truthful (thr : Nat → P) (dist : Nat → Nat → P) (newRow oldRow : List Int) :
    ∀ u ∈ joinUpdates thr dist newRow oldRow,
      u.d = dist u.p u.q ∧ (u.p : Int) ∈ newRow ∧ ((u.q : Int) ∈ newRow ∨ (u.q : Int) ∈ oldRow) := by
  rw [joinUpdates_eq]
  induction newRow with
  | nil => intro u hu; cases hu
  | cons pj rest ih =>
    intro u hu
    -- `u` comes from the rest of the row, or it was generated at `pj`
    by_cases hr : u ∈ joinUpdates.go oldRow (joinTest thr dist) rest
    · obtain ⟨h1, h2, h3⟩ := ih u hr
      exact ⟨h1, List.mem_cons_of_mem _ h2, h3.imp_left (List.mem_cons_of_mem _)⟩
    · by_cases hneg : pj < 0
      · exact absurd (joinUpdates_go_neg _ _ _ _ hneg ▸ hu) hr
      · obtain ⟨x, rfl⟩ := Int.eq_ofNat_of_zero_le (Int.not_lt.mp hneg)
        rw [joinUpdates_go_nonneg, ← List.filterMap_append] at hu
        obtain ⟨q, hq, hqu⟩ := List.mem_filterMap.mp ((List.mem_append.mp hu).resolve_right hr)
        -- a test that answers, answers with the pair and its distance
        cases (Option.ite_none_right_eq_some.mp hqu).2
        exact ⟨rfl, List.mem_cons_self, (List.mem_append.mp hq).imp mem_validC mem_validC⟩

end

/-! ## `generate_leaf_updates`: its updates are truthful and come from the leaf -/

section
variable [LT P] [DecidableLT P]

/-- the test of `generate_leaf_updates` on one pair -/
def leafTest (thr : Nat → P) (dist : Nat → Nat → P) (p q : Nat) : Option (Upd P) :=
  let d := dist p q
  if d < thr p ∨ d < thr q then some ⟨p, q, d⟩ else none

theorem leafUpdates_eq (thr : Nat → P) (dist : Nat → Nat → P) (row : List Int) :
    leafUpdates thr dist row = (pairsLt (takeValid row)).filterMap (fun pq => leafTest thr dist pq.1 pq.2) := rfl

theorem mem_takeValid {l : List Int} {x : Nat} (h : x ∈ takeValid l) : (x : Int) ∈ l := by
  unfold takeValid at h
  obtain ⟨y, hy, rfl⟩ := List.mem_map.mp h
  have h0 : 0 ≤ y := by
    have := List.all_eq_true.mp (List.all_takeWhile (l := l) (p := fun x => decide (0 ≤ x))) y hy
    simpa using this
  rw [Int.toNat_of_nonneg h0]
  exact (List.takeWhile_sublist _).subset hy

theorem mem_pairsLt {l : List Nat} {pq : Nat × Nat} (h : pq ∈ pairsLt l) : pq.1 ∈ l ∧ pq.2 ∈ l := by
  induction l with
  | nil => simp [pairsLt] at h
  | cons p rest ih =>
    simp only [pairsLt] at h
    rcases List.mem_append.mp h with h | h
    · obtain ⟨q, hq, rfl⟩ := List.mem_map.mp h
      exact ⟨List.mem_cons_self, List.mem_cons_of_mem _ hq⟩
    · exact ⟨List.mem_cons_of_mem _ (ih h).1, List.mem_cons_of_mem _ (ih h).2⟩

theorem leafUpdates_truthful (thr : Nat → P) (dist : Nat → Nat → P) (row : List Int) :
    ∀ u ∈ leafUpdates thr dist row,
      u.d = dist u.p u.q ∧ (u.p : Int) ∈ row ∧ (u.q : Int) ∈ row := by
  intro u hu
  rw [leafUpdates_eq] at hu
  obtain ⟨pq, hpq, h⟩ := List.mem_filterMap.mp hu
  -- a test that answers, answers with the pair and its distance
  cases (Option.ite_none_right_eq_some.mp h).2
  exact ⟨rfl, mem_takeValid (mem_pairsLt hpq).1, mem_takeValid (mem_pairsLt hpq).2⟩

/-! ## a single leaf on an empty graph (for `C03.single_leaf_exact`) -/

theorem chunks_singleton {α : Type} (size : Nat) (x : α) : chunks size [x] = [[x]] := by
  rw [chunks]
  by_cases hs : size = 0
  · simp [hs]
  · have h1 : [x].take size = [x] := List.take_of_length_le (by simp; omega)
    have h2 : [x].drop size = [] := List.drop_of_length_le (by simp; omega)
    simp only [hs, List.cons_ne_self, or_self, ↓reduceDIte, h1, h2]
    rw [chunks]
    simp

theorem ne_of_mem_pairsLt {a b : Nat} {V : List Nat} (hV : V.Nodup) (h : (a, b) ∈ pairsLt V) : a ≠ b := by
  induction V with
  | nil => simp [pairsLt] at h
  | cons v V ih =>
    simp only [pairsLt, List.mem_append, List.mem_map, Prod.mk.injEq] at h
    rw [List.nodup_cons] at hV
    rcases h with ⟨q, hq, rfl, rfl⟩ | h
    · intro e; subst e; exact hV.1 hq
    · exact ih hV.2 h

theorem mem_pairsLt_of_mem {a b : Nat} {V : List Nat} (ha : a ∈ V) (hb : b ∈ V) (hne : a ≠ b) :
    (a, b) ∈ pairsLt V ∨ (b, a) ∈ pairsLt V := by
  induction V with
  | nil => simp at ha
  | cons v V ih =>
    simp only [pairsLt, List.mem_append, List.mem_map, Prod.mk.injEq]
    rcases List.mem_cons.mp ha with rfl | ha' <;> rcases List.mem_cons.mp hb with rfl | hb'
    · exact absurd rfl hne
    · exact Or.inl (Or.inl ⟨b, hb', rfl, rfl⟩)
    · exact Or.inr (Or.inl ⟨a, ha', rfl, rfl⟩)
    · rcases ih ha' hb' with h | h
      · exact Or.inl (Or.inr h)
      · exact Or.inr (Or.inr h)

theorem filterMap_eq_map_of {α β : Type} (l : List α) (f : α → Option β) (g : α → β)
    (h : ∀ x ∈ l, f x = some (g x)) : l.filterMap f = l.map g := by
  induction l with
  | nil => rfl
  | cons a l ih =>
    rw [List.filterMap_cons, h a (by simp), List.map_cons, ih (fun x hx => h x (List.mem_cons_of_mem _ hx))]

/-- with all thresholds at `top` and finite distances, `generate_leaf_updates` emits every pair -/
theorem leafUpdates_top (top : P) (dist : Nat → Nat → P) (row : List Int)
    (hfin : ∀ pq ∈ pairsLt (takeValid row), dist pq.1 pq.2 < top) :
    leafUpdates (fun _ => top) dist row =
      (pairsLt (takeValid row)).map (fun pq => (⟨pq.1, pq.2, dist pq.1 pq.2⟩ : Upd P)) := by
  rw [leafUpdates_eq]
  apply filterMap_eq_map_of
  intro pq hpq
  simp [leafTest, hfin pq hpq]

/-! ## `generate_leaf_updates`, entry by entry -/

theorem takeValid_nil : takeValid ([] : List Int) = [] := rfl
theorem takeValid_neg (x : Int) (l : List Int) (h : x < 0) : takeValid (x :: l) = [] := by
  simp [takeValid, List.takeWhile_cons]; omega
theorem takeValid_nonneg (x : Nat) (l : List Int) : takeValid ((x : Int) :: l) = x :: takeValid l := by
  simp [takeValid]

theorem leafUpdates_neg (thr : Nat → P) (dist : Nat → Nat → P) (x : Int) (l : List Int) (h : x < 0) :
    leafUpdates thr dist (x :: l) = [] := by rw [leafUpdates_eq, takeValid_neg x l h]; rfl
theorem leafUpdates_cons (thr : Nat → P) (dist : Nat → Nat → P) (x : Nat) (l : List Int) :
    leafUpdates thr dist ((x : Int) :: l)
      = (takeValid l).filterMap (leafTest thr dist x) ++ leafUpdates thr dist l := by
  rw [leafUpdates_eq, leafUpdates_eq, takeValid_nonneg]
  simp [pairsLt, List.filterMap_append, List.filterMap_map, Function.comp_def]

end

variable [LE P] [LT P] [DecidableLE P] [DecidableLT P]

set_option linter.unusedSectionVars false in
theorem leafUpdates_nil (thr : Nat → P) (dist : Nat → Nat → P) : leafUpdates thr dist [] = [] := rfl

/-! ## `pushInto`: size, frame, out-of-bounds -/

theorem pushInto_oob (g : Graph P) (r : Nat) (d : P) (q : Int) (f : Bool) (h : g.size ≤ r) :
    pushInto g r d q f = (g, false) := by
  unfold pushInto; rw [dif_neg (Nat.not_lt.mpr h)]

theorem pushInto_lt (g : Graph P) (r : Nat) (h : r < g.size) (d : P) (q : Int) (f : Bool) :
    pushInto g r d q f = (g.set r (push true g[r] d q f).1 h, (push true g[r] d q f).2) := by
  simp only [pushInto, h, dite_true, pushFlagged]

@[simp] theorem pushInto_size (g : Graph P) (r : Nat) (d : P) (q : Int) (f : Bool) :
    (pushInto g r d q f).1.size = g.size := by
  unfold pushInto; split <;> simp

/-- `pushInto` touches row `r` only, and there it is one `checked_flagged_heap_push`
(out of bounds: `g[r]? = none`, nothing happens). -/
theorem pushInto_getElem? (g : Graph P) (r : Nat) (d : P) (q : Int) (f : Bool) (r' : Nat) :
    (pushInto g r d q f).1[r']? =
      if r' = r then g[r]?.map (fun row => (pushFlagged row d q f).1) else g[r']? := by
  unfold pushInto
  split
  · rename_i h
    rw [Array.getElem?_set]
    by_cases hr : r = r'
    · subst hr
      rw [if_pos rfl, if_pos rfl, Array.getElem?_eq_getElem h]
      rfl
    · rw [if_neg hr, if_neg (Ne.symm hr)]
  · rename_i h
    by_cases hr : r' = r
    · subst hr
      rw [if_pos rfl, Array.getElem?_eq_none (Nat.le_of_not_lt h)]
      rfl
    · rw [if_neg hr]

theorem pushInto_getElem_self (g : Graph P) (r : Nat) (d : P) (q : Int) (f : Bool) (hr : r < g.size)
    (hr' : r < (pushInto g r d q f).1.size) :
    (pushInto g r d q f).1[r] = (pushFlagged g[r] d q f).1 := by
  have := pushInto_getElem? g r d q f r
  rw [Array.getElem?_eq_getElem hr', Array.getElem?_eq_getElem hr] at this
  simpa using this

theorem pushInto_snd (g : Graph P) (r : Nat) (d : P) (q : Int) (f : Bool) :
    (pushInto g r d q f).2 = (g[r]?.map (fun row => (pushFlagged row d q f).2)).getD false := by
  by_cases h : r < g.size
  · rw [pushInto_lt g r h, Array.getElem?_eq_getElem h]
    rfl
  · rw [pushInto_oob g r d q f (Nat.le_of_not_lt h), Array.getElem?_eq_none (Nat.le_of_not_lt h)]
    rfl

theorem pushInto_reject (g : Graph P) (r : Nat) (d : P) (q : Int) (f : Bool)
    (h : (pushInto g r d q f).2 = false) : (pushInto g r d q f).1 = g := by
  by_cases hr : r < g.size
  · rw [pushInto_lt g r hr] at h ⊢
    rcases push_cases true g[r] d q f with e | ⟨_, e⟩
    · rw [e]
      exact Array.set_getElem_self hr
    · rw [e] at h
      cases h
  · rw [pushInto_oob g r d q f (Nat.le_of_not_lt hr)]

@[simp] theorem applyBoth_size (g : Graph P) (u : Upd P) : (applyBoth g u).size = g.size := by
  simp [applyBoth]

@[simp] theorem applyBoth_fold_size (g : Graph P) (ups : List (Upd P)) :
    (ups.foldl applyBoth g).size = g.size := by
  induction ups generalizing g with
  | nil => rfl
  | cons u ups ih => rw [List.foldl_cons, ih, applyBoth_size]

/-- `R'` after a push: the pushed row gets it from the push, the others from `R`.  (Two
predicates, because a row predicate may depend on a record that an accepted push changes.) -/
theorem AllRows.pushInto {R R' : Nat → Row P → Prop} {g : Graph P} (hg : AllRows R g) (r : Nat)
    (d : P) (q : Int) (f : Bool)
    (hr : ∀ row, g[r]? = some row → R r row → R' r (pushFlagged row d q f).1)
    (ho : ∀ i row, i ≠ r → R i row → R' i row) : AllRows R' (pushInto g r d q f).1 := by
  intro i row' hi
  rw [pushInto_getElem?] at hi
  split at hi
  · subst i
    obtain ⟨row, hrow, rfl⟩ := Option.map_eq_some_iff.mp hi
    exact hr row hrow (hg r row hrow)
  · rename_i hne
    exact ho i row' hne (hg i row' hi)

/-! ## `init_from_neighbor_graph` row by row -/

theorem foldl_pushInto_row (g : Graph P) (r : Nat) (f : Bool) (l : List (Int × P)) (r' : Nat) :
    (l.foldl (fun g qd => (pushInto g r qd.2 qd.1 f).1) g)[r']? =
      if r' = r then
        g[r]?.map (fun row => l.foldl (fun h qd => (pushFlagged h qd.2 qd.1 f).1) row)
      else g[r']? := by
  induction l generalizing g with
  | nil =>
    split
    · rename_i heq
      rw [heq]
      exact Option.map_id'.symm
    · rfl
  | cons qd l ih =>
    rw [List.foldl_cons, ih]
    split
    · rename_i heq
      rw [pushInto_getElem?, if_pos rfl]
      cases g[r]? <;> rfl
    · rename_i hne
      rw [pushInto_getElem?, if_neg hne]

/-- `init_from_neighbor_graph` feeds row `r` of the heap with row `r` of the supplied
index/distance arrays (flag 0) and touches nothing else -/
theorem initFromNeighborGraph_getElem? (g : Graph P) (indices : List (List Int))
    (dists : List (List P)) (r : Nat) :
    (initFromNeighborGraph g indices dists)[r]? =
      g[r]?.map (fun row =>
        match (indices.zip dists)[r]? with
        | some isds => (isds.1.zip isds.2).foldl (fun h qd => (pushFlagged h qd.2 qd.1 false).1) row
        | none => row) := by
  unfold initFromNeighborGraph
  rw [foldl_zipIdx_rows
    (fun isds row => (isds.1.zip isds.2).foldl (fun h qd => (pushFlagged h qd.2 qd.1 false).1) row)
    (indices.zip dists) 0 g r _
    fun g rowi r' => foldl_pushInto_row g rowi.2 false (rowi.1.1.zip rowi.1.2) r']
  simp only [Nat.zero_le, if_true, Nat.sub_zero]
  cases (indices.zip dists)[r]? <;> rfl

/-! ## the record `in_graph` of the high-memory applier -/

theorem InGraph.has_iff (s : InGraph) (r : Nat) (x : Int) :
    s.has r x = true ↔ ∃ l, s[r]? = some l ∧ x ∈ l := by
  unfold InGraph.has
  cases h : s[r]? <;> simp

@[simp] theorem InGraph.add_size (s : InGraph) (r : Nat) (x : Int) : (s.add r x).size = s.size := by
  unfold InGraph.add; split <;> simp

theorem InGraph.has_add (s : InGraph) (r : Nat) (x : Int) (p : Nat) (q : Int) :
    (s.add r x).has p q = true ↔ s.has p q = true ∨ (p = r ∧ r < s.size ∧ q = x) := by
  rw [InGraph.has_iff, InGraph.has_iff]
  unfold InGraph.add
  split
  · rename_i h
    simp only [Array.getElem?_set]
    by_cases hpr : r = p
    · subst hpr
      simp only [↓reduceIte, Option.some.injEq, exists_eq_left', List.mem_cons,
        Array.getElem?_eq_getElem h, true_and, h]
      exact or_comm
    · have : ¬ p = r := fun e => hpr e.symm
      simp [hpr, this]
  · rename_i h
    simp only [iff_self_or]
    rintro ⟨_, h', _⟩
    exact absurd h' h

/-! ## the high-memory applier -/

/-- `if q not in in_graph[r]: (push; if accepted: count, record)` -/
def guardedPush (acc : (Graph P × Nat) × InGraph) (r : Nat) (d : P) (q : Int) :
    (Graph P × Nat) × InGraph :=
  if acc.2.has r q then acc else
    let res := pushInto acc.1.1 r d q true
    if res.2 then ((res.1, acc.1.2 + 1), acc.2.add r q) else ((res.1, acc.1.2), acc.2)

theorem guardedPush_pos {acc : (Graph P × Nat) × InGraph} {r : Nat} {q : Int} (h : acc.2.has r q = true) (d : P) :
    guardedPush acc r d q = acc := by
  rw [guardedPush, if_pos h]

theorem guardedPush_neg {acc : (Graph P × Nat) × InGraph} {r : Nat} {q : Int} (h : acc.2.has r q = false) (d : P) :
    guardedPush acc r d q = if (pushInto acc.1.1 r d q true).2
      then (((pushInto acc.1.1 r d q true).1, acc.1.2 + 1), acc.2.add r q)
      else (((pushInto acc.1.1 r d q true).1, acc.1.2), acc.2) := by
  rw [guardedPush, if_neg (by rw [h]; exact Bool.false_ne_true)]

/-- what `applyHigh` does with one update: two guarded pushes — one for the self pair -/
def highStep (acc : (Graph P × Nat) × InGraph) (u : Upd P) : (Graph P × Nat) × InGraph :=
  if u.p = u.q then guardedPush acc u.p u.d (u.q : Int)
  else guardedPush (guardedPush acc u.p u.d (u.q : Int)) u.q u.d (u.p : Int)

/-- The model's first test (both pushes recorded: skip the update) is what the two guards do together,
and for `p = q` the `u.p = u.q ||` disjunct of its second test is the second guard. -/
theorem applyHigh_eq_foldl_highStep (g : Graph P) (ups : List (Upd P)) (s : InGraph) :
    applyHigh g ups s = ups.foldl highStep ((g, 0), s) := by
  unfold applyHigh
  congr 1
  funext acc u
  obtain ⟨p, q, d⟩ := u
  by_cases hpq : p = q
  · subst hpq
    cases hA : acc.2.has p (p : Int) <;> simp [highStep, guardedPush, hA]
  · cases hA : acc.2.has p (q : Int)
    · simp [highStep, guardedPush, hA, hpq]
    · cases hB : acc.2.has q (p : Int) <;> simp [highStep, guardedPush, hA, hB, hpq]

/-! ## the low-memory applier -/

/-- what thread `t` of `applyLow` does with one update -/
def lowStep (T t : Nat) (acc : Graph P × Nat) (u : Upd P) : Graph P × Nat :=
  let acc := if u.p % T = t then
      let r := pushInto acc.1 u.p u.d u.q true
      (r.1, acc.2 + (if r.2 then 1 else 0))
    else acc
  if u.q % T = t then
    let r := pushInto acc.1 u.q u.d u.p true
    (r.1, acc.2 + (if r.2 then 1 else 0))
  else acc

theorem applyLow_eq_lowStep (T : Nat) (g : Graph P) (ups : List (Upd P)) :
    applyLow T g ups = (List.range T).foldl (fun acc t => ups.foldl (lowStep T t) acc) (g, 0) := rfl

/-! ## one iteration -/

/-- the body of the block loop of `processBlocks` -/
def blockStep (top : P) (dist : Nat → Nat → P) (cfg : Cfg) (acc : (Graph P × Nat) × InGraph)
    (block : List (List Int × List Int)) : (Graph P × Nat) × InGraph :=
  let g := acc.1.1
  let ups := block.flatMap (fun no => joinUpdates (threshold top g) dist no.1 no.2)
  if cfg.lowMemory then
    let r := applyLow cfg.nThreads g ups
    ((r.1, acc.1.2 + r.2), acc.2)
  else
    let r := applyHigh g ups acc.2
    ((r.1.1, acc.1.2 + r.1.2), r.2)

theorem processBlocks_eq_blockStep (top : P) (dist : Nat → Nat → P) (cfg : Cfg) (g : Graph P)
    (newC oldC : List (List Int)) (s : InGraph) :
    processBlocks top dist cfg g newC oldC s =
      (chunks cfg.blockSize (newC.zip oldC)).foldl (blockStep top dist cfg) ((g, 0), s) := rfl

/-! ## `init_random` draws row numbers -/

theorem randIndex_lt (r : Int) (n : Nat) (hn : 0 < n) : randIndex r n < n := by
  unfold randIndex
  show ((if (r == -2147483648) = true then r else (r.natAbs : Int)) % (n : Int)).toNat < n
  exact (Int.toNat_lt' hn).mpr (Int.emod_lt_of_pos _ (Int.natCast_pos.mpr hn))

/-! ## the generic lift -/

/-- `I` is preserved by every push that satisfies `ok row dist idx` -/
def PushClosed (I : Graph P → Prop) (ok : Nat → P → Int → Prop) : Prop :=
  ∀ g r d q f, I g → ok r d q → I (pushInto g r d q f).1

/-- both pushes an update `(p, q, d)` can cause are `ok` -/
def UpdOk (ok : Nat → P → Int → Prop) (u : Upd P) : Prop :=
  ok u.p u.d (u.q : Int) ∧ ok u.q u.d (u.p : Int)

variable {I : Graph P → Prop} {ok : Nat → P → Int → Prop}

theorem applyBoth_fold_lift (hI : PushClosed I ok) (g : Graph P) (ups : List (Upd P))
    (hu : ∀ u ∈ ups, UpdOk ok u) (hg : I g) : I (ups.foldl applyBoth g) :=
  List.foldlRecOn (motive := I) _ _ hg (fun _ hb u hu' => hI _ _ _ _ _ (hI _ _ _ _ _ hb (hu u hu').1) (hu u hu').2)

theorem lowStep_lift (hI : PushClosed I ok) (T t : Nat) (acc : Graph P × Nat) {u : Upd P}
    (hu : UpdOk ok u) (h : I acc.1) : I (lowStep T t acc u).1 := by
  unfold lowStep
  by_cases hp : u.p % T = t <;> by_cases hq : u.q % T = t <;>
    simp only [hp, hq, if_true, if_false]
  · exact hI _ _ _ _ _ (hI _ _ _ _ _ h hu.1) hu.2
  · exact hI _ _ _ _ _ h hu.1
  · exact hI _ _ _ _ _ h hu.2
  · exact h

theorem applyLow_lift (hI : PushClosed I ok) (T : Nat) (g : Graph P) (ups : List (Upd P))
    (hu : ∀ u ∈ ups, UpdOk ok u) (hg : I g) : I (applyLow T g ups).1 := by
  rw [applyLow_eq_lowStep]
  apply List.foldlRecOn (motive := (fun acc : Graph P × Nat => I acc.1)) _ _ hg
  intro acc hacc t _
  apply List.foldlRecOn (motive := (fun acc : Graph P × Nat => I acc.1)) _ _ hacc
  intro acc hacc u hu'
  exact lowStep_lift hI T t acc (hu u hu') hacc

theorem guardedPush_lift (hI : PushClosed I ok) (acc : (Graph P × Nat) × InGraph) {r : Nat}
    {d : P} {q : Int} (hok : ok r d q) (h : I acc.1.1) : I (guardedPush acc r d q).1.1 := by
  unfold guardedPush
  split
  · exact h
  · dsimp only
    split
    · exact hI _ _ _ _ _ h hok
    · exact hI _ _ _ _ _ h hok

theorem applyHigh_lift (hI : PushClosed I ok) (g : Graph P) (ups : List (Upd P)) (s : InGraph)
    (hu : ∀ u ∈ ups, UpdOk ok u) (hg : I g) : I (applyHigh g ups s).1.1 := by
  rw [applyHigh_eq_foldl_highStep]
  apply List.foldlRecOn (motive := (fun acc : (Graph P × Nat) × InGraph => I acc.1.1)) _ _ hg
  intro acc hacc u hu'
  rw [highStep]
  split
  · exact guardedPush_lift hI _ (hu u hu').1 hacc
  · exact guardedPush_lift hI _ (hu u hu').2 (guardedPush_lift hI _ (hu u hu').1 hacc)


theorem initRpTree_lift (hI : PushClosed I ok) (top : P) (dist : Nat → Nat → P) (g : Graph P)
    (leafArray : List (List Int)) (blockSize : Nat)
    (hu : ∀ thr : Nat → P, ∀ row ∈ leafArray, ∀ u ∈ leafUpdates thr dist row, UpdOk ok u)
    (hg : I g) : I (initRpTree top dist g leafArray blockSize) := by
  unfold initRpTree
  apply List.foldlRecOn (motive := I) _ _ hg
  intro g' hg' block hblock
  apply applyBoth_fold_lift hI _ _ _ hg'
  intro u hmem
  obtain ⟨row, hrow, hurow⟩ := List.mem_flatMap.mp hmem
  exact hu _ row (chunks_mem _ _ block hblock row hrow) u hurow

theorem processBlocks_lift (hI : PushClosed I ok) (top : P) (dist : Nat → Nat → P) (cfg : Cfg)
    (g : Graph P) (newC oldC : List (List Int)) (s : InGraph)
    (hu : ∀ thr : Nat → P, ∀ no ∈ newC.zip oldC, ∀ u ∈ joinUpdates thr dist no.1 no.2, UpdOk ok u)
    (hg : I g) : I (processBlocks top dist cfg g newC oldC s).1.1 := by
  rw [processBlocks_eq_blockStep]
  apply List.foldlRecOn (motive := (fun acc : (Graph P × Nat) × InGraph => I acc.1.1)) _ _ hg
  intro acc hacc block hblock
  have hups : ∀ u ∈ block.flatMap (fun no => joinUpdates (threshold top acc.1.1) dist no.1 no.2),
      UpdOk ok u := by
    intro u hmem
    obtain ⟨no, hno, huno⟩ := List.mem_flatMap.mp hmem
    exact hu _ no (chunks_mem _ _ block hblock no hno) u huno
  unfold blockStep
  dsimp only
  split
  · exact applyLow_lift hI _ _ _ hups hacc
  · exact applyHigh_lift hI _ _ _ hups hacc

theorem initRandom_lift (hI : PushClosed I ok) (k n : Nat) (dist : Nat → Nat → P) (g : Graph P)
    (rng : RngState) (hok : ∀ i idx, i < n → idx < n → ok i (dist idx i) (idx : Int))
    (hg : I g) : I (initRandom k n dist g rng).1 := by
  unfold initRandom
  apply List.foldlRecOn (motive := (fun acc : Graph P × RngState => I acc.1)) _ _ hg
  intro acc hacc i hi
  have hin : i < n := List.mem_range.mp hi
  dsimp only
  split
  · exact hacc
  · split
    · exact hacc
    · split
      · apply List.foldlRecOn (motive := (fun acc : Graph P × RngState => I acc.1)) _ _ hacc
        intro acc' hacc' _ _
        exact hI _ _ _ _ _ hacc' (hok i _ hin (randIndex_lt _ n (Nat.zero_lt_of_lt hin)))
      · exact hacc

theorem descentLoop_lift (hI : PushClosed I ok) (top : P) (ctop : C)
    (draw : RngState → C × RngState) (dist : Nat → Nat → P) (cfg : Cfg) (stop : Nat → Bool)
    (rng : RngState)
    (hclear : ∀ g (c : Cands C), I g → I (clearFlags g c))
    (hjoin : ∀ g, I g → ∀ thr : Nat → P,
      ∀ no ∈ (newBuildCandidates ctop draw g cfg.maxCand rng cfg.nThreads).1.1.zip
              (newBuildCandidates ctop draw g cfg.maxCand rng cfg.nThreads).1.2,
      ∀ u ∈ joinUpdates thr dist no.1 no.2, UpdOk ok u)
    (it : Nat) (g : Graph P) (s : InGraph) (hg : I g) :
    I (descentLoop top ctop draw dist cfg stop rng it g s) := by
  induction it generalizing g s with
  | zero => exact hg
  | succ it ih =>
    unfold descentLoop
    dsimp only
    have h2 : I (newBuildCandidates ctop draw g cfg.maxCand rng cfg.nThreads).2 := by
      obtain ⟨nc, hnc⟩ := newBuildCandidates_snd ctop draw g cfg.maxCand rng cfg.nThreads
      rw [hnc]; exact hclear g nc hg
    have h3 := processBlocks_lift hI top dist cfg _ _ _ s (hjoin g hg) h2
    split
    · exact h3
    · exact ih _ _ h3

end Pynn
