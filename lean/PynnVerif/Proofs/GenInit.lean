import PynnVerif.Proofs.GenApply

/-!
# The translated `pynndescent_.init_from_neighbor_graph` refines the model's `initFromNeighborGraph`

Two nested loops over the rows and columns of `indices` / `distances`, each entry pushed (flag `0`, no test of the
index) into row `p` of the heap by the translated `checked_flagged_heap_push` with write-back.
The two loops are here; `C13.kernel_init_from_neighbor_graph_refines` puts them under the kernel's entry point.
-/
namespace Pynn
open GenK
variable {P : Type} [LE P] [LT P] [DecidableLE P] [DecidableLT P]

/-- the loop variables `(priorities, indices, flags)`, in the order of the generated loops, hold the graph -/
inductive HeapRep (n k : Nat) : Graph P → Array (Array P) × Array (Array Int) × Array (Array Int) → Prop
  | mk (D I F g) (hR : Rep n k D I F g) : HeapRep n k g (D, I, F)

theorem nbr_loop1 (n k : Nat) (hk : 0 < k) (indices : Array (Array Int)) (distances : Array (Array P)) (p w : Nat)
    (hp : p < indices.size) (hp' : p < distances.size) (hw : indices[p].size = w) (hw' : distances[p].size = w)
    (hpn : p < n) :
    ∀ fuel s g, HeapRep n k g s → w + k < fuel →
      ∃ s', HeapRep n k ((indices[p].toList.zip distances[p].toList).foldl
          (fun g qd => (pushInto g p qd.2 qd.1 false).1) g) s' ∧
        init_from_neighbor_graph.loop1 indices distances (p : Int) (w : Int) fuel s.1 s.2.1 s.2.2 0
        = some (.next (s'.1, s'.2.1, s'.2.2, (w : Int))) := by
  refine for_fold (fun fuel s j => init_from_neighbor_graph.loop1 indices distances (p : Int) (w : Int) fuel
      s.1 s.2.1 s.2.2 j) (fun s j => (s.1, s.2.1, s.2.2, j)) (indices[p].toList.zip distances[p].toList) w
    (by simp [hw, hw']) _ (HeapRep n k) k (fun _ _ _ hj => by exact if_neg hj) ?_
  rintro fuel _ _ j hj ⟨D, I, F, g, hR⟩ hb
  have hlt : j < w := by simpa [hw, hw'] using hj
  obtain ⟨D1, I1, F1, _, _, _, hR1, hK1⟩ := hR.push_bind hk hpn (distances[p][j]'(hw' ▸ hlt))
    (indices[p][j]'(hw ▸ hlt)) 0 hb
  refine ⟨_, by simpa using HeapRep.mk D1 I1 F1 _ hR1, ?_⟩
  simp only [init_from_neighbor_graph.loop1, cursor_lt, hlt, ↓reduceIte, rd_lt indices p hp, rd_lt distances p hp',
    rd_lt indices[p] j (hw ▸ hlt), rd_lt distances[p] j (hw' ▸ hlt), Option.bind_eq_bind, Option.bind_some, hK1]

theorem nbr_loop0 (n k : Nat) (hk : 0 < k) (indices : Array (Array Int)) (distances : Array (Array P)) (w : Nat)
    (hsz : distances.size = indices.size) (hn : indices.size ≤ n)
    (hw : ∀ r (h : r < indices.size), indices[r].size = w ∧ (distances[r]'(hsz ▸ h)).size = w) :
    ∀ fuel s g, HeapRep n k g s → indices.size + (w + k) < fuel →
      ∃ s', HeapRep n k (((indices.toList.map (·.toList)).zip (distances.toList.map (·.toList))).zipIdx.foldl
          (fun g rowi => (rowi.1.1.zip rowi.1.2).foldl (fun g qd => (pushInto g rowi.2 qd.2 qd.1 false).1) g) g) s' ∧
        init_from_neighbor_graph.loop0 indices distances (indices.size : Int) fuel s.1 s.2.1 s.2.2 0
        = some (.next (s'.1, s'.2.1, s'.2.2, (indices.size : Int))) := by
  refine for_fold (fun fuel s i => init_from_neighbor_graph.loop0 indices distances (indices.size : Int) fuel
      s.1 s.2.1 s.2.2 i) (fun s j => (s.1, s.2.1, s.2.2, j))
    ((indices.toList.map (·.toList)).zip (distances.toList.map (·.toList))).zipIdx indices.size
    (by simp [hsz]) _ (HeapRep n k) (w + k) (fun _ _ _ hj => by exact if_neg hj) ?_
  intro fuel s g i hi hR hb
  have hlt : i < indices.size := by simpa [hsz] using hi
  have h0 : 0 < indices.size := Nat.zero_lt_of_lt hlt
  have hnc : ncols indices = w := (ncols_eq indices h0).trans (hw 0 h0).1
  obtain ⟨s', hR', e⟩ := nbr_loop1 n k hk indices distances i w hlt (hsz ▸ hlt) (hw i hlt).1 (hw i hlt).2
    (Nat.lt_of_lt_of_le hlt hn) fuel s g hR hb
  have hx : ((indices.toList.map (·.toList)).zip (distances.toList.map (·.toList))).zipIdx[i]
      = ((indices[i].toList, (distances[i]'(hsz ▸ hlt)).toList), i) := by
    simp only [List.getElem_zipIdx, List.getElem_zip, List.getElem_map, Array.getElem_toList, Nat.zero_add]
  refine ⟨s', hx ▸ hR', ?_⟩
  simp only [init_from_neighbor_graph.loop0, cursor_lt, hlt, ↓reduceIte, hnc, Option.bind_eq_bind]
  rw [e]
  rfl

end Pynn
