import PynnVerif.Proofs.Transport

/-!
# The transport LP on the line: ground cost `|i - j|`

`w1 a b = Σ_k |F k - G k|` (the value `distances.wasserstein_1d(p=1)` computes from the two
normalised cumulative sums) is the minimum.  `|i - j|` counts the thresholds `k` between `i` and
`j`, and the mass a plan `g` moves across threshold `k` is `F k + G k - 2 M k`, where `M k` is the
mass `g` keeps inside `[0, k] × [0, k]` (`cut_mass`).  `M k ≤ min (F k) (G k)` for every plan (`block_le`), which is the
lower bound, and the comonotone coupling `g i j = Δ_i Δ_j min (A i) (B j)` (`A`, `B` the partial
sums) has `M k = min (F k) (G k)` (`comono_psum_both`).

`absCost` and `cdf`, in which `Props/C10.lean` states the two 1-D theorems, are defined here.
-/
namespace Pynn.Transport
variable {n : ℕ}

/-- ground cost `|i - j|` -/
def absCost : Fin n → Fin n → ℚ := fun i j => |((i : ℕ) : ℚ) - ((j : ℕ) : ℚ)|
/-- cumulative distribution `F k = Σ_{i ≤ k} a i` -/
def cdf (a : Fin n → ℚ) (k : Fin n) : ℚ := ∑ i, if i ≤ k then a i else 0
/-- the 1-D closed form `Σ_k |F k - G k|` -/
def w1 (a b : Fin n → ℚ) : ℚ := ∑ k, |cdf a k - cdf b k|

/-- does threshold `k` separate `i` and `j`? -/
def cut (k i j : Fin n) : ℚ := if (i ≤ k ∧ k < j) ∨ (j ≤ k ∧ k < i) then 1 else 0

theorem absCost_eq_sum_cut (i j : Fin n) : absCost i j = ∑ k, cut k i j := by
  wlog h : i ≤ j generalizing i j
  · rw [show absCost i j = absCost j i from abs_sub_comm _ _, this j i (le_of_not_ge h)]
    exact Finset.sum_congr rfl fun k _ => if_congr or_comm rfl rfl
  have : (Finset.univ.filter fun k : Fin n => (i ≤ k ∧ k < j) ∨ (j ≤ k ∧ k < i)) = Finset.Ico i j := by
    ext k
    simp only [Finset.mem_filter, Finset.mem_univ, true_and, Finset.mem_Ico]
    exact ⟨fun h' => h'.resolve_right fun h'' => absurd (lt_of_le_of_lt h''.1 h''.2) (not_lt.mpr h), Or.inl⟩
  unfold absCost cut
  rw [Finset.sum_boole, this, Fin.card_Ico, Nat.cast_sub h, abs_sub_comm, abs_of_nonneg]
  exact sub_nonneg.mpr (Nat.cast_le.mpr h)

theorem cost_abs_eq_sum_cut (g : Fin n → Fin n → ℚ) :
    cost absCost g = ∑ k, ∑ i, ∑ j, cut k i j * g i j := by
  unfold cost
  simp only [absCost_eq_sum_cut, Finset.sum_mul]
  -- move the sum over `k` out past `j`, then past `i`
  exact (Finset.sum_congr rfl fun i _ => Finset.sum_comm).trans Finset.sum_comm

/-- partial sums `A s = Σ_{i<s} a i` (`s : ℕ`) -/
def psum (a : Fin n → ℚ) (s : ℕ) : ℚ := ∑ i : Fin n, if (i : ℕ) < s then a i else 0

theorem psum_zero (a : Fin n → ℚ) : psum a 0 = 0 :=
  Finset.sum_eq_zero fun _ _ => if_neg (Nat.not_lt_zero _)

theorem psum_n (a : Fin n → ℚ) : psum a n = ∑ i, a i :=
  Finset.sum_congr rfl fun i _ => if_pos i.isLt

theorem cdf_eq_psum (a : Fin n → ℚ) (k : Fin n) : cdf a k = psum a (k + 1) :=
  Finset.sum_congr rfl fun _ _ => if_congr Nat.lt_succ_iff.symm rfl rfl

theorem psum_mono (a : Fin n → ℚ) (ha : ∀ i, 0 ≤ a i) {s t : ℕ} (h : s ≤ t) :
    psum a s ≤ psum a t :=
  Finset.sum_le_sum fun i _ => by
    split_ifs with h1 h2 h2
    exacts [le_rfl, absurd (h1.trans_le h) h2, ha i, le_rfl]

theorem psum_nonneg (a : Fin n → ℚ) (ha : ∀ i, 0 ≤ a i) (s : ℕ) : 0 ≤ psum a s := by
  rw [← psum_zero a]; exact psum_mono a ha (Nat.zero_le s)

theorem psum_le_total (a : Fin n → ℚ) (ha : ∀ i, 0 ≤ a i) (s : ℕ) : psum a s ≤ ∑ i, a i :=
  Finset.sum_le_sum fun i _ => by split_ifs; exacts [le_rfl, ha i]

theorem psum_le_psum {f f' : Fin n → ℚ} (h : ∀ i, f i ≤ f' i) (s : ℕ) : psum f s ≤ psum f' s :=
  Finset.sum_le_sum fun i _ => by split_ifs; exacts [h i, le_rfl]

theorem psum_succ_sub (a : Fin n → ℚ) (i : Fin n) : psum a (i + 1) - psum a i = a i := by
  unfold psum
  rw [← Finset.sum_sub_distrib]
  -- the two sums differ in the term `i` only
  refine (Fintype.sum_eq_single i fun k hk => ?_).trans ?_
  · rw [if_congr (Nat.lt_succ_iff_lt_or_eq.trans (or_iff_left fun h => hk (Fin.ext h))) rfl rfl, sub_self]
  · rw [if_pos (Nat.lt_succ_self _), if_neg (lt_irrefl _), sub_zero]

/-- `psum f` and `F - F 0` start at `0` and have the same increments -/
theorem psum_telescope {f : Fin n → ℚ} (F : ℕ → ℚ) (hf : ∀ i : Fin n, f i = F (i + 1) - F i) (s : ℕ) (hs : s ≤ n) :
    psum f s = F s - F 0 := by
  induction s with
  | zero => rw [psum_zero, sub_self]
  | succ s ih =>
    have h := psum_succ_sub f ⟨s, hs⟩
    rw [hf, ih (Nat.le_of_succ_le hs)] at h
    exact (sub_eq_iff_eq_add.mp h).trans (sub_add_sub_cancel _ _ _)

/-! ### what a plan moves across a threshold -/

/-- `cut k i j = 1` iff exactly one of `i`, `j` is `≤ k` -/
theorem cut_mul (k i j : Fin n) (x : ℚ) :
    cut k i j * x = (if i ≤ k then x else 0) + (if j ≤ k then x else 0)
      - 2 * (if i ≤ k then if j ≤ k then x else 0 else 0) := by
  simp only [cut, ← not_le]
  by_cases h1 : i ≤ k <;> by_cases h2 : j ≤ k <;> simp only [h1, h2, if_true, if_false, not_true_eq_false,
    not_false_eq_true, and_self, and_true, and_false, or_self, or_false, false_or] <;> ring

theorem cdf_sum (f : Fin n → Fin n → ℚ) (k : Fin n) :
    cdf (fun i => ∑ j, f i j) k = ∑ i, ∑ j, if i ≤ k then f i j else 0 :=
  Finset.sum_congr rfl fun i _ => by rw [Finset.sum_ite_irrel, Finset.sum_const_zero]

theorem cut_mass {a b : Fin n → ℚ} {g : Fin n → Fin n → ℚ} (hg : Feasible a b g) (k : Fin n) :
    ∑ i, ∑ j, cut k i j * g i j
      = psum a (k + 1) + psum b (k + 1) - 2 * psum (fun i => psum (g i) (k + 1)) (k + 1) := by
  have h1 : cdf a k = ∑ i, ∑ j, if i ≤ k then g i j else 0 := by
    rw [← cdf_sum, funext hg.row]
  have h2 : cdf b k = ∑ i, ∑ j, if j ≤ k then g i j else 0 := by
    rw [Finset.sum_comm, ← cdf_sum (fun j i => g i j), funext hg.col]
  have h3 : cdf (fun i => cdf (g i) k) k = ∑ i, ∑ j, if i ≤ k then if j ≤ k then g i j else 0 else 0 :=
    cdf_sum (fun i j => if j ≤ k then g i j else 0) k
  -- all four double sums run over the same `i`, `j`: compare them entry by entry, by `cut_mul`
  simp only [← cdf_eq_psum]
  rw [h1, h2, h3, Finset.mul_sum, ← Finset.sum_add_distrib, ← Finset.sum_sub_distrib]
  refine Finset.sum_congr rfl fun i _ => ?_
  rw [Finset.mul_sum, ← Finset.sum_add_distrib, ← Finset.sum_sub_distrib]
  exact Finset.sum_congr rfl fun j _ => cut_mul k i j (g i j)

theorem add_sub_two_min (x y : ℚ) : x + y - 2 * min x y = |x - y| := by
  rw [← max_sub_min_eq_abs', ← min_add_max x y, two_mul, add_sub_add_left_eq_sub]

/-- the mass a plan puts on `[0, s) × [0, t)` is at most what its rows, and its columns, hold there -/
theorem block_le {a b : Fin n → ℚ} {g : Fin n → Fin n → ℚ} (hg : Feasible a b g) (s t : ℕ) :
    psum (fun i => psum (g i) t) s ≤ min (psum a s) (psum b t) := by
  refine le_min (psum_le_psum (fun i => (psum_le_total _ (hg.nonneg i) t).trans_eq (hg.row i)) s) ?_
  refine (psum_le_total _ (fun i => psum_nonneg _ (hg.nonneg i) t) s).trans_eq ?_
  unfold psum
  rw [Finset.sum_comm]
  simp only [Finset.sum_ite_irrel, Finset.sum_const_zero, hg.col]

/-- every plan pays at least `|F k - G k|` across threshold `k` -/
theorem cut_lower {a b : Fin n → ℚ} {g : Fin n → Fin n → ℚ} (hg : Feasible a b g) (k : Fin n) :
    |cdf a k - cdf b k| ≤ ∑ i, ∑ j, cut k i j * g i j := by
  rw [cdf_eq_psum, cdf_eq_psum, cut_mass hg k, ← add_sub_two_min]
  exact sub_le_sub_left (mul_le_mul_of_nonneg_left (block_le hg (k + 1) (k + 1)) zero_le_two) _

theorem w1_le_cost {a b : Fin n → ℚ} {g : Fin n → Fin n → ℚ} (hg : Feasible a b g) :
    w1 a b ≤ cost absCost g := by
  rw [cost_abs_eq_sum_cut]
  exact Finset.sum_le_sum fun k _ => cut_lower hg k

/-! ### the comonotone coupling -/

/-- the comonotone (north-west corner) coupling, as the mixed difference of `min (A s) (B t)` -/
def comono (a b : Fin n → ℚ) (i j : Fin n) : ℚ :=
  min (psum a (i + 1)) (psum b (j + 1)) - min (psum a i) (psum b (j + 1))
    - min (psum a (i + 1)) (psum b j) + min (psum a i) (psum b j)

theorem min_supermodular {x x' y y' : ℚ} (hx : x ≤ x') (hy : y ≤ y') :
    0 ≤ min x' y' - min x y' - min x' y + min x y := by
  -- either way two of the four minima agree and cancel; the other two are ordered by monotonicity
  rcases le_total x y with h | h
  · rw [min_eq_left h, min_eq_left (h.trans hy), sub_right_comm, sub_add_cancel]
    exact sub_nonneg.mpr (min_le_min_left x' hy)
  · rw [min_eq_right h, min_eq_right (h.trans hx), sub_add_cancel]
    exact sub_nonneg.mpr (min_le_min_right y' hx)

theorem comono_psum_row (a b : Fin n → ℚ) (ha : ∀ i, 0 ≤ a i) (i : Fin n) (t : ℕ) (ht : t ≤ n) :
    psum (comono a b i) t = min (psum a (i + 1)) (psum b t) - min (psum a i) (psum b t) := by
  rw [psum_telescope (fun t => min (psum a (i + 1)) (psum b t) - min (psum a i) (psum b t))
      (fun j => by simp only [comono]; ring) t ht,
    psum_zero, min_eq_right (psum_nonneg a ha _), min_eq_right (psum_nonneg a ha _)]
  ring

theorem comono_psum_both (a b : Fin n → ℚ) (ha : ∀ i, 0 ≤ a i) (hb : ∀ j, 0 ≤ b j) (s t : ℕ)
    (hs : s ≤ n) (ht : t ≤ n) :
    psum (fun i => psum (comono a b i) t) s = min (psum a s) (psum b t) := by
  rw [psum_telescope (fun s => min (psum a s) (psum b t)) (fun i => comono_psum_row a b ha i t ht) s hs,
    psum_zero, min_eq_left (psum_nonneg b hb _)]
  ring

theorem comono_symm (a b : Fin n → ℚ) (i j : Fin n) : comono a b i j = comono b a j i := by
  simp only [comono, min_comm (psum a _) (psum b _)]; ring

theorem comono_row (a b : Fin n → ℚ) (ha : ∀ i, 0 ≤ a i) (hab : ∑ i, a i = ∑ j, b j) (i : Fin n) :
    ∑ j, comono a b i j = a i := by
  rw [← psum_n (comono a b i), comono_psum_row a b ha i n le_rfl, psum_n, ← hab,
    min_eq_left (psum_le_total a ha _), min_eq_left (psum_le_total a ha _), psum_succ_sub]

theorem comono_feasible (a b : Fin n → ℚ) (ha : ∀ i, 0 ≤ a i) (hb : ∀ j, 0 ≤ b j)
    (hab : ∑ i, a i = ∑ j, b j) : Feasible a b (comono a b) :=
  ⟨fun _ _ => min_supermodular (psum_mono a ha (Nat.le_succ _)) (psum_mono b hb (Nat.le_succ _)),
   comono_row a b ha hab, fun j => by
    simp only [fun i => comono_symm a b i j]
    exact comono_row b a hb hab.symm j⟩

theorem cost_comono (a b : Fin n → ℚ) (ha : ∀ i, 0 ≤ a i) (hb : ∀ j, 0 ≤ b j)
    (hab : ∑ i, a i = ∑ j, b j) : cost absCost (comono a b) = w1 a b := by
  rw [cost_abs_eq_sum_cut]
  unfold w1
  apply Finset.sum_congr rfl; intro k _
  rw [cdf_eq_psum, cdf_eq_psum, cut_mass (comono_feasible a b ha hb hab) k,
    comono_psum_both a b ha hb _ _ (Nat.succ_le_of_lt k.isLt) (Nat.succ_le_of_lt k.isLt), add_sub_two_min]

end Pynn.Transport
