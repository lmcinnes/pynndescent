import PynnVerif.Proofs.Sparse
import PynnVerif.Proofs.GenBasics

/-! # The translated two-pointer kernels of `sparse.py` refine the hand-written model

Each kernel is run on the arrays `(indArr a, valArr a)` of model rows and returns the arrays of what
the model computes (`*_model`).  Every pair of parallel arrays with non-negative indices is of that
form (`exists_row`), which is how the statements about arbitrary arrays in `Props/C08.lean` follow.
A loop lemma speaks of the rows still ahead of the cursors (`At`), so its induction hypothesis is the
model's own recursive call; the loops with two cursors (`mul_loop`, `sum_main`, `dot_loop`,
`isect_loop`) go by `merge_loop`, with `a.length + b.length` as what the fuel has to exceed.

The file also holds the definitions (`toSVec`, `toNats`, `NonNeg`, `indArr`, `valArr`) that the statements
of `Props/C08.lean` about the translated kernels use. -/
namespace Pynn.GenMerge
open Pynn.Sparse Pynn.GenK

theorem rd_nat {β : Type} (a : Array β) (k : Nat) : rd a (k : Int) = a[k]? :=
  rd_natCast a k

/-! ### the abstraction: parallel arrays ↦ list of pairs -/

/-- the CSR row `(ind, data)` as the model sees it -/
def toSVec {α : Type} (ind : Array Int) (data : Array α) : SVec α :=
  (ind.toList.map Int.toNat).zip data.toList

/-- an index array as the model sees it -/
def toNats (ar : Array Int) : List Nat := ar.toList.map Int.toNat

/-- all stored indices are non-negative (they are coordinates) -/
def NonNeg (ind : Array Int) : Prop := ∀ k (h : k < ind.size), 0 ≤ ind[k]

theorem nonNeg_iff (ind : Array Int) : NonNeg ind ↔ ∀ j ∈ ind.toList, 0 ≤ j :=
  List.forall_mem_iff_forall_getElem.symm

instance (ind : Array Int) : Decidable (NonNeg ind) := decidable_of_iff _ (nonNeg_iff ind).symm

theorem toNats_ofNat (l : List Nat) : toNats (l.map Int.ofNat).toArray = l := by
  simp [toNats, Function.comp_def]

/-- an index array with non-negative entries is the array of the coordinates it stands for -/
theorem ofNat_toNats (ar : Array Int) (hn : NonNeg ar) : ((toNats ar).map Int.ofNat).toArray = ar := by
  apply Array.toList_inj.1
  rw [toNats, List.map_map]
  exact (List.map_congr_left fun j hj => Int.toNat_of_nonneg ((nonNeg_iff ar).1 hn j hj)).trans
    (List.map_id _)

section
variable {α : Type}

theorem toSVec_length (ind : Array Int) (data : Array α) (h : ind.size = data.size) :
    (toSVec ind data).length = ind.size := by
  simp [toSVec, h]

/-- the index array of a model row, as the kernel receives it (`int32[]`) -/
def indArr (a : SVec α) : Array Int := ((inds a).map Int.ofNat).toArray
/-- the data array of a model row -/
def valArr (a : SVec α) : Array α := (vals a).toArray

theorem indArr_size (a : SVec α) : (indArr a).size = a.length := by simp [indArr, inds]
theorem valArr_size (a : SVec α) : (valArr a).size = a.length := by simp [valArr, vals]
theorem indArr_valArr_size (a : SVec α) : (indArr a).size = (valArr a).size := by
  rw [indArr_size, valArr_size]

theorem nonNeg_indArr (a : SVec α) : NonNeg (indArr a) := by
  intro k h
  simp [indArr]

theorem toNats_indArr (a : SVec α) : toNats (indArr a) = inds a := toNats_ofNat (inds a)

/-- `toSVec` is a left inverse of `(indArr, valArr)`: every model row is the abstraction of a
pair of arrays -/
theorem toSVec_indArr_valArr (a : SVec α) : toSVec (indArr a) (valArr a) = a := by
  rw [toSVec, ← toNats, toNats_indArr]
  exact (List.zip_of_prod rfl rfl).symm

/-- and a right inverse on what the kernels accept: parallel arrays with non-negative indices are
the arrays of a model row (namely of `toSVec ind data`, by `toSVec_indArr_valArr`) -/
theorem exists_row (ind : Array Int) (data : Array α) (h : ind.size = data.size) (hn : NonNeg ind) :
    ∃ a : SVec α, indArr a = ind ∧ valArr a = data := by
  have hl : (ind.toList.map Int.toNat).length = data.toList.length := by simpa using h
  refine ⟨toSVec ind data, ?_, ?_⟩
  · rw [indArr, inds, toSVec, List.map_fst_zip (Nat.le_of_eq hl)]
    exact ofNat_toNats ind hn
  · rw [valArr, vals, toSVec, List.map_snd_zip (Nat.le_of_eq hl.symm)]

/-- what a kernel does on the arrays of all model rows, it does on all parallel arrays with
non-negative indices; `d` is what the fuel has to exceed `n1 + n2` by -/
theorem of_model {ρ : Type} {K : Array Int → Array α → Array Int → Array α → ρ} {M : SVec α → SVec α → ρ}
    {fuel d : Nat}
    (hK : ∀ a b : SVec α, a.length + b.length + d ≤ fuel → K (indArr a) (valArr a) (indArr b) (valArr b) = M a b)
    {ind1 ind2 : Array Int} {data1 data2 : Array α} (h1 : ind1.size = data1.size)
    (h2 : ind2.size = data2.size) (hn1 : NonNeg ind1) (hn2 : NonNeg ind2)
    (hf : ind1.size + ind2.size + d ≤ fuel) :
    K ind1 data1 ind2 data2 = M (toSVec ind1 data1) (toSVec ind2 data2) := by
  obtain ⟨a, rfl, rfl⟩ := exists_row ind1 data1 h1 hn1
  obtain ⟨b, rfl, rfl⟩ := exists_row ind2 data2 h2 hn2
  rw [indArr_size, indArr_size] at hf
  rw [toSVec_indArr_valArr, toSVec_indArr_valArr]
  exact hK a b hf

theorem indArr_nil : indArr ([] : SVec α) = #[] := rfl
theorem valArr_nil : valArr ([] : SVec α) = #[] := rfl

theorem append_indArr_cons (ri : Array Int) (j : Nat) (v : α) (r : SVec α) :
    ri ++ indArr ((j, v) :: r) = ri.push (j : Int) ++ indArr r := by
  apply Array.toList_inj.1; simp [indArr, inds]

theorem append_valArr_cons (rv : Array α) (j : Nat) (v : α) (r : SVec α) :
    rv ++ valArr ((j, v) :: r) = rv.push v ++ valArr r := by
  apply Array.toList_inj.1; simp [valArr, vals]

end

/-! ### loads at a cursor into the arrays of a row -/
section
variable {α : Type} {A a : SVec α} {l t : List Nat} {i : Int} {j : Nat} {v : α}

theorem _root_.Pynn.GenK.At.getIdx (h : At l i (j :: t)) : rd (l.map Int.ofNat).toArray i = some (j : Int) :=
  h.get Int.ofNat

theorem _root_.Pynn.GenK.At.getInd (h : At A i ((j, v) :: a)) : rd (indArr A) i = some (j : Int) := by
  rw [indArr, inds, List.map_map]
  exact h.get _

theorem _root_.Pynn.GenK.At.getVal (h : At A i ((j, v) :: a)) : rd (valArr A) i = some v :=
  h.get (·.2)

end

/-! ### the two-cursor loops: a pass goes on with less of the two rows ahead -/
section Fuel
variable {β γ : Type} {x : β} {a : List β} {y : γ} {b : List γ} {n : Nat}

/-- A claim `P fuel a b` about a loop with the rests `a`, `b` of two rows ahead of its cursors holds with more fuel than
`a.length + b.length` once one pass reduces it to the same claim with less ahead (the convention of `range_loop`). -/
theorem merge_loop {P : Nat → List β → List γ → Prop}
    (step : ∀ fuel a b, (∀ a' b', a'.length + b'.length < a.length + b.length → P fuel a' b') → P (fuel + 1) a b) :
    ∀ fuel a b, a.length + b.length < fuel → P fuel a b := by
  intro fuel
  induction fuel with
  | zero => intro a b hf; exact absurd hf (Nat.not_lt_zero _)
  | succ fuel ih => exact fun a b hf => step fuel a b fun a' b' h => ih a' b' (Nat.lt_of_lt_of_le h (Nat.le_of_lt_succ hf))

theorem less_left : a.length + n < (x :: a).length + n :=
  Nat.add_lt_add_right (Nat.lt_succ_self a.length) n

theorem less_right : n + b.length < n + (y :: b).length :=
  Nat.add_lt_add_left (Nat.lt_succ_self b.length) n

theorem less_both : a.length + b.length < (x :: a).length + (y :: b).length :=
  Nat.add_lt_add (Nat.lt_succ_self a.length) (Nat.lt_succ_self b.length)

end Fuel

/-! ### `sparse_mul` -/
section Mul
variable {α : Type} [Zero α] [DecidableEq α] [Mul α]

theorem mul_loop (A B : SVec α) :
    ∀ (fuel : Nat) (a b : SVec α), a.length + b.length < fuel → ∀ (i1 i2 : Int) (ri : Array Int) (rv : Array α),
      At A i1 a → At B i2 b →
      ∃ i1' i2', sparse_mul.loop0 (indArr A) (valArr A) (indArr B) (valArr B) fuel i1 i2 ri rv
        = some (.next (i1', i2', ri ++ indArr (sparseMul a b), rv ++ valArr (sparseMul a b))) := by
  refine merge_loop fun fuel a b ih i1 i2 ri rv h1 h2 => ?_
  rw [sparse_mul.loop0, indArr_size, indArr_size]
  rcases a with _ | ⟨⟨j1, v1⟩, a⟩
  · rw [if_neg h1.not_lt, sparseMul, indArr_nil, valArr_nil, Array.append_empty, Array.append_empty]
    exact ⟨i1, i2, rfl⟩
  rcases b with _ | ⟨⟨j2, v2⟩, b⟩
  · rw [if_pos h1.lt, if_neg h2.not_lt, sparseMul, indArr_nil, valArr_nil, Array.append_empty,
      Array.append_empty]
    exact ⟨i1, i2, rfl⟩
  simp only [h1.lt, h2.lt, if_true, h1.getInd, h2.getInd, h1.getVal, h2.getVal,
    Option.bind_eq_bind, Option.bind_some, Int.natCast_inj, Int.ofNat_lt]
  rw [sparseMul]
  by_cases e : j1 = j2
  · rw [if_pos e, if_pos e]
    by_cases z : v1 * v2 = 0
    · simpa only [keep, z, ne_eq, not_true, if_false, if_true] using
        ih a b less_both _ _ ri rv h1.next h2.next
    · simpa only [keep, z, ne_eq, not_false_eq_true, if_false, if_true, append_indArr_cons,
        append_valArr_cons] using
        ih a b less_both _ _ (ri.push j1) (rv.push (v1 * v2)) h1.next h2.next
  rw [if_neg e, if_neg e]
  by_cases l : j1 < j2
  · rw [if_pos l, if_pos l]
    exact ih a _ less_left _ _ ri rv h1.next h2
  · rw [if_neg l, if_neg l]
    exact ih _ b less_right _ _ ri rv h1 h2.next

theorem sparse_mul_model (a b : SVec α) (fuel : Nat) (hf : a.length + b.length + 1 ≤ fuel) :
    sparse_mul fuel (indArr a) (valArr a) (indArr b) (valArr b)
      = some (indArr (sparseMul a b), valArr (sparseMul a b)) := by
  obtain ⟨i1', i2', hL⟩ := mul_loop a b fuel a b hf 0 0 #[] #[] (At.zero a) (At.zero b)
  simp only [sparse_mul, hL, Option.bind_eq_bind, Option.bind_some, Option.pure_def, Array.empty_append]

end Mul

/-! ### `sparse_sum`: `np.zeros` buffers with an `nnz` cursor -/
section Sum
variable {α : Type} [Zero α] [DecidableEq α] [Add α]

/-- the output buffers hold the row `out` in their first `nnz` slots and have room for `s` more entries -/
structure Buf (ri : Array Int) (rv : Array α) (nnz : Int) (out : SVec α) (s : Nat) : Prop where
  cur : nnz = out.length
  size : ri.size = rv.size
  room : out.length + s ≤ ri.size
  pi : ri.toList.take out.length = (indArr out).toList
  pv : rv.toList.take out.length = (valArr out).toList

omit [DecidableEq α] [Add α] in
theorem Buf.zeros (N : Nat) : Buf (zeros (N : Int) : Array Int) (zeros (N : Int) : Array α) 0 [] N :=
  ⟨rfl, by simp [GenK.zeros], by simp [GenK.zeros], rfl, rfl⟩

variable {ri : Array Int} {rv : Array α} {nnz : Int} {out : SVec α} {s : Nat}

omit [Add α] in
/-- the guarded store `if val != 0: result_ind[nnz] = j; result_data[nnz] = val; nnz += 1` is the
model's `keep`; it is in bounds while there is room, and what is left of the room covers the `s' < s`
entries that may come after this pass.  `K` is whatever the kernel does next with `nnz` and the buffers;
it takes them in the order the loops do, which is how `rw` finds it -/
theorem Buf.keep (hb : Buf ri rv nnz out s) {s' : Nat} (hs : s' < s) (j : Nat) (v : α) :
    ∃ ri' rv' nnz', Buf ri' rv' nnz' (out ++ Sparse.keep j v []) s' ∧
      ∀ {ρ : Type} (K : Int → Array Int → Array α → Option ρ),
        (if v ≠ 0 then (wr ri nnz (j : Int)).bind fun ri => (wr rv nnz v).bind fun rv => K (nnz + 1) ri rv
          else K nnz ri rv) = K nnz' ri' rv' := by
  rw [Sparse.keep]
  by_cases z : v = 0
  · rw [if_pos z, List.append_nil]
    exact ⟨ri, rv, nnz, { hb with room := Nat.le_trans (Nat.add_le_add_left (Nat.le_of_lt hs) _) hb.room },
      fun K => if_neg (not_not_intro z)⟩
  · have hi : out.length < ri.size :=
      Nat.lt_of_lt_of_le (Nat.lt_add_of_pos_right (Nat.zero_lt_of_lt hs)) hb.room
    have hv : out.length < rv.size := hb.size ▸ hi
    have hl : (out ++ [(j, v)]).length = out.length + 1 := List.length_append
    rw [if_neg z]
    refine ⟨ri.setIfInBounds out.length j, rv.setIfInBounds out.length v, nnz + 1, ⟨?_, ?_, ?_, ?_, ?_⟩, ?_⟩
    · rw [hb.cur, hl, Int.natCast_succ]
    · rw [Array.size_setIfInBounds, Array.size_setIfInBounds, hb.size]
    · rw [hl, Array.size_setIfInBounds, Nat.add_right_comm]
      exact Nat.le_trans (Nat.succ_le_of_lt (Nat.add_lt_add_left hs _)) hb.room
    · rw [hl, Array.toList_setIfInBounds, take_set_succ hi, hb.pi]
      simp only [indArr, inds, List.map_append, List.map_cons, List.map_nil]
      rfl
    · rw [hl, Array.toList_setIfInBounds, take_set_succ hv, hb.pv]
      simp only [valArr, vals, List.map_append, List.map_cons, List.map_nil]
    · intro ρ K
      rw [if_pos z, hb.cur, wr_lt ri _ _ hi, Option.bind_some, wr_lt rv _ _ hv, Option.bind_some]

omit [Zero α] [DecidableEq α] [Add α] in
/-- the final slices `result_ind[:nnz]`, `result_data[:nnz]` -/
theorem Buf.take (hb : Buf ri rv nnz out s) :
    take ri nnz = some (indArr out) ∧ take rv nnz = some (valArr out) := by
  have hi : out.length ≤ ri.size := Nat.le_trans (Nat.le_add_right _ _) hb.room
  have hv : out.length ≤ rv.size := hb.size ▸ hi
  simp only [GenK.take, hb.cur, Int.natCast_nonneg, Int.toNat_natCast, hi, hv, and_self, if_true,
    Option.some.injEq]
  constructor
  · apply Array.toList_inj.1; simpa using hb.pi
  · apply Array.toList_inj.1; simpa using hb.pv

omit [Add α] in
set_option smartUnfolding false in
/-- the two tail loops are the same term (see `SameLoop` in `Proofs/GenMetrics.lean` for why `rfl`
needs smart unfolding off); checked against the regenerated `Gen/Kernels.lean` on every run -/
theorem loop2_eq_loop1 : @sparse_sum.loop2 α _ _ = @sparse_sum.loop1 α _ _ := rfl

omit [Add α] in
/-- a tail loop leaves `out ++ tailLoop a` in the buffers, and the room for the `s` entries that may
come after it -/
theorem sum_tail (A : SVec α) (s : Nat) :
    ∀ (fuel : Nat) (i : Int) (a : SVec α), At A i a → a.length < fuel →
      ∀ (nnz : Int) (ri : Array Int) (rv : Array α) (out : SVec α), Buf ri rv nnz out (a.length + s) →
      ∃ st, sparse_sum.loop1 (indArr A) (valArr A) fuel i nnz ri rv = some (.next st) ∧
        Buf st.2.2.1 st.2.2.2 st.2.1 (out ++ tailLoop a) s := by
  refine At.loop (m := 0) ?_ ?_
  · intro fuel i ⟨j, v⟩ a h _ ih nnz ri rv out hb
    obtain ⟨ri', rv', nnz', hb', e⟩ := hb.keep less_left j v
    rw [sparse_sum.loop1, indArr_size]
    simp only [h.lt, if_true, h.getInd, h.getVal, Option.bind_eq_bind, Option.bind_some]
    rw [e, tailLoop, keep_eq_append, ← List.append_assoc]
    exact ih _ _ _ _ hb'
  · intro fuel i h nnz ri rv out hb
    rw [sparse_sum.loop1, indArr_size, if_neg h.not_lt, tailLoop, List.append_nil]
    rw [List.length_nil, Nat.zero_add] at hb
    exact ⟨_, rfl, hb⟩

/-- the main loop stops with one row exhausted; what it has not consumed is left to the tail loops.
Room for what is still ahead in both rows (`nnz ≤ i1 + i2` for buffers of size `n1 + n2`) keeps every
store in bounds -/
theorem sum_main (A B : SVec α) :
    ∀ (fuel : Nat) (a b : SVec α), a.length + b.length < fuel →
      ∀ (i1 i2 nnz : Int) (ri : Array Int) (rv : Array α) (out : SVec α),
      At A i1 a → At B i2 b → Buf ri rv nnz out (a.length + b.length) →
      ∃ s a' b' out', sparse_sum.loop0 (indArr A) (valArr A) (indArr B) (valArr B) fuel i1 i2 nnz ri rv
          = some (.next s) ∧
        At A s.1 a' ∧ At B s.2.1 b' ∧ Buf s.2.2.2.1 s.2.2.2.2 s.2.2.1 out' (a'.length + b'.length) ∧
        out ++ sparseSum a b = out' ++ tailLoop a' ++ tailLoop b' := by
  refine merge_loop fun fuel a b ih i1 i2 nnz ri rv out h1 h2 hb => ?_
  rw [sparse_sum.loop0, indArr_size, indArr_size]
  rcases a with _ | ⟨⟨j1, v1⟩, a⟩
  · rw [if_neg h1.not_lt, sparseSum]
    exact ⟨_, [], b, out, rfl, h1, h2, hb, by rw [tailLoop, List.append_nil]⟩
  rcases b with _ | ⟨⟨j2, v2⟩, b⟩
  · rw [if_pos h1.lt, if_neg h2.not_lt, sparseSum]
    exact ⟨_, _, [], out, rfl, h1, h2, hb, by rw [tailLoop, List.append_nil]⟩
  simp only [h1.lt, h2.lt, if_true, h1.getInd, h2.getInd, h1.getVal, h2.getVal,
    Option.bind_eq_bind, Option.bind_some, Int.natCast_inj, Int.ofNat_lt]
  rw [sparseSum]
  by_cases c : j1 = j2
  · obtain ⟨ri', rv', nnz', hb', e⟩ := hb.keep less_both j1 (v1 + v2)
    rw [if_pos c, if_pos c, e, keep_eq_append, ← List.append_assoc]
    exact ih a b less_both _ _ _ _ _ _ h1.next h2.next hb'
  rw [if_neg c, if_neg c]
  by_cases l : j1 < j2
  · obtain ⟨ri', rv', nnz', hb', e⟩ := hb.keep less_left j1 v1
    rw [if_pos l, if_pos l, e, keep_eq_append, ← List.append_assoc]
    exact ih a _ less_left _ _ _ _ _ _ h1.next h2 hb'
  · obtain ⟨ri', rv', nnz', hb', e⟩ := hb.keep less_right j2 v2
    rw [if_neg l, if_neg l, e, keep_eq_append, ← List.append_assoc]
    exact ih _ b less_right _ _ _ _ _ _ h1 h2.next hb'

theorem sparse_sum_model (a b : SVec α) (fuel : Nat) (hf : a.length + b.length + 1 ≤ fuel) :
    sparse_sum fuel (indArr a) (valArr a) (indArr b) (valArr b)
      = some (indArr (sparseSum a b), valArr (sparseSum a b)) := by
  obtain ⟨⟨i1, i2, nnz, ri, rv⟩, a', b', out, hL0, g1, g2, hb, hS⟩ :=
    sum_main a b fuel a b hf 0 0 0 _ _ [] (At.zero a) (At.zero b) (Buf.zeros _)
  obtain ⟨⟨i1', nnz1, ri1, rv1⟩, hL1, hb1⟩ := sum_tail a b'.length fuel i1 a' g1
    (Nat.lt_of_le_of_lt (Nat.le_trans g1.length_le (Nat.le_add_right _ _)) hf) nnz ri rv out hb
  obtain ⟨⟨i2', nnz2, ri2, rv2⟩, hL2, hb2⟩ := sum_tail b 0 fuel i2 b' g2
    (Nat.lt_of_le_of_lt (Nat.le_trans g2.length_le (Nat.le_add_left _ _)) hf) nnz1 ri1 rv1 _ hb1
  rw [List.nil_append] at hS
  rw [← hS] at hb2
  simp only [sparse_sum, indArr_size, ← Int.natCast_add, hL0, hL1, loop2_eq_loop1, hL2, hb2.take.1,
    hb2.take.2, Option.bind_eq_bind, Option.bind_some, Option.pure_def]

end Sum

/-! ### `sparse_dot_product` -/
section Dot
variable {α : Type} [Zero α] [DecidableEq α] [Add α] [Mul α]

omit [Zero α] [DecidableEq α] in
/-- the `while True` loop, entered with both cursors in range and `j1`, `j2` loaded; it always
leaves by `return` -/
theorem dot_loop (A B : SVec α) :
    ∀ (fuel : Nat) (a b : SVec α), a.length + b.length < fuel → ∀ (i1 i2 : Int) (j1 j2 : Nat) (v1 v2 r : α),
      At A i1 ((j1, v1) :: a) → At B i2 ((j2, v2) :: b) →
      sparse_dot_product.loop0 (indArr A) (valArr A) (indArr B) (valArr B) (A.length : Int)
          (B.length : Int) fuel r i1 i2 (j1 : Int) (j2 : Int)
        = some (.ret (dotLoop r ((j1, v1) :: a) ((j2, v2) :: b))) := by
  refine merge_loop fun fuel a b ih i1 i2 j1 j2 v1 v2 r h1 h2 => ?_
  rw [sparse_dot_product.loop0, dotLoop]
  simp only [h1.getVal, h2.getVal, Option.bind_eq_bind, Option.bind_some, Int.natCast_inj, Int.ofNat_lt,
    ge_iff_le, ← Int.not_lt]
  by_cases e : j1 = j2
  · rw [if_pos e, if_pos e]
    rcases a with _ | ⟨⟨j1', v1'⟩, a⟩
    · simp only [h1.next.not_lt, not_false_eq_true, if_true, List.isEmpty_nil, Option.pure_def]
    rcases b with _ | ⟨⟨j2', v2'⟩, b⟩
    · simp only [h1.next.lt, h2.next.not_lt, h1.next.getInd, not_true, not_false_eq_true, if_false, if_true,
        Option.bind_some, List.isEmpty_nil, List.isEmpty_cons, Bool.false_eq_true, Option.pure_def]
    simp only [h1.next.lt, h2.next.lt, h1.next.getInd, h2.next.getInd, not_true, if_false,
      Option.bind_some, List.isEmpty_cons, Bool.false_eq_true]
    exact ih a b less_both _ _ _ _ _ _ _ h1.next h2.next
  rw [if_neg e, if_neg e]
  by_cases l : j1 < j2
  · rw [if_pos l, if_pos l]
    rcases a with _ | ⟨⟨j1', v1'⟩, a⟩
    · simp only [h1.next.not_lt, not_false_eq_true, if_true, List.isEmpty_nil, Option.pure_def]
    simp only [h1.next.lt, h1.next.getInd, not_true, if_false, Option.bind_some, List.isEmpty_cons,
      Bool.false_eq_true]
    exact ih a _ less_left _ _ _ _ _ _ _ h1.next h2
  · rw [if_neg l, if_neg l]
    rcases b with _ | ⟨⟨j2', v2'⟩, b⟩
    · simp only [h2.next.not_lt, not_false_eq_true, if_true, List.isEmpty_nil, Option.pure_def]
    simp only [h2.next.lt, h2.next.getInd, not_true, if_false, Option.bind_some, List.isEmpty_cons,
      Bool.false_eq_true]
    exact ih _ b less_right _ _ _ _ _ _ _ h1 h2.next

omit [DecidableEq α] in
/-- `ind1[0]`, `ind2[0]` are loaded before any length test -/
theorem sparse_dot_product_empty_oob (ind1 ind2 : Array Int) (data1 data2 : Array α) (fuel : Nat)
    (h : ind1.size = 0 ∨ ind2.size = 0) :
    sparse_dot_product fuel ind1 data1 ind2 data2 = none := by
  unfold sparse_dot_product
  rcases h with h | h
  · simp only [rd_empty ind1 h, Option.bind_eq_bind, Option.bind_none]
  · simp only [rd_empty ind2 h, Option.bind_eq_bind, Option.bind_none, Option.bind_fun_none]

omit [DecidableEq α] in
/-- on model rows the statement needs no side condition: at an empty operand the kernel's out-of-bounds
read and the model's `none` agree -/
theorem sparse_dot_product_model (a b : SVec α) (fuel : Nat) (hf : a.length + b.length ≤ fuel) :
    sparse_dot_product fuel (indArr a) (valArr a) (indArr b) (valArr b) = sparseDotProduct a b := by
  rcases a with _ | ⟨⟨j1, v1⟩, a⟩
  · exact sparse_dot_product_empty_oob _ _ _ _ fuel (Or.inl rfl)
  rcases b with _ | ⟨⟨j2, v2⟩, b⟩
  · exact sparse_dot_product_empty_oob _ _ _ _ fuel (Or.inr rfl)
  have h1 := At.zero ((j1, v1) :: a)
  have h2 := At.zero ((j2, v2) :: b)
  simp only [sparse_dot_product, h1.getInd, h2.getInd, Option.bind_eq_bind, Option.bind_some, indArr_size,
    dot_loop _ _ fuel a b (Nat.lt_of_lt_of_le less_both hf) 0 0 j1 j2 v1 v2 0 h1 h2, Option.pure_def]
  rfl

end Dot

/-! ### `fast_intersection_size` -/
section Isect

/-- the `while True` loop, entered with both cursors in range and `j1`, `j2` loaded; it always
terminates within the fuel and in bounds, `result` being the model's count -/
theorem isect_loop (A B : List Nat) :
    ∀ (fuel : Nat) (a b : List Nat), a.length + b.length < fuel → ∀ (i1 i2 : Int) (j1 j2 r : Nat),
      At A i1 (j1 :: a) → At B i2 (j2 :: b) →
      ∃ i1' i2' j1' j2', fast_intersection_size.loop0 (A.map Int.ofNat).toArray (B.map Int.ofNat).toArray
          ((A.length : Int) - 1) ((B.length : Int) - 1) fuel (r : Int) i1 i2 (j1 : Int) (j2 : Int)
        = some (.next (((isectLoop r (j1 :: a) (j2 :: b) : Nat) : Int), i1', i2', j1', j2')) := by
  refine merge_loop fun fuel a b ih i1 i2 j1 j2 r h1 h2 => ?_
  rw [fast_intersection_size.loop0, isectLoop]
  simp only [Option.bind_eq_bind, Int.natCast_inj, Int.ofNat_lt, ← Int.natCast_succ]
  by_cases e : j1 = j2
  · rw [if_pos e, if_pos e]
    rcases a with _ | ⟨j1', a⟩
    · exact ⟨_, _, _, _, by rw [if_neg h1.not_lt_pred]; rfl⟩
    rcases b with _ | ⟨j2', b⟩
    · exact ⟨_, _, _, _, by
        simp only [h1.lt_pred, if_true, h1.next.getIdx, Option.bind_some, if_neg h2.not_lt_pred]; rfl⟩
    simp only [h1.lt_pred, h2.lt_pred, if_true, h1.next.getIdx, h2.next.getIdx, Option.bind_some,
      List.isEmpty_cons, Bool.false_eq_true, if_false]
    exact ih a b less_both _ _ _ _ _ h1.next h2.next
  rw [if_neg e, if_neg e]
  by_cases l : j1 < j2
  · have g : ¬ j2 < j1 := Nat.lt_asymm l
    rcases a with _ | ⟨j1', a⟩
    · exact ⟨_, _, _, _, by
        simp only [l, g, if_true, if_false, if_neg h1.not_lt_pred, List.isEmpty_nil, not_true, and_false,
          false_and]; rfl⟩
    simp only [l, if_true, h1.lt_pred, h1.next.getIdx, Option.bind_some, List.isEmpty_cons,
      Bool.false_eq_true, not_false_eq_true, and_self]
    exact ih a _ less_left _ _ _ _ _ h1.next h2
  · rcases b with _ | ⟨j2', b⟩
    · exact ⟨_, _, _, _, by
        simp only [l, if_false, if_neg h2.not_lt_pred, List.isEmpty_nil, not_true, and_false, false_and,
          ite_self]; rfl⟩
    simp only [l, if_false, h2.lt_pred, if_true, h2.next.getIdx, Option.bind_some, List.isEmpty_cons,
      Bool.false_eq_true, not_false_eq_true, and_true, false_and]
    by_cases g : j2 < j1
    · rw [if_pos g, if_pos g]
      exact ih _ b less_right _ _ _ _ _ h1 h2.next
    · rw [if_neg g, if_neg g]
      exact ⟨_, _, _, _, rfl⟩

theorem fast_intersection_size_model (a b : List Nat) (fuel : Nat) (hf : a.length + b.length ≤ fuel) :
    fast_intersection_size fuel (a.map Int.ofNat).toArray (b.map Int.ofNat).toArray
      = some ((intersectionSize a b : Nat) : Int) := by
  unfold fast_intersection_size intersectionSize
  simp only [List.size_toArray, List.length_map]
  rcases a with _ | ⟨j1, a⟩
  · rfl
  rcases b with _ | ⟨j2, b⟩
  · rfl
  have h1 := At.zero (j1 :: a)
  have h2 := At.zero (j2 :: b)
  obtain ⟨i1', i2', j1', j2', hL⟩ :=
    isect_loop _ _ fuel a b (Nat.lt_of_lt_of_le less_both hf) 0 0 j1 j2 0 h1 h2
  simp only [List.length_cons, Int.natCast_succ, Int.natCast_zero] at hL ⊢
  simp only [h1.getIdx, h2.getIdx, hL, Option.bind_eq_bind, Option.bind_some, Option.pure_def]
  rfl

end Isect

end Pynn.GenMerge
