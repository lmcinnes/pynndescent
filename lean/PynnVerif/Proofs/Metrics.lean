import PynnVerif.Model.Metrics
import PynnVerif.Proofs.RealArithAttr
import PynnVerif.Proofs.Lists
import Mathlib.Analysis.SpecialFunctions.Log.Base
import Mathlib.Analysis.SpecialFunctions.Trigonometric.Bounds

/-!
# The dense kernels over `ℝ` (helpers for C07 and C09), and the definitions their statements use

* the `ℝ` instance of `Metrics.Arith` (`Real.sqrt`, `Real.logb 2`, `Real.rpow`, `Real.arccos`, …);
* the simp set `real_arith`, which rewrites the operations of the generic model into the standard `ℝ`
  operations.  The operations that come through notation classes (`+ − × ÷`, unary `−`, `<`, `≤`, `0`,
  `1`) ARE Mathlib's once the instance is unfolded, so `rw`, `ring` and Mathlib lemmas apply to them as
  they stand.  The named fields (`Arith.abs`, `sqrt`, `pow`, `max`, `min`, `log2`, `ofNat`, …) and the
  Boolean tests (`==`, `&&`) are not recognised until `abs_real`, … have been rewritten: `rw [abs_zero]`
  fails on `Arith.abs 0`;
* `foldl`-loops as `List.sum`s, symmetry / identical-input / sign lemmas of the accumulators;
* the scalar facts about `d = −log₂ s` and the corrections (C09);
* definitions that statements of `Props/C07.lean` and `Props/C09.lean` mention: `f32maxNat`,
  `surrogateOf`, `cosSim` (and `hellSim`, its twin for hellinger).

Symmetry / identical-input facts of a kernel stand here (`cosine_comm`, `minkowski_self`, …) when another
`Proofs` file or a second Props file needs them, and `Props/C07.lean` then cites them; the others are
proved where they are stated, in `Props/C07.lean`.

A pair `x y` is *live* for a kernel when it reaches the last branch, the one that divides (for the
angular surrogates this is `⟨x,y⟩ > 0`); a surrogate is *saturated* where it returns `FLOAT32_MAX`.

Over `ℝ` the partial operations are totalised by Mathlib (`x / 0 = 0`, `√x = 0` for `x < 0`,
`logb 2 x = logb 2 |x|`, `logb 2 0 = 0`, `0 ^ p = 0`, `arccos` clamped outside `[-1, 1]`).  The `…_spec` and
`…_defined` theorems of the Props files do not rely on these conventions: each states the guard under
which the operation is used inside its domain.  The unconditional `…_self` and `…_symm` theorems do:
identical inputs with a zero variance, zero mass or a zero coordinate go through `0 / 0 = 0`,
`log 0 = 0`, `0 ^ p = 0`, where the code would raise or return NaN.
-/
namespace Pynn.Metrics

/-- `FLOAT32_MAX = (2²⁴ − 1)·2¹⁰⁴` -/
def f32maxNat : Nat := 340282346638528859811704183484516925440

example : f32maxNat = (2 ^ 24 - 1) * 2 ^ 104 := by decide +kernel

noncomputable instance instArithReal : Arith ℝ where
  beq := fun a b => decide (a = b)
  decLt := fun _ _ => Classical.propDecidable _
  decLe := fun _ _ => Classical.propDecidable _
  abs := fun a => |a|
  max := fun a b => Max.max a b
  min := fun a b => Min.min a b
  ofNat := fun n => (n : ℝ)
  sqrt := Real.sqrt
  log2 := Real.logb 2
  log := Real.log
  pow := fun a b => a ^ b
  arccos := Real.arccos
  pi := Real.pi
  f32max := (f32maxNat : ℝ)

/-! ### the operations at `ℝ`

The first nine lemmas only record that the notation operations are Mathlib's (no proof needs them);
the named fields and the two Boolean tests after them make up `real_arith`. -/
section Norm
variable (a b : ℝ)
theorem zero_real : @OfNat.ofNat ℝ 0 (@Zero.toOfNat0 ℝ (@Arith.toZero ℝ instArithReal)) = 0 := rfl
theorem one_real : @OfNat.ofNat ℝ 1 (@One.toOfNat1 ℝ (@Arith.toOne ℝ instArithReal)) = 1 := rfl
theorem add_real : @HAdd.hAdd ℝ ℝ ℝ (@instHAdd ℝ (@Arith.toAdd ℝ instArithReal)) a b = a + b := rfl
theorem sub_real : @HSub.hSub ℝ ℝ ℝ (@instHSub ℝ (@Arith.toSub ℝ instArithReal)) a b = a - b := rfl
theorem mul_real : @HMul.hMul ℝ ℝ ℝ (@instHMul ℝ (@Arith.toMul ℝ instArithReal)) a b = a * b := rfl
theorem div_real : @HDiv.hDiv ℝ ℝ ℝ (@instHDiv ℝ (@Arith.toDiv ℝ instArithReal)) a b = a / b := rfl
theorem neg_real : @Neg.neg ℝ (@Arith.toNeg ℝ instArithReal) a = -a := rfl
theorem lt_real : @LT.lt ℝ (@Arith.toLT ℝ instArithReal) a b = (a < b) := rfl
theorem le_real : @LE.le ℝ (@Arith.toLE ℝ instArithReal) a b = (a ≤ b) := rfl
theorem beq_real : ((a == b) = true) = (a = b) := decide_eq_true_eq
theorem bne_real : ((!(a == b)) = true) = (a ≠ b) := by
  show ((!decide (a = b)) = true) = (a ≠ b)
  rw [Bool.not_eq_eq_eq_not, Bool.not_true, decide_eq_false_iff_not]
theorem abs_real : Arith.abs a = |a| := rfl
theorem max_real : Arith.max a b = max a b := rfl
theorem min_real : Arith.min a b = min a b := rfl
theorem ofNat_real (n : Nat) : (Arith.ofNat n : ℝ) = (n : ℝ) := rfl
theorem sqrt_real : Arith.sqrt a = Real.sqrt a := rfl
theorem log2_real : Arith.log2 a = Real.logb 2 a := rfl
theorem log_real : Arith.log a = Real.log a := rfl
theorem pow_real : Arith.pow a b = a ^ b := rfl
theorem arccos_real : Arith.arccos a = Real.arccos a := rfl
theorem pi_real : (Arith.pi : ℝ) = Real.pi := rfl
theorem f32max_real : (Arith.f32max : ℝ) = (f32maxNat : ℝ) := rfl
end Norm

attribute [real_arith] beq_real bne_real abs_real max_real min_real ofNat_real sqrt_real log2_real log_real pow_real
  arccos_real pi_real f32max_real Bool.and_eq_true Bool.or_eq_true decide_eq_true_eq Nat.cast_ofNat

/-! ### `sumBy` and `sum1` as `List.sum`s: symmetry, identical inputs, sign, congruence -/

theorem sumBy_eq_zip (f : ℝ → ℝ → ℝ) (x y : List ℝ) :
    sumBy f x y = ((x.zip y).map fun p => f p.1 p.2).sum := by
  unfold sumBy
  rw [foldl_add_eq (fun p : ℝ × ℝ => f p.1 p.2)]
  exact zero_add _

theorem sumBy_real (f : ℝ → ℝ → ℝ) (x y : List ℝ) : sumBy f x y = (List.zipWith f x y).sum :=
  (sumBy_eq_zip f x y).trans (congrArg List.sum List.map_uncurry_zip_eq_zipWith)

theorem sum1_real (f : ℝ → ℝ) (x : List ℝ) : sum1 f x = (x.map f).sum := by
  unfold sum1
  rw [foldl_add_eq f]
  exact zero_add _

theorem sumBy_comm (f : ℝ → ℝ → ℝ) (hf : ∀ a b, f a b = f b a) (x y : List ℝ) :
    sumBy f x y = sumBy f y x := by
  rw [sumBy_real, sumBy_real, List.zipWith_comm_of_comm hf]

theorem sumBy_self (f : ℝ → ℝ → ℝ) (x : List ℝ) : sumBy f x x = sum1 (fun a => f a a) x := by
  rw [sumBy_real, sum1_real, List.zipWith_self]

theorem sumBy_map (f : ℝ → ℝ → ℝ) (g h : ℝ → ℝ) (x y : List ℝ) :
    sumBy f (x.map g) (y.map h) = sumBy (fun a b => f (g a) (h b)) x y := by
  rw [sumBy_real, sumBy_real, List.zipWith_map]

theorem sum1_map (f g : ℝ → ℝ) (x : List ℝ) : sum1 f (x.map g) = sum1 (fun a => f (g a)) x := by
  rw [sum1_real, sum1_real, List.map_map]
  rfl

theorem sumBy_nonneg (f : ℝ → ℝ → ℝ) (x y : List ℝ) (hf : ∀ p ∈ x.zip y, 0 ≤ f p.1 p.2) :
    0 ≤ sumBy f x y := by
  rw [sumBy_eq_zip]
  exact List.sum_nonneg (List.forall_mem_map.2 hf)

theorem sum1_nonneg (f : ℝ → ℝ) (x : List ℝ) (hf : ∀ a ∈ x, 0 ≤ f a) : 0 ≤ sum1 f x := by
  rw [sum1_real]
  exact List.sum_nonneg (List.forall_mem_map.2 hf)

theorem sum1_eq_zero (f : ℝ → ℝ) (x : List ℝ) (hf : ∀ a ∈ x, f a = 0) : sum1 f x = 0 := by
  rw [sum1_real]
  exact List.sum_eq_zero (List.forall_mem_map.2 hf)

theorem sumBy_congr {f g : ℝ → ℝ → ℝ} {x y : List ℝ} (h : ∀ p ∈ x.zip y, f p.1 p.2 = g p.1 p.2) :
    sumBy f x y = sumBy g x y := by
  rw [sumBy_eq_zip, sumBy_eq_zip, List.map_congr_left h]

theorem sum1_congr {f g : ℝ → ℝ} {x : List ℝ} (h : ∀ a ∈ x, f a = g a) : sum1 f x = sum1 g x := by
  rw [sum1_real, sum1_real, List.map_congr_left h]

theorem sumBy_self_zero (f : ℝ → ℝ → ℝ) (hf : ∀ a, f a a = 0) (x : List ℝ) : sumBy f x x = 0 := by
  rw [sumBy_self]
  exact sum1_eq_zero _ x fun a _ => hf a

theorem sum1_eq_zip_fst (f : ℝ → ℝ) {x y : List ℝ} (h : x.length = y.length) :
    sum1 f x = ((x.zip y).map fun p => f p.1).sum := by
  rw [sum1_real]
  conv_lhs => rw [← List.map_fst_zip (l₂ := y) h.le, List.map_map]
  rfl

theorem sum1_eq_zip_snd (f : ℝ → ℝ) {x y : List ℝ} (h : x.length = y.length) :
    sum1 f y = ((x.zip y).map fun p => f p.2).sum := by
  rw [sum1_real]
  conv_lhs => rw [← List.map_snd_zip (l₁ := x) h.ge, List.map_map]
  rfl

/-! ### scalars: the corrections, `d = −log₂ s`, `2^(−FLOAT32_MAX)`, the analytic bounds of C09 -/

theorem correctAlternativeCosine_real (d : ℝ) : correctAlternativeCosine d = 1 - (2 : ℝ) ^ (-d) := rfl

theorem correctAlternativeJaccard_real (d : ℝ) : correctAlternativeJaccard d = 1 - (2 : ℝ) ^ (-d) := rfl

theorem correctAlternativeHellinger_real (d : ℝ) :
    correctAlternativeHellinger d = Real.sqrt (max (1 - (2 : ℝ) ^ (-d)) 0) := rfl

theorem trueAngularFromAltCosine_real (d : ℝ) :
    trueAngularFromAltCosine d = 1 - Real.arccos (min ((2 : ℝ) ^ (-d)) 1) / Real.pi := rfl

/-- `isclose(abs(d), 0.0, atol=1e-7)` is `|d| ≤ 10⁻⁷` -/
theorem iscloseZero_real (d : ℝ) : iscloseZero d = true ↔ |d| ≤ 1 / 10000000 := by
  unfold iscloseZero atol7
  simp only [real_arith, sub_zero, abs_abs, abs_zero, mul_zero, add_zero]

/-- the dead band of the `sparse.py` corrections, `isclose(abs(d), 0.0, atol=c) or d < 0.0`, is `d ≤ c` -/
theorem dead_band_iff {d c : ℝ} (hc : 0 ≤ c) : (|d| ≤ c ∨ d < 0) ↔ d ≤ c :=
  ⟨fun h => h.elim (le_trans (le_abs_self d)) fun h => h.le.trans hc,
   fun h => (lt_or_ge d 0).elim Or.inr fun h0 => Or.inl (by rwa [abs_of_nonneg h0])⟩

theorem sparseCorrectAlternativeCosine_real (d : ℝ) :
    sparseCorrectAlternativeCosine d = if d ≤ 1 / 10000000 then 0 else 1 - (2 : ℝ) ^ (-d) := by
  unfold sparseCorrectAlternativeCosine
  simp only [Bool.or_eq_true, iscloseZero_real, decide_eq_true_eq,
    dead_band_iff (show (0 : ℝ) ≤ 1 / 10000000 by norm_num)]
  rfl

theorem sparseCorrectAlternativeHellinger_real (d : ℝ) :
    sparseCorrectAlternativeHellinger d =
      if d ≤ 1 / 10000000 then 0 else Real.sqrt (1 - (2 : ℝ) ^ (-d)) := by
  unfold sparseCorrectAlternativeHellinger
  simp only [Bool.or_eq_true, iscloseZero_real, decide_eq_true_eq,
    dead_band_iff (show (0 : ℝ) ≤ 1 / 10000000 by norm_num)]
  rfl

/-- the surrogate value as a function of the similarity `s` (cosine of the angle, inner product of
unit vectors, Bhattacharyya coefficient, Jaccard index): `d = −log₂ s`. -/
noncomputable def surrogateOf (s : ℝ) : ℝ := -Real.logb 2 s

theorem two_rpow_neg_surrogateOf {s : ℝ} (hs : 0 < s) : (2 : ℝ) ^ (-surrogateOf s) = s := by
  unfold surrogateOf
  rw [neg_neg, Real.rpow_logb (by norm_num) (by norm_num) hs]

theorem surrogateOf_lt_iff {s t : ℝ} (hs : 0 < s) (ht : 0 < t) :
    surrogateOf s < surrogateOf t ↔ t < s := by
  unfold surrogateOf
  rw [neg_lt_neg_iff, Real.logb_lt_logb_iff (by norm_num) ht hs]

theorem surrogateOf_le_iff {s t : ℝ} (hs : 0 < s) (ht : 0 < t) :
    surrogateOf s ≤ surrogateOf t ↔ t ≤ s := by
  unfold surrogateOf
  rw [neg_le_neg_iff, Real.logb_le_logb (by norm_num) ht hs]

theorem surrogateOf_one : surrogateOf 1 = 0 := by rw [surrogateOf, Real.logb_one, neg_zero]

theorem surrogateOf_nonneg {s : ℝ} (hs : 0 < s) (h1 : s ≤ 1) : 0 ≤ surrogateOf s := by
  rw [← surrogateOf_one, surrogateOf_le_iff one_pos hs]; exact h1

/-- `np.log2(norm / result)` is `−log₂ (result / norm)` -/
theorem logb_div_eq_surrogateOf (n r : ℝ) : Real.logb 2 (n / r) = surrogateOf (r / n) := by
  unfold surrogateOf
  rw [← Real.logb_inv, inv_div]

/-- the surrogate orders two live candidates as every strictly decreasing function `g` of the
similarity does (`metric = g s`) -/
theorem surrogate_order {g : ℝ → ℝ} {I : Set ℝ} (hg : StrictAntiOn g I) {s t : ℝ}
    (hs : 0 < s) (ht : 0 < t) (hsI : s ∈ I) (htI : t ∈ I) :
    (surrogateOf s ≤ surrogateOf t ↔ g s ≤ g t) ∧ (surrogateOf s < surrogateOf t ↔ g s < g t) :=
  ⟨(surrogateOf_le_iff hs ht).trans (hg.le_iff_ge hsI htI).symm,
   (surrogateOf_lt_iff hs ht).trans (hg.lt_iff_gt hsI htI).symm⟩

theorem f32max_pos : (0 : ℝ) < (f32maxNat : ℝ) := Nat.cast_pos.2 (by decide +kernel)

/-- `2^(−FLOAT32_MAX)` is positive: the corrected saturation value is *not* the far end `1` over `ℝ` -/
theorem two_rpow_neg_f32max_pos : (0 : ℝ) < (2 : ℝ) ^ (-(f32maxNat : ℝ)) :=
  Real.rpow_pos_of_pos two_pos _

/-- `2^(−FLOAT32_MAX)` is smaller than `2⁻¹⁰⁷⁵`, half the smallest positive double (a fortiori half the
smallest positive float32, `2⁻¹⁵⁰`): `pow(2.0, -FLOAT32_MAX)` evaluates to `0.0` in both formats. -/
theorem two_rpow_neg_f32max_lt : (2 : ℝ) ^ (-(f32maxNat : ℝ)) < (2 : ℝ) ^ (-(1075 : ℝ)) := by
  have : 1075 < f32maxNat := by decide +kernel
  exact Real.rpow_lt_rpow_of_exponent_lt one_lt_two (neg_lt_neg (Nat.ofNat_lt_cast.2 this))

theorem two_rpow_neg_f32max_lt_one : (2 : ℝ) ^ (-(f32maxNat : ℝ)) < 1 :=
  Real.rpow_lt_one_of_one_lt_of_neg one_lt_two (neg_neg_of_pos f32max_pos)

theorem log_two_le_one : Real.log 2 ≤ 1 := by
  have := Real.log_le_sub_one_of_pos (show (0 : ℝ) < 2 by norm_num)
  linarith

/-- for `d ≥ 0`: `0 ≤ 1 − 2^(−d) ≤ d` (`eᵗ ≥ 1 + t` at `t = −d ln 2`, `ln 2 ≤ 1`) -/
theorem one_sub_two_rpow_neg_bounds {d : ℝ} (h : 0 ≤ d) :
    (2 : ℝ) ^ (-d) ≤ 1 ∧ 1 - (2 : ℝ) ^ (-d) ≤ d := by
  refine ⟨Real.rpow_le_one_of_one_le_of_nonpos one_le_two (neg_nonpos.2 h), ?_⟩
  rw [Real.rpow_def_of_pos two_pos]
  linarith [Real.add_one_le_exp (Real.log 2 * -d), mul_le_mul_of_nonneg_right log_two_le_one h]

/-- the corrected hellinger saturation value `√(1 − e)`, `e = 2^(−FLOAT32_MAX)`, is below `1` by less than `e` -/
theorem sqrt_one_sub_bounds {e : ℝ} (h0 : 0 < e) (h1 : e < 1) :
    Real.sqrt (1 - e) < 1 ∧ 1 - e ≤ Real.sqrt (1 - e) :=
  ⟨(Real.sqrt_lt' one_pos).2 (by rw [one_pow]; exact sub_lt_self 1 h0),
   Real.le_sqrt_of_sq_le (pow_le_of_le_one (sub_nonneg.2 h1.le) (sub_le_self 1 h0.le) two_ne_zero)⟩

/-- for `0 < e ≤ 1`: `1 − arccos e/π = 1/2 + arcsin e/π`, within `e/2` above `1/2`
(Jordan's inequality `2/π·t ≤ sin t` at `t = arcsin e`) -/
theorem one_sub_arccos_div_pi_bounds {e : ℝ} (h0 : 0 < e) (h1 : e ≤ 1) :
    1 / 2 < 1 - Real.arccos e / Real.pi ∧ 1 - Real.arccos e / Real.pi ≤ 1 / 2 + e / 2 := by
  have hpi := Real.pi_pos
  have ha := Real.arcsin_pos.2 h0
  have hj := Real.mul_le_sin ha.le (Real.arcsin_le_pi_div_two e)
  rw [Real.sin_arcsin (neg_one_lt_zero.le.trans h0.le) h1] at hj
  have hval : 1 - Real.arccos e / Real.pi = 1 / 2 + Real.arcsin e / Real.pi := by
    rw [Real.arccos, sub_div, div_div_cancel_left' hpi.ne', ← one_div, sub_sub_eq_add_sub,
      add_sub_right_comm, sub_half]
  have h3 : Real.arcsin e / Real.pi ≤ e / 2 :=
    (show Real.arcsin e / Real.pi = 2 / Real.pi * Real.arcsin e / 2 by ring).trans_le
      (div_le_div_of_nonneg_right hj zero_le_two)
  rw [hval]
  exact ⟨lt_add_of_pos_right _ (div_pos ha hpi), (add_le_add_iff_left _).2 h3⟩

/-! ### the accumulators, and each kernel in Mathlib's terms (`K_real`) -/

theorem dotProd_comm (x y : List ℝ) : dotProd x y = dotProd y x := sumBy_comm _ mul_comm x y

theorem dotProd_self (x : List ℝ) : dotProd x x = normSq x := sumBy_self _ x

theorem normSq_nonneg (x : List ℝ) : 0 ≤ normSq x := sum1_nonneg _ x fun a _ => mul_self_nonneg a

theorem hellingerSum_comm (x y : List ℝ) : hellingerSum x y = hellingerSum y x :=
  sumBy_comm _ (fun a b => congrArg Real.sqrt (mul_comm a b)) x y

theorem hellingerSum_nonneg (x y : List ℝ) : 0 ≤ hellingerSum x y :=
  sumBy_nonneg _ x y fun _ _ => Real.sqrt_nonneg _

theorem hellingerSum_self {x : List ℝ} (hx : ∀ a ∈ x, 0 ≤ a) : hellingerSum x x = l1 x :=
  (sumBy_self _ x).trans (sum1_congr fun a ha => Real.sqrt_mul_self (hx a ha))

theorem l1_real (x : List ℝ) : l1 x = x.sum := by
  rw [l1, sum1_real, List.map_id']

theorem squaredEuclidean_comm (x y : List ℝ) : squaredEuclidean x y = squaredEuclidean y x :=
  sumBy_comm sqDiff (fun a b => by unfold sqDiff; ring) x y

theorem squaredEuclidean_self (x : List ℝ) : squaredEuclidean x x = 0 :=
  sumBy_self_zero sqDiff (fun a => mul_eq_zero_of_left (sub_self a) _) x

theorem squaredEuclidean_nonneg (x y : List ℝ) : 0 ≤ squaredEuclidean x y :=
  sumBy_nonneg _ x y fun _ _ => mul_self_nonneg _

theorem squaredEuclidean_real (x y : List ℝ) :
    squaredEuclidean x y = (List.zipWith (fun a b => (a - b) * (a - b)) x y).sum :=
  sumBy_real _ x y

theorem euclidean_real (x y : List ℝ) : euclidean x y = Real.sqrt (squaredEuclidean x y) := rfl

theorem cosine_real (x y : List ℝ) : cosine x y =
    if normSq x = 0 ∧ normSq y = 0 then 0
    else if normSq x = 0 ∨ normSq y = 0 then 1
    else 1 - dotProd x y / Real.sqrt (normSq x * normSq y) := by
  unfold cosine; simp only [real_arith]

theorem alternativeCosine_real (x y : List ℝ) : alternativeCosine x y =
    if normSq x = 0 ∧ normSq y = 0 then 0
    else if normSq x = 0 ∨ normSq y = 0 then (f32maxNat : ℝ)
    else if dotProd x y ≤ 0 then (f32maxNat : ℝ)
    else Real.logb 2 (Real.sqrt (normSq x * normSq y) / dotProd x y) := by
  unfold alternativeCosine; simp only [real_arith]

theorem trueAngular_real (x y : List ℝ) : trueAngular x y =
    if normSq x = 0 ∧ normSq y = 0 then 0
    else if normSq x = 0 ∨ normSq y = 0 then (f32maxNat : ℝ)
    else if dotProd x y ≤ 0 then (f32maxNat : ℝ)
    else 1 - Real.arccos (min (dotProd x y / Real.sqrt (normSq x * normSq y)) 1) / Real.pi := by
  unfold trueAngular; simp only [real_arith]

theorem dot_real (x y : List ℝ) : dot x y = if dotProd x y ≤ 0 then 1 else 1 - dotProd x y := by
  unfold dot; simp only [real_arith]

theorem alternativeDot_real (x y : List ℝ) :
    alternativeDot x y = if dotProd x y ≤ 0 then (f32maxNat : ℝ) else -Real.logb 2 (dotProd x y) := by
  unfold alternativeDot; simp only [real_arith]

theorem hellinger_real (x y : List ℝ) : hellinger x y =
    if l1 x = 0 ∧ l1 y = 0 then 0
    else if l1 x = 0 ∨ l1 y = 0 then 1
    else Real.sqrt (max (1 - hellingerSum x y / Real.sqrt (l1 x * l1 y)) 0) := by
  unfold hellinger; simp only [real_arith]

theorem alternativeHellinger_real (x y : List ℝ) : alternativeHellinger x y =
    if l1 x = 0 ∧ l1 y = 0 then 0
    else if l1 x = 0 ∨ l1 y = 0 then (f32maxNat : ℝ)
    else if hellingerSum x y ≤ 0 then (f32maxNat : ℝ)
    else Real.logb 2 (Real.sqrt (l1 x * l1 y) / hellingerSum x y) := by
  unfold alternativeHellinger; simp only [real_arith]

theorem jaccardOfCounts_real (n e : ℝ) :
    jaccardOfCounts n e = if n = 0 then 0 else (n - e) / n := by
  unfold jaccardOfCounts; simp only [real_arith]

theorem alternativeJaccardOfCounts_real (n e : ℝ) :
    alternativeJaccardOfCounts n e =
      if n = 0 then 0 else if e = 0 then (f32maxNat : ℝ) else -Real.logb 2 (e / n) := by
  unfold alternativeJaccardOfCounts; simp only [real_arith]

theorem jaccardOfCounts_live {n : ℝ} (hn : n ≠ 0) (e : ℝ) : jaccardOfCounts n e = 1 - e / n := by
  rw [jaccardOfCounts_real, if_neg hn, sub_div, div_self hn]

theorem alternativeJaccardOfCounts_live {n e : ℝ} (hn : n ≠ 0) (he : e ≠ 0) :
    alternativeJaccardOfCounts n e = surrogateOf (e / n) := by
  rw [alternativeJaccardOfCounts_real, if_neg hn, if_neg he]
  rfl

theorem diceOfCounts_real (t d : ℝ) :
    diceOfCounts t d = if d = 0 then 0 else d / (2 * t + d) := by
  unfold diceOfCounts; simp only [real_arith]

theorem sokalSneathOfCounts_real (t d : ℝ) :
    sokalSneathOfCounts t d = if d = 0 then 0 else d / (1 / 2 * t + d) := by
  unfold sokalSneathOfCounts; simp only [real_arith]

theorem rogersTanimotoOfCounts_real (d n : ℝ) : rogersTanimotoOfCounts d n = 2 * d / (n + d) := rfl

theorem kulsinskiOfCounts_real (t d n : ℝ) :
    kulsinskiOfCounts t d n = if d = 0 then 0 else (d - t + n) / (d + n) := by
  unfold kulsinskiOfCounts; simp only [real_arith]

theorem russellraoOfCounts_real (t a b n : ℝ) :
    russellraoOfCounts t a b n = if t = a ∧ t = b then 0 else (n - t) / n := by
  unfold russellraoOfCounts; simp only [real_arith]

theorem yuleOfCounts_real (tt tf ft n : ℝ) : yuleOfCounts tt tf ft n =
    if tf = 0 ∨ ft = 0 then 0 else 2 * tf * ft / (tt * (n - tt - tf - ft) + tf * ft) := by
  unfold yuleOfCounts; simp only [real_arith]

/-- `1 − t ∈ [0, 2]` for `t ∈ [-1, 1]` (the range of `cosine`, twice the haversine radicand) -/
theorem one_sub_mem {t : ℝ} (h1 : -1 ≤ t) (h2 : t ≤ 1) : 0 ≤ 1 - t ∧ 1 - t ≤ 2 :=
  ⟨sub_nonneg.2 h2, (sub_le_sub_left h1 1).trans (by rw [sub_neg_eq_add, one_add_one_eq_two])⟩

/-- the range argument of every binary kernel -/
theorem div_mem_unit {a b : ℝ} (h0 : 0 ≤ a) (hab : a ≤ b) (hb : 0 < b) : 0 ≤ a / b ∧ a / b ≤ 1 :=
  ⟨div_nonneg h0 hb.le, (div_le_one hb).2 hab⟩

theorem normSq_eq_zero {x : List ℝ} (h : normSq x = 0) : ∀ a ∈ x, a = 0 := by
  rw [normSq, sum1_real] at h
  intro a ha
  exact mul_self_eq_zero.1 (List.all_zero_of_le_zero_le_of_sum_eq_zero
    (List.forall_mem_map.2 fun b _ => mul_self_nonneg b) h (List.mem_map_of_mem ha))

theorem sumBy_eq_zero_left (f : ℝ → ℝ → ℝ) (x y : List ℝ) (hx : ∀ a ∈ x, a = 0)
    (hf : ∀ b, f 0 b = 0) : sumBy f x y = 0 := by
  rw [sumBy_eq_zip]
  exact List.sum_eq_zero (List.forall_mem_map.2 fun p hp =>
    (congrArg (f · p.2) (hx p.1 (List.of_mem_zip hp).1)).trans (hf p.2))

theorem dotProd_eq_zero_of_normSq_left {x y : List ℝ} (h : normSq x = 0) : dotProd x y = 0 :=
  sumBy_eq_zero_left _ x y (normSq_eq_zero h) zero_mul

theorem dotProd_eq_zero_of_normSq_right {x y : List ℝ} (h : normSq y = 0) : dotProd x y = 0 :=
  (dotProd_comm x y).trans (dotProd_eq_zero_of_normSq_left h)

/-- Cauchy–Schwarz for the accumulators, from Mathlib's for finite sums -/
theorem sumBy_mul_sq_le (u v : ℝ → ℝ) {x y : List ℝ} (h : x.length = y.length) :
    sumBy (fun a b => u a * v b) x y ^ 2 ≤ sum1 (fun a => u a * u a) x * sum1 (fun b => v b * v b) y := by
  rw [sum1_eq_zip_fst _ h, sum1_eq_zip_snd _ h, sumBy_eq_zip]
  simp only [← Fin.sum_univ_fun_getElem, ← sq]
  exact Finset.sum_mul_sq_le_sq_mul_sq _ _ _

/-! ### the live range of the angular surrogates: `⟨x,y⟩ > 0` -/

/-- the cosine of the angle between `x` and `y` -/
noncomputable def cosSim (x y : List ℝ) : ℝ := dotProd x y / Real.sqrt (normSq x * normSq y)

theorem cosSim_eq (x y : List ℝ) :
    cosSim x y = dotProd x y / (Real.sqrt (normSq x) * Real.sqrt (normSq y)) := by
  rw [cosSim, Real.sqrt_mul (normSq_nonneg x)]

theorem cosSim_self {x : List ℝ} (hx : normSq x ≠ 0) : cosSim x x = 1 := by
  rw [cosSim, dotProd_self, Real.sqrt_mul_self (normSq_nonneg x), div_self hx]

theorem normSq_pos_of_ne {x : List ℝ} (h : normSq x ≠ 0) : 0 < normSq x :=
  lt_of_le_of_ne (normSq_nonneg x) h.symm

theorem normSq_pos_left {x y : List ℝ} (h : 0 < dotProd x y) : 0 < normSq x :=
  normSq_pos_of_ne fun h0 => h.ne' (dotProd_eq_zero_of_normSq_left h0)

theorem normSq_pos_right {x y : List ℝ} (h : 0 < dotProd x y) : 0 < normSq y :=
  normSq_pos_of_ne fun h0 => h.ne' (dotProd_eq_zero_of_normSq_right h0)

theorem sqrt_norms_pos {x y : List ℝ} (hx : 0 < normSq x) (hy : 0 < normSq y) :
    0 < Real.sqrt (normSq x * normSq y) := Real.sqrt_pos.2 (mul_pos hx hy)

theorem cosSim_pos {x y : List ℝ} (h : 0 < dotProd x y) : 0 < cosSim x y :=
  div_pos h (sqrt_norms_pos (normSq_pos_left h) (normSq_pos_right h))

theorem abs_cosSim_le_one {x y : List ℝ} (hl : x.length = y.length) (hx : 0 < normSq x)
    (hy : 0 < normSq y) : |cosSim x y| ≤ 1 := by
  rw [cosSim, abs_div, abs_of_pos (sqrt_norms_pos hx hy), div_le_one (sqrt_norms_pos hx hy)]
  exact Real.abs_le_sqrt (sumBy_mul_sq_le id id hl)

theorem cosSim_le_one {x y : List ℝ} (hl : x.length = y.length) (h : 0 < dotProd x y) :
    cosSim x y ≤ 1 :=
  (abs_le.1 (abs_cosSim_le_one hl (normSq_pos_left h) (normSq_pos_right h))).2

theorem cosine_live {x y : List ℝ} (hx : normSq x ≠ 0) (hy : normSq y ≠ 0) :
    cosine x y = 1 - cosSim x y := by
  rw [cosine_real, if_neg (fun hh => hx hh.1), if_neg (fun hh => hh.elim hx hy)]
  rfl

theorem alternativeCosine_live {x y : List ℝ} (h : 0 < dotProd x y) :
    alternativeCosine x y = surrogateOf (cosSim x y) := by
  have hx := (normSq_pos_left h).ne'; have hy := (normSq_pos_right h).ne'
  rw [alternativeCosine_real, if_neg (fun hh => hx hh.1), if_neg (fun hh => hh.elim hx hy),
    if_neg (not_le.2 h), logb_div_eq_surrogateOf]
  rfl

theorem trueAngular_live {x y : List ℝ} (h : 0 < dotProd x y) :
    trueAngular x y = 1 - Real.arccos (min (cosSim x y) 1) / Real.pi := by
  have hx := (normSq_pos_left h).ne'; have hy := (normSq_pos_right h).ne'
  rw [trueAngular_real, if_neg (fun hh => hx hh.1), if_neg (fun hh => hh.elim hx hy),
    if_neg (not_le.2 h)]
  rfl

theorem dot_live {x y : List ℝ} (h : 0 < dotProd x y) : dot x y = 1 - dotProd x y := by
  rw [dot_real, if_neg (not_le.2 h)]

theorem alternativeDot_live {x y : List ℝ} (h : 0 < dotProd x y) :
    alternativeDot x y = surrogateOf (dotProd x y) := by
  rw [alternativeDot_real, if_neg (not_le.2 h)]
  rfl

theorem alternativeCosine_saturated {x y : List ℝ} (h : ¬ 0 < dotProd x y)
    (h0 : ¬ (normSq x = 0 ∧ normSq y = 0)) : alternativeCosine x y = (f32maxNat : ℝ) := by
  rw [alternativeCosine_real, if_neg h0, if_pos (not_lt.1 h), ite_self]

theorem trueAngular_saturated {x y : List ℝ} (h : ¬ 0 < dotProd x y)
    (h0 : ¬ (normSq x = 0 ∧ normSq y = 0)) : trueAngular x y = (f32maxNat : ℝ) := by
  rw [trueAngular_real, if_neg h0, if_pos (not_lt.1 h), ite_self]

theorem cosine_ge_one_of_saturated {x y : List ℝ} (h : ¬ 0 < dotProd x y)
    (h0 : ¬ (normSq x = 0 ∧ normSq y = 0)) : 1 ≤ cosine x y := by
  rw [cosine_real, if_neg h0]
  split_ifs
  · exact le_refl _
  · exact (le_sub_self_iff 1).2 (div_nonpos_of_nonpos_of_nonneg (not_lt.1 h) (Real.sqrt_nonneg _))

theorem cosine_comm (x y : List ℝ) : cosine x y = cosine y x := by
  rw [cosine_real, cosine_real, dotProd_comm x y, mul_comm (normSq x)]
  exact if_congr and_comm rfl (if_congr or_comm rfl rfl)

theorem cosine_self (x : List ℝ) : cosine x x = 0 := by
  by_cases hx : normSq x = 0
  · rw [cosine_real, if_pos ⟨hx, hx⟩]
  · rw [cosine_live hx hx, cosSim_self hx, sub_self]

/-! ### correlation is the cosine of the centred vectors -/

theorem correlation_real (x y : List ℝ) : correlation x y =
    (let mu_x := l1 x / (x.length : ℝ)
     let mu_y := l1 y / (x.length : ℝ)
     let norm_x := sum1 (fun v => (v - mu_x) * (v - mu_x)) x
     let norm_y := sum1 (fun v => (v - mu_y) * (v - mu_y)) y
     let dot_product := sumBy (fun a b => (a - mu_x) * (b - mu_y)) x y
     if norm_x = 0 ∧ norm_y = 0 then 0
     else if dot_product = 0 then 1
     else 1 - dot_product / Real.sqrt (norm_x * norm_y)) := by
  unfold correlation; simp only [real_arith]

theorem centred_normSq (z : List ℝ) (m : ℝ) :
    sum1 (fun v => (v - m) * (v - m)) z = normSq (z.map fun v => v - m) :=
  (sum1_map (fun v => v * v) _ z).symm

theorem centred_dotProd (x y : List ℝ) (m m' : ℝ) :
    sumBy (fun a b => (a - m) * (b - m')) x y = dotProd (x.map fun v => v - m) (y.map fun v => v - m') :=
  (sumBy_map (fun a b => a * b) _ _ x y).symm

/-- both means are taken over `x.shape[0]` coordinates; the branch `dot_product == 0` covers "exactly
one vector constant", because a constant vector centres to zero -/
theorem correlation_eq_cosine (x y : List ℝ) :
    correlation x y =
      cosine (x.map (fun v => v - l1 x / (x.length : ℝ))) (y.map (fun v => v - l1 y / (x.length : ℝ))) := by
  rw [correlation_real, cosine_real]
  simp only [centred_normSq, centred_dotProd]
  set X := x.map (fun v => v - l1 x / (x.length : ℝ))
  set Y := y.map (fun v => v - l1 y / (x.length : ℝ))
  refine if_congr Iff.rfl rfl ?_
  -- `dot = 0` gives `1 − 0/√… = 1` whatever the norms are; `dot ≠ 0` forces both norms `≠ 0`
  by_cases hdot : dotProd X Y = 0
  · rw [if_pos hdot, hdot, zero_div, sub_zero, ite_self]
  · rw [if_neg hdot, if_neg]
    exact fun h => hdot (h.elim dotProd_eq_zero_of_normSq_left dotProd_eq_zero_of_normSq_right)

theorem correlation_comm (x y : List ℝ) (hl : x.length = y.length) :
    correlation x y = correlation y x := by
  rw [correlation_eq_cosine, correlation_eq_cosine, cosine_comm, hl]

theorem correlation_self (x : List ℝ) : correlation x x = 0 := by
  rw [correlation_eq_cosine, cosine_self]

/-! ### Hellinger: non-negative vectors with positive mass -/

/-- the Bhattacharyya coefficient of the normalised vectors -/
noncomputable def hellSim (x y : List ℝ) : ℝ := hellingerSum x y / Real.sqrt (l1 x * l1 y)

theorem l1_nonneg {x : List ℝ} (hx : ∀ a ∈ x, 0 ≤ a) : 0 ≤ l1 x := sum1_nonneg _ x hx

theorem l1_eq_zero {x : List ℝ} (hx : ∀ a ∈ x, 0 ≤ a) (h : l1 x = 0) : ∀ a ∈ x, a = 0 :=
  fun _ ha => List.all_zero_of_le_zero_le_of_sum_eq_zero hx (l1_real x ▸ h) ha

theorem l1_pos_of_ne {x : List ℝ} (hx : ∀ a ∈ x, 0 ≤ a) (h : l1 x ≠ 0) : 0 < l1 x :=
  lt_of_le_of_ne (l1_nonneg hx) h.symm

theorem l1_pos_left {x y : List ℝ} (hx : ∀ a ∈ x, 0 ≤ a) (h : 0 < hellingerSum x y) : 0 < l1 x :=
  l1_pos_of_ne hx fun h0 => h.ne' (sumBy_eq_zero_left _ x y (l1_eq_zero hx h0) fun b =>
    (congrArg Real.sqrt (zero_mul b)).trans Real.sqrt_zero)

theorem l1_pos_right {x y : List ℝ} (hy : ∀ a ∈ y, 0 ≤ a) (h : 0 < hellingerSum x y) : 0 < l1 y :=
  l1_pos_left hy (hellingerSum_comm x y ▸ h)

theorem alternativeHellinger_live {x y : List ℝ} (hx : 0 < l1 x) (hy : 0 < l1 y)
    (h : 0 < hellingerSum x y) : alternativeHellinger x y = surrogateOf (hellSim x y) := by
  rw [alternativeHellinger_real, if_neg (fun hh => hx.ne' hh.1),
    if_neg (fun hh => hh.elim hx.ne' hy.ne'), if_neg (not_le.2 h), logb_div_eq_surrogateOf]
  rfl

theorem hellinger_live {x y : List ℝ} (hx : l1 x ≠ 0) (hy : l1 y ≠ 0) :
    hellinger x y = Real.sqrt (max (1 - hellSim x y) 0) := by
  rw [hellinger_real, if_neg (fun hh => hx hh.1), if_neg (fun hh => hh.elim hx hy)]
  rfl

theorem hellSim_pos {x y : List ℝ} (hx : 0 < l1 x) (hy : 0 < l1 y) (h : 0 < hellingerSum x y) :
    0 < hellSim x y := div_pos h (Real.sqrt_pos.2 (mul_pos hx hy))

theorem hellingerSum_le {x y : List ℝ} (hl : x.length = y.length)
    (hx : ∀ a ∈ x, 0 ≤ a) (hy : ∀ a ∈ y, 0 ≤ a) :
    hellingerSum x y ≤ Real.sqrt (l1 x * l1 y) := by
  -- Cauchy–Schwarz for `√xᵢ`, `√yᵢ`
  have h := sumBy_mul_sq_le Real.sqrt Real.sqrt hl
  rw [sum1_congr fun a ha => Real.mul_self_sqrt (hx a ha),
    sum1_congr fun a ha => Real.mul_self_sqrt (hy a ha),
    ← sumBy_congr (f := fun a b => Real.sqrt (a * b)) fun p hp =>
      Real.sqrt_mul (hx _ (List.of_mem_zip hp).1) p.2] at h
  exact Real.le_sqrt_of_sq_le h

theorem hellSim_le_one {x y : List ℝ} (hl : x.length = y.length)
    (hx : ∀ a ∈ x, 0 ≤ a) (hy : ∀ a ∈ y, 0 ≤ a) (hx' : 0 < l1 x) (hy' : 0 < l1 y) :
    hellSim x y ≤ 1 :=
  (div_le_one (Real.sqrt_pos.2 (mul_pos hx' hy'))).2 (hellingerSum_le hl hx hy)

theorem minkowski_real (x y : List ℝ) (p : ℝ) :
    minkowski x y p = (List.zipWith (fun a b => |a - b| ^ p) x y).sum ^ (1 / p) :=
  congrArg (· ^ (1 / p)) (sumBy_real _ x y)

theorem minkowski_comm (x y : List ℝ) (p : ℝ) : minkowski x y p = minkowski y x p :=
  congrArg (· ^ (1 / p)) (sumBy_comm _ (fun a b => congrArg (· ^ p) (abs_sub_comm a b)) x y)

theorem minkowski_self (x : List ℝ) (p : ℝ) (hp : p ≠ 0) : minkowski x x p = 0 := by
  have h : ∀ a : ℝ, Arith.pow (Arith.abs (a - a)) p = 0 := fun a => by
    rw [sub_self, abs_real, abs_zero]
    exact Real.zero_rpow hp
  exact (congrArg (· ^ (1 / p)) (sumBy_self_zero _ h x)).trans (Real.zero_rpow (one_div_ne_zero hp))

theorem chebyshev_real (x y : List ℝ) :
    chebyshev x y = (List.zipWith (fun a b => |a - b|) x y).foldl max 0 := by
  unfold chebyshev
  rw [← List.map_uncurry_zip_eq_zipWith, List.foldl_map]
  rfl

/-- `l.foldl max a` is `(a :: l).max?`, which the library characterises -/
theorem foldl_max_isGreatest (l : List ℝ) (a : ℝ) :
    IsGreatest (insert a {v | v ∈ l}) (l.foldl max a) :=
  have ⟨hm, hu⟩ := List.max?_eq_some_iff.1 (List.max?_cons' (x := a) (xs := l))
  ⟨List.mem_cons.1 hm, fun v hv => hu v (List.mem_cons.2 hv)⟩

theorem canberra_eq_sumBy (x y : List ℝ) : canberra x y =
    sumBy (fun a b => if 0 < |a| + |b| then |a - b| / (|a| + |b|) else 0) x y := by
  unfold canberra sumBy
  simp only [real_arith]
  refine congrArg (fun g => List.foldl g 0 (x.zip y)) (funext fun r => funext fun p => ?_)
  split_ifs
  · rfl
  · exact (add_zero r).symm

theorem brayCurtis_real (x y : List ℝ) : brayCurtis x y =
    if 0 < sumBy (fun a b => |a + b|) x y
    then sumBy (fun a b => |a - b|) x y / sumBy (fun a b => |a + b|) x y else 0 := by
  unfold brayCurtis; simp only [real_arith]

theorem numDiffer_comm (x y : List ℝ) : numDiffer x y = numDiffer y x :=
  countP_zip_swap_congr (fun p => by rw [Bool.eq_iff_iff, bne_real, bne_real]; exact ne_comm) y x

theorem numNonZero_comm (x y : List ℝ) : numNonZero x y = numNonZero y x :=
  countP_zip_swap_congr (fun _ => Bool.or_comm _ _) y x

theorem numTrueTrue_comm (x y : List ℝ) : numTrueTrue x y = numTrueTrue y x :=
  countP_zip_swap_congr (fun _ => Bool.and_comm _ _) y x

theorem numNotEqual_comm (x y : List ℝ) : numNotEqual x y = numNotEqual y x :=
  countP_zip_swap_congr (fun _ => Bool.xor_comm _ _) y x

theorem numTrueFalse_swap (x y : List ℝ) : numTrueFalse x y = numFalseTrue y x :=
  countP_zip_swap_congr (fun _ => Bool.and_comm _ _) y x

theorem numDiffer_self (x : List ℝ) : numDiffer x x = 0 :=
  countP_zip_self_eq_zero (fun a => Bool.eq_false_iff.2 fun h => (bne_real a a).mp h rfl) x

theorem numNotEqual_self (x : List ℝ) : numNotEqual x x = 0 :=
  countP_zip_self_eq_zero (fun _ => bne_self_eq_false _) x

theorem numTrueFalse_self (x : List ℝ) : numTrueFalse x x = 0 :=
  countP_zip_self_eq_zero (fun _ => Bool.and_not_self _) x

theorem numTrueTrue_self_eq_countP (x : List ℝ) : numTrueTrue x x = x.countP isTrue :=
  countP_zip_self_congr (fun _ => Bool.and_self _) x

theorem numTrueTrue_self_eq_numNonZero (x : List ℝ) : numTrueTrue x x = numNonZero x x :=
  (numTrueTrue_self_eq_countP x).trans (countP_zip_self_congr (fun _ => Bool.or_self _) x).symm

theorem numNonZero_eq (x y : List ℝ) : numNonZero x y = numTrueTrue x y + numNotEqual x y :=
  ((countP_xor_add_and (fun p : ℝ × ℝ => isTrue p.1) (fun p => isTrue p.2) (x.zip y)).symm.trans
    (Nat.add_comm _ _))

theorem numTrueTrue_le_numNonZero (x y : List ℝ) : numTrueTrue x y ≤ numNonZero x y :=
  numNonZero_eq x y ▸ Nat.le_add_right _ _

theorem counts_le_length (x y : List ℝ) :
    numTrueTrue x y + numTrueFalse x y + numFalseTrue x y ≤ x.length := by
  unfold numTrueTrue numTrueFalse numFalseTrue
  rw [← countP_or_of_disjoint _ _ (fun p => by cases isTrue p.1 <;> cases isTrue p.2 <;> rfl),
    ← countP_or_of_disjoint _ _ (fun p => by cases isTrue p.1 <;> cases isTrue p.2 <;> rfl)]
  exact countP_zip_le _ x y

end Pynn.Metrics
