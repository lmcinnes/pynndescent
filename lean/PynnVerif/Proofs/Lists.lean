import Mathlib.Algebra.Group.Basic

/-! # General facts about lists: counting with `countP`, loops over `zip`, loops as sums,
prefixes of an updated list -/
namespace Pynn

section CountP
variable {γ : Type} (p q : γ → Bool)

/-- inclusion–exclusion for `countP` -/
theorem countP_or_add_and (l : List γ) :
    l.countP (fun a => p a || q a) + l.countP (fun a => p a && q a) = l.countP p + l.countP q := by
  induction l with
  | nil => rfl
  | cons a l ih =>
    have tt : ∀ b c : Bool, (if (b || c) = true then 1 else 0) + (if (b && c) = true then 1 else 0)
        = (if b = true then 1 else 0) + (if c = true then 1 else 0) := by decide
    simp only [List.countP_cons]
    rw [Nat.add_add_add_comm, ih, tt, Nat.add_add_add_comm]

/-- the elements satisfying exactly one of `p`, `q` and those satisfying both make up those
satisfying at least one -/
theorem countP_xor_add_and (l : List γ) :
    l.countP (fun a => p a != q a) + l.countP (fun a => p a && q a)
      = l.countP (fun a => p a || q a) := by
  induction l with
  | nil => rfl
  | cons a l ih =>
    have tt : ∀ b c : Bool, (if (b != c) = true then 1 else 0) + (if (b && c) = true then 1 else 0)
        = (if (b || c) = true then 1 else 0) := by decide
    simp only [List.countP_cons]
    rw [Nat.add_add_add_comm, ih, tt]

theorem countP_or_of_disjoint (h : ∀ a, (p a && q a) = false) (l : List γ) :
    l.countP (fun a => p a || q a) = l.countP p + l.countP q := by
  have h0 : l.countP (fun a => p a && q a) = 0 :=
    List.countP_eq_zero.2 fun a _ => by rw [h a]; exact Bool.false_ne_true
  rw [← countP_or_add_and p q l, h0, Nat.add_zero]

/-- a counting loop is `countP` -/
theorem foldl_count (c : γ → Prop) [DecidablePred c] (l : List γ) (r0 : Nat) :
    l.foldl (fun r a => if c a then r + 1 else r) r0 = r0 + l.countP (fun a => c a) := by
  induction l generalizing r0 with
  | nil => rfl
  | cons a t ih =>
    rw [List.foldl_cons, ih, List.countP_cons]
    by_cases ha : c a
    · rw [if_pos ha, if_pos (decide_eq_true ha), Nat.add_assoc, Nat.add_comm 1]
    · rw [if_neg ha, if_neg (fun h => ha (of_decide_eq_true h)), Nat.add_zero]

end CountP

section Zip
variable {α β γ δ : Type}

theorem countP_zip_fst (q : α → Bool) (x : List α) (y : List β) (h : x.length = y.length) :
    (x.zip y).countP (fun p => q p.1) = x.countP q := by
  have := List.countP_map (p := q) (f := Prod.fst) (l := x.zip y)
  rw [List.map_fst_zip (Nat.le_of_eq h)] at this
  exact this.symm

theorem countP_zip_snd (q : β → Bool) (x : List α) (y : List β) (h : x.length = y.length) :
    (x.zip y).countP (fun p => q p.2) = y.countP q := by
  have := List.countP_map (p := q) (f := Prod.snd) (l := x.zip y)
  rw [List.map_snd_zip (Nat.le_of_eq h.symm)] at this
  exact this.symm

theorem zip_swap (x : List α) (y : List β) : y.zip x = (x.zip y).map (fun p => (p.2, p.1)) := by
  rw [List.zip_eq_zipWith, List.zipWith_comm, ← List.map_uncurry_zip_eq_zipWith]
  rfl

theorem countP_zip_le (q : α × β → Bool) (x : List α) (y : List β) :
    (x.zip y).countP q ≤ x.length :=
  Nat.le_trans List.countP_le_length (by rw [List.length_zip]; exact Nat.min_le_left _ _)

theorem countP_zip_swap_congr {q : β × α → Bool} {q' : α × β → Bool} (h : ∀ p, q (p.2, p.1) = q' p)
    (x : List α) (y : List β) : (y.zip x).countP q = (x.zip y).countP q' := by
  rw [zip_swap, List.countP_map]
  exact congrArg (List.countP · _) (funext h)

theorem countP_zip_self_congr {q : α × α → Bool} {q' : α → Bool} (h : ∀ a, q (a, a) = q' a)
    (x : List α) : (x.zip x).countP q = x.countP q' := by
  rw [List.zip_eq_zipWith, List.zipWith_self, List.countP_map]
  exact congrArg (List.countP · _) (funext h)

theorem countP_zip_self_eq_zero {q : α × α → Bool} (h : ∀ a, q (a, a) = false) (x : List α) :
    (x.zip x).countP q = 0 :=
  (countP_zip_self_congr h x).trans (congrFun List.countP_false x)

theorem zip_zip_swap (x : List α) (y : List β) (s : List γ) :
    (y.zip x).zip s = ((x.zip y).zip s).map (fun p => ((p.1.2, p.1.1), p.2)) := by
  rw [zip_swap x y, List.zip_map_left]
  rfl

theorem zip_zip_self (x : List α) (s : List γ) :
    (x.zip x).zip s = (x.zip s).map (fun p => ((p.1, p.1), p.2)) := by
  rw [List.zip_eq_zipWith (l₁ := x), List.zipWith_self, List.zip_map_left]
  rfl

theorem foldl_zip_swap (g : δ → β → α → δ) (x : List α) (y : List β) (r0 : δ) :
    (y.zip x).foldl (fun r p => g r p.1 p.2) r0 = (x.zip y).foldl (fun r p => g r p.2 p.1) r0 := by
  rw [zip_swap, List.foldl_map]

theorem getD_zipWith (f : α → β → γ) (x : List α) (y : List β) (hxy : x.length = y.length)
    (dx : α) (dy : β) (dz : γ) (hd : f dx dy = dz) (i : Nat) :
    (List.zipWith f x y).getD i dz = f (x.getD i dx) (y.getD i dy) := by
  induction x generalizing y i with
  | nil =>
    cases y with
    | nil => exact hd.symm
    | cons _ _ => cases hxy
  | cons u s ih =>
    cases y with
    | nil => cases hxy
    | cons w t =>
      cases i with
      | zero => rfl
      | succ i => exact ih t (Nat.succ.inj hxy) i

end Zip

section Set
variable {β : Type}

/-- the cell just written is the last of the prefix that ends with it -/
theorem take_set_succ {l : List β} {m : Nat} {v : β} (h : m < l.length) :
    (l.set m v).take (m + 1) = l.take m ++ [v] := by
  rw [List.take_succ_eq_append_getElem (by rwa [List.length_set]), List.take_set_of_le (Nat.le_refl m),
    List.getElem_set_self]

end Set

section Sums
variable {α γ : Type}

theorem foldl_add_eq [AddMonoid α] (t : γ → α) (l : List γ) (r0 : α) :
    l.foldl (fun r p => r + t p) r0 = r0 + (l.map t).sum := by
  induction l generalizing r0 with
  | nil => exact (add_zero r0).symm
  | cons p l ih => rw [List.foldl_cons, ih, List.map_cons, List.sum_cons, add_assoc]

theorem foldl_zero_of_all_zero [AddZeroClass α] (f : γ → α) (l : List γ) (h : ∀ p ∈ l, f p = 0) :
    l.foldl (fun r p => r + f p) 0 = 0 := by
  induction l with
  | nil => rfl
  | cons p l ih =>
    rw [List.foldl_cons, h p (List.mem_cons_self ..), add_zero]
    exact ih (fun q hq => h q (List.mem_cons_of_mem _ hq))

theorem countP_zipWith_sub [AddGroup α] [DecidableEq α] (x y : List α) :
    (List.zipWith (· - ·) x y).countP (· ≠ 0) = (x.zip y).countP (fun p => p.1 ≠ p.2) := by
  rw [← List.map_uncurry_zip_eq_zipWith, List.countP_map]
  exact List.countP_congr
    (fun p _ => (decide_eq_true_iff.trans sub_ne_zero).trans decide_eq_true_iff.symm)

/-- Mathlib's `List.sum_map_add`, restated here to keep the import light -/
theorem sum_map_add [AddCommMonoid α] (f g : γ → α) (l : List γ) :
    (l.map f).sum + (l.map g).sum = (l.map (fun p => f p + g p)).sum := by
  induction l with
  | nil => exact add_zero 0
  | cons p l ih =>
    simp only [List.map_cons, List.sum_cons, ← ih]
    rw [add_add_add_comm]

end Sums

end Pynn
