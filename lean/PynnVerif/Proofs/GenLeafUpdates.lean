import PynnVerif.Proofs.GenApply

/-!
# The translated `pynndescent_.generate_leaf_updates` refines the model's `leafUpdates`

`dist` is a function parameter applied to rows of `data`; `updates` is a list of lists of triples, one per row of
`leaf_block`, each starting with the placeholder `(-1, -1, inf)`.

Both update generators only ever append triples to row `n` of `updates` (`emitRow`); what is said here about that,
about the row loop (`for_rows`) and about the returned rows read back through `updOf` (`rows_read`) serves
`generate_graph_updates` as well.
The two inner loops of `generate_leaf_updates` are here; `C03.kernel_generate_leaf_updates_refines` runs the row loop
over them.
-/
namespace Pynn
open GenK
variable {P : Type}

/-- `updates[n]` extended by the entries `e` -/
def emitRow {τ : Type} (n : Nat) (U : Array (Array τ)) (e : List τ) : Array (Array τ) :=
  U.setIfInBounds n (U.getD n #[] ++ e.toArray)

theorem emitRow_size {τ : Type} (n : Nat) (U : Array (Array τ)) (e : List τ) : (emitRow n U e).size = U.size :=
  Array.size_setIfInBounds ..

theorem emitRow_nil {τ : Type} (n : Nat) (U : Array (Array τ)) (h : n < U.size) : emitRow n U [] = U := by
  simp [emitRow, h, setIfInBounds_getElem_self]

theorem emitRow_emitRow {τ : Type} (n : Nat) (U : Array (Array τ)) (a b : List τ) (h : n < U.size) :
    n < (emitRow n U a).size ∧ emitRow n (emitRow n U a) b = emitRow n U (a ++ b) := by
  refine ⟨(emitRow_size ..).symm ▸ h, ?_⟩
  simp [emitRow, h, Array.setIfInBounds_setIfInBounds]

/-- `updates[n].append(t)` -/
theorem emitRow_push {τ : Type} (n : Nat) (U : Array (Array τ)) (t : τ) (h : n < U.size) :
    U.setIfInBounds n (U[n].push t) = emitRow n U [t] := by
  simp [emitRow, h]

/-- the outer loop of both generators: pass `r` appends `out r` to row `r` -/
theorem for_rows {τ ρ : Type} (L : Nat → Array (Array τ) → Int → Option (LoopOut (Array (Array τ) × Int) ρ))
    (n : Nat) (out : ∀ r, r < n → List τ) (b : Nat)
    (hexit : ∀ fuel U (j : Int), ¬ j < (n : Int) → L (fuel + 1) U j = some (.next (U, j)))
    (hstep : ∀ fuel U (r : Nat) (hr : r < n), U.size = n → b < fuel →
      L (fuel + 1) U r = L fuel (emitRow r U (out r hr)) ((r : Int) + 1))
    (fuel : Nat) (U : Array (Array τ)) (hU : U.size = n) (hf : n + b < fuel) :
    ∃ U', L fuel U 0 = some (.next (U', (n : Int))) ∧ ∃ hs : U'.size = n,
      ∀ r (h : r < n), U'[r]'(hs ▸ h) = U[r]'(hU ▸ h) ++ (out r h).toArray := by
  -- entered at row `j`, the loop extends the rows from `j` on and leaves those before `j` alone
  have key : ∀ fuel j, j ≤ n → n - j + b < fuel → ∀ U : Array (Array τ), ∀ hU : U.size = n,
      ∃ U', L fuel U j = some (.next (U', (n : Int))) ∧ ∃ hs : U'.size = n,
        ∀ r (h : r < n), U'[r]'(hs ▸ h) = if j ≤ r then U[r]'(hU ▸ h) ++ (out r h).toArray else U[r]'(hU ▸ h) := by
    refine range_loop ?_ ?_
    · intro fuel j hj hb ih U hU
      obtain ⟨U', e, hs, hrow⟩ := ih _ ((emitRow_size ..).trans hU)
      refine ⟨U', (hstep fuel U j hj hU hb).trans e, hs, fun r h => ?_⟩
      rw [hrow r h]
      simp only [emitRow, Array.getElem_setIfInBounds (hU ▸ h)]
      by_cases hr : j = r
      · subst hr
        rw [if_pos rfl, if_neg (Nat.not_succ_le_self j), if_pos (Nat.le_refl j), ← Array.getElem_eq_getD]
      · have : j + 1 ≤ r ↔ j ≤ r := ⟨Nat.le_of_succ_le, fun h => Nat.lt_of_le_of_ne h hr⟩
        simp only [if_neg hr, this]
    · intro fuel U hU
      exact ⟨U, hexit fuel U n (Int.lt_irrefl _), hU, fun r h => (if_neg (Nat.not_le.mpr h)).symm⟩
  obtain ⟨U', e, hs, hrow⟩ := key fuel 0 (Nat.zero_le n) hf U hU
  exact ⟨U', e, hs, fun r h => (hrow r h).trans (if_pos (Nat.zero_le r))⟩

/-- an update of the model as the kernel's triple -/
def triple (u : Upd P) : Int × Int × P := ((u.p : Int), (u.q : Int), u.d)

theorem updOf_triple (u : Upd P) : updOf (triple u) = some u := updOf_natCast u.p u.q u.d

theorem filterMap_updOf_triples (l : List (Upd P)) : (l.map triple).filterMap updOf = l := by
  induction l with
  | nil => rfl
  | cons u l ih => simp [updOf_triple, ih]

/-- what both generators return, read through `updOf`: row `r` is the placeholder followed by the triples of the
model's list `out r`, so it reads back as `out r`, and every triple can be fed to the appliers -/
theorem rows_read {top : P} {U : Array (Array (Int × Int × P))} {n N : Nat} (out : ∀ r, r < n → List (Upd P))
    (hs : U.size = n)
    (hrows : ∀ r (h : r < n), U[r]'(hs ▸ h) = #[((-1 : Int), (-1 : Int), top)] ++ ((out r h).map triple).toArray)
    (hN : ∀ r h, ∀ u ∈ out r h, u.p < N ∧ u.q < N) :
    (∀ r (h : r < n), (U[r]'(hs ▸ h)).toList.filterMap updOf = out r h) ∧
      ∀ b ∈ U.toList, ∀ x ∈ b.toList, OkTriple N x := by
  refine ⟨fun r h => ?_, fun b hb x hx => ?_⟩
  · have hph : updOf (((-1 : Int), (-1 : Int), top) : Int × Int × P) = none := by simp [updOf]
    simp only [hrows r h, Array.toList_append, List.cons_append, List.nil_append, List.filterMap_cons, hph,
      filterMap_updOf_triples]
  · obtain ⟨r, hr, rfl⟩ := Array.mem_iff_getElem.mp (Array.mem_toList_iff.mp hb)
    rw [hrows r (hs ▸ hr)] at hx
    simp only [Array.toList_append, List.mem_append, List.mem_cons, List.not_mem_nil, or_false, List.mem_map] at hx
    rcases hx with rfl | ⟨u, hu, rfl⟩
    · exact Or.inl rfl
    · have := hN r (hs ▸ hr) u hu
      exact .inr (.inr ⟨Int.natCast_nonneg _, Int.ofNat_lt.mpr this.1, Int.natCast_nonneg _, Int.ofNat_lt.mpr this.2⟩)

theorem updsOf_eq_flatMap (U : Array (Array (Int × Int × P))) :
    updsOf U = U.toList.flatMap (fun b => b.toList.filterMap updOf) := by
  rw [updsOf, List.filterMap_flatMap]

/-- rows that read back as `g` of the entries of `l`, concatenated -/
theorem flatMap_rows_read {α : Type} {U : Array (Array (Int × Int × P))} (l : List α) (g : α → List (Upd P))
    (hs : U.size = l.length) (h : ∀ r (h : r < U.size), U[r].toList.filterMap updOf = g (l[r]'(hs ▸ h))) :
    U.toList.flatMap (fun b => b.toList.filterMap updOf) = l.flatMap g := by
  rw [List.flatMap_def, List.flatMap_def]
  congr 1
  apply List.ext_getElem
  · simp [hs]
  · intro i h1 _
    simp only [List.getElem_map, Array.getElem_toList]
    exact h i (by simpa using h1)

/-- thresholds and distances as functions on row numbers (total; the defaults are never reached under the range
hypotheses of the theorems) -/
def thrOf (th : Array P) (top : P) (p : Nat) : P := th.getD p top
def distOf (data : Array (Array P)) (dist : Array P → Array P → P) (p q : Nat) : P :=
  dist (data.getD p #[]) (data.getD q #[])

theorem thrOf_lt (th : Array P) (top : P) {p : Nat} (h : p < th.size) : thrOf th top p = th[p] := by
  simp [thrOf, h]

theorem distOf_lt (data : Array (Array P)) (dist : Array P → Array P → P) {p q : Nat} (hp : p < data.size)
    (hq : q < data.size) : distOf data dist p q = dist data[p] data[q] := by
  simp [distOf, hp, hq]

/-- the entries of a leaf row that are not negative are row numbers of `data` and `dist_thresholds` -/
def LeafRowOk (row : Array Int) (N : Nat) : Prop := ∀ x ∈ row.toList, 0 ≤ x → x.toNat < N

theorem LeafRowOk.of_mem {row : Array Int} {N : Nat} (h : LeafRowOk row N) {q : Nat} (hq : (q : Int) ∈ row.toList) :
    q < N :=
  Int.toNat_natCast q ▸ h _ hq (Int.natCast_nonneg q)

theorem LeafRowOk.lt {row : Array Int} {N : Nat} (h : LeafRowOk row N) {j : Nat} (hj : j < row.size) {q : Nat}
    (hq : row[j] = q) : q < N :=
  h.of_mem (hq ▸ Array.getElem_mem_toList hj)

variable [LT P] [DecidableLT P]

theorem leaf_loop2 (leaf_block : Array (Array Int)) (th : Array P) (data : Array (Array P))
    (dist : Array P → Array P → P) (top : P) (n pn w : Nat) (hn : n < leaf_block.size) (hw : leaf_block[n].size = w)
    (hpd : pn < data.size) (hpt : pn < th.size)
    (hok : LeafRowOk leaf_block[n] data.size) (hok' : LeafRowOk leaf_block[n] th.size) :
    ∀ (fuel : Nat) (U : Array (Array (Int × Int × P))) (j : Nat), n < U.size → j ≤ w → w < fuel →
    ∃ j', generate_leaf_updates.loop2 leaf_block th data dist (n : Int) (pn : Int) (w : Int) fuel U (j : Int)
      = some (.next (emitRow n U (((takeValid (leaf_block[n].toList.drop j)).filterMap
          (leafTest (thrOf th top) (distOf data dist) pn)).map triple), j')) := by
  refine for_emit (generate_leaf_updates.loop2 leaf_block th data dist (n : Int) (pn : Int) (w : Int)) (emitRow n)
    (n < ·.size) (emitRow_nil n) (emitRow_emitRow n) leaf_block[n].toList w (Array.length_toList.trans hw)
    (fun l => ((takeValid l).filterMap (leafTest (thrOf th top) (distOf data dist) pn)).map triple) rfl 0
    (fun _ _ _ hj => if_neg hj) ?_
  intro fuel U j hj hU _
  have hjr : j < leaf_block[n].size := Array.length_toList ▸ hj
  rw [drop_cons _ j hjr]
  simp only [generate_leaf_updates.loop2, cursor_lt, hw ▸ hjr, ↓reduceIte, rd_lt leaf_block n hn,
    rd_lt leaf_block[n] j hjr, Option.bind_eq_bind, Option.bind_some]
  by_cases hq : leaf_block[n][j] < 0
  · right
    simp only [hq, ↓reduceIte, takeValid_neg _ _ hq]
    exact ⟨rfl, _, rfl⟩
  · left
    obtain ⟨qn, hqn⟩ := Int.eq_ofNat_of_zero_le (Int.not_lt.mp hq)
    have hqd := hok.lt hjr hqn
    have hqt := hok'.lt hjr hqn
    rw [hqn] at hq ⊢
    simp only [hq, ↓reduceIte, rd_lt data pn hpd, rd_lt data qn hqd, rd_lt th pn hpt, rd_lt th qn hqt, rd_lt U n hU,
      Option.bind_some, wr_lt U n _ hU, takeValid_nonneg, List.filterMap_cons, leafTest, thrOf_lt th top hpt,
      thrOf_lt th top hqt, distOf_lt data dist hpd hqd, emitRow_push n U _ hU]
    by_cases h1 : dist data[pn] data[qn] < th[pn]
    · simp only [h1, ↓reduceIte, true_or, List.map_cons, triple]
      exact ⟨_, rfl, rfl⟩
    · by_cases h2 : dist data[pn] data[qn] < th[qn]
      · simp only [h1, h2, ↓reduceIte, or_true, List.map_cons, triple]
        exact ⟨_, rfl, rfl⟩
      · simp only [h1, h2, ↓reduceIte, or_self]
        exact ⟨[], (List.nil_append _).symm, by rw [emitRow_nil n U hU]⟩

theorem leaf_loop1 (leaf_block : Array (Array Int)) (th : Array P) (data : Array (Array P))
    (dist : Array P → Array P → P) (top : P) (n w : Nat) (hn : n < leaf_block.size) (hw : leaf_block[n].size = w)
    (hnc : ncols leaf_block = w)
    (hok : LeafRowOk leaf_block[n] data.size) (hok' : LeafRowOk leaf_block[n] th.size) :
    ∀ (fuel : Nat) (U : Array (Array (Int × Int × P))) (i : Nat), n < U.size → i ≤ w → w + w < fuel →
    ∃ i', generate_leaf_updates.loop1 leaf_block th data dist (n : Int) (w : Int) fuel U (i : Int)
      = some (.next (emitRow n U
          ((leafUpdates (thrOf th top) (distOf data dist) (leaf_block[n].toList.drop i)).map triple), i')) := by
  refine for_emit (generate_leaf_updates.loop1 leaf_block th data dist (n : Int) (w : Int)) (emitRow n)
    (n < ·.size) (emitRow_nil n) (emitRow_emitRow n) leaf_block[n].toList w (Array.length_toList.trans hw)
    (fun l => (leafUpdates (thrOf th top) (distOf data dist) l).map triple) rfl w (fun _ _ _ hj => if_neg hj) ?_
  intro fuel U i hi hU hb
  have hir : i < leaf_block[n].size := Array.length_toList ▸ hi
  rw [drop_cons _ i hir]
  simp only [generate_leaf_updates.loop1, cursor_lt, hw ▸ hir, ↓reduceIte, rd_lt leaf_block n hn,
    rd_lt leaf_block[n] i hir, Option.bind_eq_bind, Option.bind_some, hnc]
  by_cases hp : leaf_block[n][i] < 0
  · right
    simp only [hp, ↓reduceIte, leafUpdates_neg _ _ _ _ hp]
    exact ⟨rfl, _, rfl⟩
  · left
    obtain ⟨pn, hpn⟩ := Int.eq_ofNat_of_zero_le (Int.not_lt.mp hp)
    obtain ⟨j', h2⟩ := leaf_loop2 leaf_block th data dist top n pn w hn hw (hok.lt hir hpn) (hok'.lt hir hpn) hok hok'
      fuel U (i + 1) hU (hw ▸ Nat.succ_le_of_lt hir) hb
    rw [hpn] at hp ⊢
    simp only [hp, ↓reduceIte, cursor_succ, h2, Option.bind_some, leafUpdates_cons, List.map_append]
    exact ⟨_, rfl, rfl⟩

end Pynn
