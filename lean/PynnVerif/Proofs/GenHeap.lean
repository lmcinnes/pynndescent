import PynnVerif.Proofs.GenRows
import PynnVerif.Proofs.RangeLoop

/-!
# The translated heap kernels refine the hand-written heap model

`Gen/Kernels.lean` is regenerated from the source text of `pynndescent/utils.py` on every run
(`harness/translate_kernels.py`).  This file proves, for **every** input, that each generated heap
kernel (`GenK.simple_heap_push`, `GenK.checked_heap_push`, `GenK.checked_flagged_heap_push`,
`GenK.siftdown`)

* never reads or writes outside an array and never runs out of fuel (result `≠ none`) as soon as the
  parallel arrays have equal sizes, the row is not empty (pushes) and `fuel ≥ size + 1`;
* returns exactly what `Model/Heap.lean` returns (`Pynn.push`, `Pynn.siftdownSwap`) on the row obtained
  by zipping the parallel arrays (`zip2`, `zip3`).

No order axioms are used: the statements hold for any `P` with decidable `≤`, `<` — the kernels and the
model perform literally the same comparisons.  (So this file needs no Mathlib.)

The file ends with the offer runs `kernelRun`, `kernelRunFlagged`, `kernelRunSimple` (a sequence of candidates fed
through a translated push kernel, the arrays threaded), which the statements of `C11.kernel_*_topk` use, and their
refinement of the model's fold of `push`.
-/
-- `mem_zip3` and `siftdown_no_fuel` take the file's four order instances without using them
set_option linter.unusedSectionVars false
namespace Pynn
open GenK
variable {P : Type}

/-- `(priorities, indices)` as a row of entries (kernels without a flag array: flags `false`). -/
def zip2 (pr : Array P) (ix : Array Int) : Row P := Array.zipWith (fun p i => ⟨p, i, false⟩) pr ix

/-- `(priorities, indices, flags)` as a row of entries; a flag byte is `true` iff it is non-zero. -/
def zip3 (pr : Array P) (ix : Array Int) (fl : Array Int) : Row P :=
  Array.zipWith (fun (e : Entry P) (f : Int) => ⟨e.prio, e.idx, f != 0⟩) (zip2 pr ix) fl

@[simp] theorem zip2_size (pr : Array P) (ix : Array Int) :
    (zip2 pr ix).size = min pr.size ix.size := by simp [zip2]

@[simp] theorem zip3_size (pr : Array P) (ix fl : Array Int) :
    (zip3 pr ix fl).size = min (min pr.size ix.size) fl.size := by simp [zip3]

theorem zip2_size_eq {pr : Array P} {ix : Array Int} {n : Nat} (hp : pr.size = n) (hx : ix.size = n) :
    (zip2 pr ix).size = n := by
  rw [zip2_size, hp, hx, Nat.min_self]

theorem zip3_size_eq {pr : Array P} {ix fl : Array Int} {n : Nat} (hp : pr.size = n) (hx : ix.size = n)
    (hl : fl.size = n) : (zip3 pr ix fl).size = n := by
  rw [zip3_size, hp, hx, hl, Nat.min_self, Nat.min_self]

theorem lt_of_lt_zip2 {pr : Array P} {ix : Array Int} {k : Nat} (h : k < (zip2 pr ix).size) :
    k < pr.size ∧ k < ix.size := by
  rwa [zip2_size, Nat.lt_min] at h

@[simp] theorem zip2_getElem (pr : Array P) (ix : Array Int) (k : Nat) (h : k < (zip2 pr ix).size) :
    (zip2 pr ix)[k] = ⟨pr[k]'(lt_of_lt_zip2 h).1, ix[k]'(lt_of_lt_zip2 h).2, false⟩ := by
  simp [zip2]

theorem lt_of_lt_zip3 {pr : Array P} {ix fl : Array Int} {k : Nat} (h : k < (zip3 pr ix fl).size) :
    k < pr.size ∧ k < ix.size ∧ k < fl.size := by
  rw [zip3_size, Nat.lt_min, Nat.lt_min] at h
  exact ⟨h.1.1, h.1.2, h.2⟩

@[simp] theorem zip3_getElem (pr : Array P) (ix fl : Array Int) (k : Nat) (h : k < (zip3 pr ix fl).size) :
    (zip3 pr ix fl)[k] = ⟨pr[k]'(lt_of_lt_zip3 h).1, ix[k]'(lt_of_lt_zip3 h).2.1,
      fl[k]'(lt_of_lt_zip3 h).2.2 != 0⟩ := by
  simp [zip3]

theorem zip2_set (pr : Array P) (ix : Array Int) (k : Nat) (x : P) (y : Int) :
    zip2 (pr.setIfInBounds k x) (ix.setIfInBounds k y) = (zip2 pr ix).setIfInBounds k ⟨x, y, false⟩ :=
  zipWith_setIfInBounds ..

theorem zip3_set (pr : Array P) (ix fl : Array Int) (k : Nat) (x : P) (y z : Int) :
    zip3 (pr.setIfInBounds k x) (ix.setIfInBounds k y) (fl.setIfInBounds k z)
      = (zip3 pr ix fl).setIfInBounds k ⟨x, y, z != 0⟩ := by
  rw [zip3, zip2_set, zipWith_setIfInBounds]; rfl

theorem zip2_swap (pr : Array P) (ix : Array Int) (i j : Nat) (hi : i < pr.size) (hj : j < pr.size)
    (hi' : i < ix.size) (hj' : j < ix.size) :
    zip2 (pr.swap i j hi hj) (ix.swap i j hi' hj')
      = (zip2 pr ix).swap i j (zip2_size pr ix ▸ Nat.lt_min.mpr ⟨hi, hi'⟩)
          (zip2_size pr ix ▸ Nat.lt_min.mpr ⟨hj, hj'⟩) :=
  zipWith_swap ..

theorem zip2_append (a s : Array P) (b t : Array Int) (h : a.size = b.size) :
    zip2 (a ++ s) (b ++ t) = zip2 a b ++ zip2 s t := by
  simp [zip2, Array.zipWith_append, h]

theorem zip2_prio (pr : Array P) (ix : Array Int) (h : pr.size = ix.size) : (zip2 pr ix).map (·.prio) = pr := by
  apply Array.ext
  · simp [h]
  · intro k h1 h2; simp

theorem zip2_idx (pr : Array P) (ix : Array Int) (h : pr.size = ix.size) : (zip2 pr ix).map (·.idx) = ix := by
  apply Array.ext
  · simp [h]
  · intro k h1 h2; simp

theorem zip3_idx (pr : Array P) (ix fl : Array Int) (h : pr.size = ix.size) (h' : pr.size = fl.size) :
    (zip3 pr ix fl).map (·.idx) = ix := by
  apply Array.ext
  · simp [← h, ← h']
  · intro k h1 h2; simp

/-- the abstraction loses nothing: equal-sized parallel arrays are determined by their row -/
theorem zip2_inj {pr pr' : Array P} {ix ix' : Array Int} (h : pr.size = ix.size) (h' : pr'.size = ix'.size)
    (e : zip2 pr ix = zip2 pr' ix') : pr = pr' ∧ ix = ix' :=
  ⟨by rw [← zip2_prio pr ix h, e, zip2_prio pr' ix' h'], by rw [← zip2_idx pr ix h, e, zip2_idx pr' ix' h']⟩

/-- `make_heap`'s arrays zip to the model's empty row -/
theorem zip2_replicate (top : P) (k : Nat) :
    zip2 (Array.replicate k top) (Array.replicate k (-1 : Int)) = mkRow top k := by
  simp only [zip2, mkRow, Array.zipWith_replicate, Nat.min_self]

theorem zip3_replicate (top : P) (k : Nat) :
    zip3 (Array.replicate k top) (Array.replicate k (-1 : Int)) (Array.replicate k (0 : Int)) = mkRow top k := by
  simp only [zip3, zip2_replicate, mkRow, Array.zipWith_replicate, Nat.min_self]
  rfl

theorem mem_zip2 (pr : Array P) (ix : Array Int) (hs : pr.size = ix.size) (e : Entry P) :
    e ∈ zip2 pr ix ↔ ∃ j, ∃ hj : j < pr.size, e = ⟨pr[j], ix[j]'(hs ▸ hj), false⟩ := by
  rw [Array.mem_iff_getElem]
  constructor
  · rintro ⟨j, hj, rfl⟩
    exact ⟨j, (lt_of_lt_zip2 hj).1, zip2_getElem ..⟩
  · rintro ⟨j, hj, rfl⟩
    exact ⟨j, zip2_size_eq rfl hs.symm ▸ hj, zip2_getElem ..⟩

/-- the heap children of a natural-number position stay casts of naturals, in both spellings of the source -/
theorem child_cast (i : Nat) : (2 : Int) * (i : Int) + 1 = ((2 * i + 1 : Nat) : Int) := rfl
theorem child_cast' (i : Nat) : (i : Int) * 2 + 1 = ((2 * i + 1 : Nat) : Int) := by rw [Int.mul_comm]; rfl

/-- kernel and model branch on the same test -/
theorem ite_rel {α β : Type} {c : Prop} [Decidable c] (R : α → β → Prop) {a b : α} {a' b' : β}
    (h1 : c → R a a') (h2 : ¬ c → R b b') : R (if c then a else b) (if c then a' else b') := by
  by_cases h : c
  · rw [if_pos h, if_pos h]; exact h1 h
  · rw [if_neg h, if_neg h]; exact h2 h

/-- `for i in range(size): if n == indices[i]: return r`, entered at `i`: stays in bounds; returns `r` iff `n`
occurs at some position `≥ i`, otherwise runs to the end.  Stated once for the textually separate scans of the two
checked kernels; `hL` is the loop's defining equation. -/
theorem dup_scan_eq {ρ : Type} (L : Nat → Int → Option (LoopOut Int ρ)) (ix : Array Int) (n : Int) (r : ρ)
    (hL : ∀ fuel i, L (fuel + 1) i = (do
      if i < (ix.size : Int) then
        if n = (← rd ix i) then pure (.ret r) else L fuel (i + 1)
      else pure (.next i))) :
    ∀ (fuel i : Nat), i ≤ ix.size → ix.size - i < fuel →
    L fuel (i : Int) = some (if n ∈ ix.toList.drop i then .ret r else .next (ix.size : Int)) := by
  refine range_loop (m := 0) ?_ ?_
  · intro fuel i hlt _ ih
    simp only [hL, cursor_lt, hlt, ↓reduceIte, rd_lt ix i hlt, Option.bind_eq_bind, Option.bind_some, cursor_succ, ih,
      drop_cons ix i hlt, List.mem_cons, Option.pure_def]
    by_cases hn : n = ix[i]
    · simp only [hn, true_or, ↓reduceIte]
    · simp only [hn, false_or, ↓reduceIte]
  · intro fuel
    simp only [hL, cursor_lt, Nat.lt_irrefl, ↓reduceIte, List.drop_eq_nil_of_le, Array.length_toList, Nat.le_refl,
      List.not_mem_nil, Option.pure_def]

variable [LE P] [LT P] [DecidableLE P] [DecidableLT P]

theorem mem_zip3 (pr : Array P) (ix fl : Array Int) (hs : pr.size = ix.size) (hs' : pr.size = fl.size)
    (e : Entry P) :
    e ∈ zip3 pr ix fl ↔
      ∃ j, ∃ hj : j < pr.size, e = ⟨pr[j], ix[j]'(by omega), fl[j]'(by omega) != 0⟩ := by
  rw [Array.mem_iff_getElem]
  constructor
  · rintro ⟨j, hj, rfl⟩
    exact ⟨j, (lt_of_lt_zip3 hj).1, zip3_getElem ..⟩
  · rintro ⟨j, hj, rfl⟩
    exact ⟨j, zip3_size_eq rfl hs.symm hs'.symm ▸ hj, zip3_getElem ..⟩

theorem sift_size' (a : Row P) (e : Entry P) (i : Nat) : (sift a e i).size = a.size := sift_size a e i

set_option smartUnfolding false in
/-- the two two-array kernels have textually separate copies of the same loop: the same term (see `SameLoop` in
`Proofs/GenMetrics.lean` for why `rfl` needs smart unfolding off) -/
theorem checked_loop1_eq : @checked_heap_push.loop1 P _ _ _ _ = simple_heap_push.loop0 := rfl

/-- The outcome `out` of a two-array hole loop for the new entry `(p, n)` delivers the row `r`: the loop
ended by `break` with arrays of `size` slots and the hole at some `i' < size`, and storing `(p, n)` there
gives `r`.  (Hence the arrays agree with `r` everywhere except at the hole.) -/
def Delivers2 {ρ : Type} (p : P) (n : Int) (size : Nat)
    (out : Option (LoopOut (Array P × Array Int × Int) ρ)) (r : Row P) : Prop :=
  ∃ pr' ix', ∃ i' : Nat, out = some (.next (pr', ix', (i' : Int))) ∧ pr'.size = size ∧ ix'.size = size ∧
    i' < size ∧ zip2 (pr'.setIfInBounds i' p) (ix'.setIfInBounds i' n) = r

/-- the same with a flag array: the flag byte `f` is stored with the entry -/
def Delivers3 {ρ : Type} (p : P) (n f : Int) (size : Nat)
    (out : Option (LoopOut (Array P × Array Int × Array Int × Int) ρ)) (r : Row P) : Prop :=
  ∃ pr' ix' fl', ∃ i' : Nat, out = some (.next (pr', ix', fl', (i' : Int))) ∧ pr'.size = size ∧
    ix'.size = size ∧ fl'.size = size ∧ i' < size ∧
    zip3 (pr'.setIfInBounds i' p) (ix'.setIfInBounds i' n) (fl'.setIfInBounds i' f) = r

/-- One pass of the hole loop of a push kernel with the hole at `i`: the body of `while True:` in `simple_heap_push`
and `checked_flagged_heap_push` (utils.py), which decides on the priorities alone where the hole goes.  `move c` is what
the kernel does to bring child `c` up into the hole and go on from `c`, `stop` how it leaves the loop.  (`x > p` in the
one-child branch and `p < x` in the others is the source's spelling.) -/
def holePass {β : Type} (p : P) (size : Int) (pr : Array P) (i : Int) (move : Int → Option β) (stop : Option β) :
    Option β := do
  let ic1 := 2 * i + 1
  let ic2 := ic1 + 1
  if ic1 ≥ size then
    stop
  else
    if ic2 ≥ size then
      if (← rd pr ic1) > p then move ic1 else stop
    else
      if (← rd pr ic1) ≥ (← rd pr ic2) then
        if p < (← rd pr ic1) then move ic1 else stop
      else
        if p < (← rd pr ic2) then move ic2 else stop

/-- The generated loops are `holePass` with their stores as `move`: true by unfolding, so it fails if the source of the
kernels changes shape.  (Stated alone: checking this `rfl` inside a larger proof is far dearer.) -/
theorem simple_loop_succ (p : P) (size : Int) (fuel : Nat) (pr : Array P) (ix : Array Int) (i : Int) :
    simple_heap_push.loop0 p size (fuel + 1) pr ix i = holePass p size pr i
      (fun c => do
        let pr ← wr pr i (← rd pr c)
        let ix ← wr ix i (← rd ix c)
        simple_heap_push.loop0 p size fuel pr ix c)
      (pure (.next (pr, ix, i))) := rfl

theorem flagged_loop_succ (p : P) (size : Int) (fuel : Nat) (pr : Array P) (ix fl : Array Int) (i : Int) :
    checked_flagged_heap_push.loop1 p size (fuel + 1) pr ix fl i = holePass p size pr i
      (fun c => do
        let pr ← wr pr i (← rd pr c)
        let ix ← wr ix i (← rd ix c)
        let fl ← wr fl i (← rd fl c)
        checked_flagged_heap_push.loop1 p size fuel pr ix fl c)
      (pure (.next (pr, ix, fl, i))) := rfl

/-- The pass at hole `i` over priorities `pr` and the model's `sift` of a row `a` with these priorities take the same
decision (each case of `sift` is decided by the same tests on the same values; the hole itself is never read): whatever
relates `move c` to the `sift` that goes on from child `c`, and `stop` to the row with the entry stored at `i`, relates
the two. -/
theorem holePass_rel {β : Type} (R : Option β → Row P → Prop) {size i : Nat} {a : Row P} (e : Entry P) {pr : Array P}
    {move : Int → Option β} {stop : Option β} (ha : a.size = size) (hp : pr.size = size)
    (hpa : ∀ c (h : c < size), pr[c]'(hp ▸ h) = (a[c]'(ha ▸ h)).prio)
    (hmove : ∀ c (hc : c < size), i < c → R (move (c : Int)) (sift (a.setIfInBounds i (a[c]'(ha ▸ hc))) e c))
    (hstop : R stop (a.setIfInBounds i e)) :
    R (holePass e.prio (size : Int) pr (i : Int) move stop) (sift a e i) := by
  have l1 : i < 2*i+1 := lt_of_child (.inl rfl)
  have l2 : i < 2*i+2 := lt_of_child (.inr rfl)
  rw [sift]
  rcases Nat.lt_or_ge (2*i+1) size with h1 | h1
  · have r1 := rd_lt pr _ (hp ▸ h1)
    rcases Nat.lt_or_ge (2*i+2) size with h2 | h2
    · simp only [holePass, child_cast, cursor_succ, ge_iff_le, Int.ofNat_le, Nat.not_le.mpr h1, Nat.not_le.mpr h2,
        ↓reduceIte, ↓reduceDIte, r1, rd_lt pr _ (hp ▸ h2), h1, h2, Option.bind_eq_bind, Option.bind_some, ha,
        hpa _ h1, hpa _ h2]
      exact ite_rel R
        (fun _ => ite_rel _ (fun _ => hmove (2*i+1) h1 l1) (fun _ => hstop))
        (fun _ => ite_rel _ (fun _ => hmove (2*i+2) h2 l2) (fun _ => hstop))
    · simp only [holePass, child_cast, cursor_succ, ge_iff_le, Int.ofNat_le, Nat.not_le.mpr h1, h2, Nat.not_lt.mpr h2,
        ↓reduceIte, ↓reduceDIte, r1, h1, Option.bind_eq_bind, Option.bind_some, ha, hpa _ h1]
      exact ite_rel R (fun _ => hmove (2*i+1) h1 l1) (fun _ => hstop)
  · simp only [holePass, child_cast, ge_iff_le, Int.ofNat_le, h1, Nat.not_lt.mpr h1, ↓reduceIte, ↓reduceDIte, ha]
    exact hstop

/-- **Hole loop, two arrays** (`simple_heap_push.loop0`).  Started with the hole at `i`, the translated
`while True:` loop stays in bounds and delivers the model's `sift`. -/
theorem simple_loop_spec (p : P) (n : Int) (size : Nat) : ∀ (fuel i : Nat), size - i < fuel →
    ∀ (pr : Array P) (ix : Array Int) {r : Row P}, zip2 pr ix = r → pr.size = size → ix.size = size → i < size →
    Delivers2 p n size (simple_heap_push.loop0 p (size : Int) fuel pr ix (i : Int)) (sift r ⟨p, n, false⟩ i) := by
  refine descent_loop fun fuel i ih pr ix r hr hp hx hi => ?_
  subst hr
  rw [simple_loop_succ]
  refine holePass_rel (Delivers2 p n size) ⟨p, n, false⟩ (zip2_size_eq hp hx) hp (fun c h => by rw [zip2_getElem])
    (fun c hc hic => ?_) ⟨pr, ix, i, rfl, hp, hx, hi, zip2_set ..⟩
  -- moving child `c` into the hole and going on from `c` is the induction hypothesis
  simp only [rd_lt pr c (hp ▸ hc), rd_lt ix c (hx ▸ hc), wr_lt pr i _ (hp ▸ hi), wr_lt ix i _ (hx ▸ hi),
    Option.bind_eq_bind, Option.bind_some, zip2_getElem]
  exact ih c hic hc _ _ (zip2_set ..) (Array.size_setIfInBounds.trans hp) (Array.size_setIfInBounds.trans hx) hc

/-- **Hole loop, three arrays** (`checked_flagged_heap_push.loop1`): the flag byte moves with its entry. -/
theorem flagged_loop_spec (p : P) (n f : Int) (size : Nat) :
    ∀ (fuel i : Nat), size - i < fuel → ∀ (pr : Array P) (ix fl : Array Int) {r : Row P}, zip3 pr ix fl = r →
    pr.size = size → ix.size = size → fl.size = size → i < size →
    Delivers3 p n f size (checked_flagged_heap_push.loop1 p (size : Int) fuel pr ix fl (i : Int))
      (sift r ⟨p, n, f != 0⟩ i) := by
  refine descent_loop fun fuel i ih pr ix fl r hr hp hx hl hi => ?_
  subst hr
  rw [flagged_loop_succ]
  refine holePass_rel (Delivers3 p n f size) ⟨p, n, f != 0⟩ (zip3_size_eq hp hx hl) hp (fun c h => by rw [zip3_getElem])
    (fun c hc hic => ?_) ⟨pr, ix, fl, i, rfl, hp, hx, hl, hi, zip3_set ..⟩
  simp only [rd_lt pr c (hp ▸ hc), rd_lt ix c (hx ▸ hc), rd_lt fl c (hl ▸ hc), wr_lt pr i _ (hp ▸ hi),
    wr_lt ix i _ (hx ▸ hi), wr_lt fl i _ (hl ▸ hi), Option.bind_eq_bind, Option.bind_some, zip3_getElem]
  exact ih c hic hc _ _ _ (zip3_set ..) (Array.size_setIfInBounds.trans hp) (Array.size_setIfInBounds.trans hx)
    (Array.size_setIfInBounds.trans hl) hc

set_option hygiene false in
/-- A tactic script that proves the statement of the two-array hole loop for a generated loop `L` directly, by
induction on fuel (unhygienic: it refers to the binders `p`, `n` of the statement it is run on).  The loop
specifications above do not call it: `checked_heap_push.loop1` is `simple_heap_push.loop0`
(`checked_loop1_eq`), so one proof serves both kernels. -/
local macro "hole_loop2_tac " L:ident : tactic => `(tactic| (
  intro fuel
  induction fuel with
  | zero => intro pr ix i hs hi hf; omega
  | succ fuel ih =>
    intro pr ix i hs hi hf
    have e1 : (2:Int) * (i:Int) + 1 = ((2*i+1 : Nat) : Int) := by push_cast; rfl
    have e2 : ((2*i+1 : Nat) : Int) + 1 = ((2*i+2 : Nat) : Int) := by push_cast; omega
    have e1' : (i:Int) * 2 + 1 = ((2*i+1 : Nat) : Int) := by push_cast; omega
    have e2' : (2:Int) * (i:Int) + 2 = ((2*i+2 : Nat) : Int) := by push_cast; rfl
    have e2'' : (i:Int) * 2 + 2 = ((2*i+2 : Nat) : Int) := by push_cast; omega
    rw [sift]
    unfold $L
    simp only [e1, e1', e2, e2', e2'']
    have hz : (zip2 pr ix).size = pr.size := by simp; omega
    have stepc : ∀ c : Nat, i < c → (hc : c < pr.size) → ∃ pr' ix', ∃ i' : Nat,
        $L p (pr.size : Int) fuel (pr.setIfInBounds i pr[c])
            (ix.setIfInBounds i (ix[c]'(by omega))) (c : Int)
          = some (.next (pr', ix', (i' : Int)))
        ∧ pr'.size = pr.size ∧ ix'.size = pr.size ∧ i' < pr.size ∧
        zip2 (pr'.setIfInBounds i' p) (ix'.setIfInBounds i' n)
          = sift ((zip2 pr ix).setIfInBounds i ⟨pr[c], ix[c]'(by omega), false⟩) ⟨p, n, false⟩ c := by
      intro c hic hc
      have := ih (pr.setIfInBounds i pr[c]) (ix.setIfInBounds i (ix[c]'(by omega))) c
        (by simp; omega) (by simp; omega) (by simp; omega)
      simpa only [Array.size_setIfInBounds, zip2_set] using this
    have stay : ∃ pr' ix', ∃ i' : Nat,
        (pure (LoopOut.next (pr, ix, (i : Int))) : Option (LoopOut (Array P × Array Int × Int) (Array P × Array Int × Int)))
          = some (.next (pr', ix', (i' : Int)))
        ∧ pr'.size = pr.size ∧ ix'.size = pr.size ∧ i' < pr.size ∧
        zip2 (pr'.setIfInBounds i' p) (ix'.setIfInBounds i' n)
          = (zip2 pr ix).setIfInBounds i ⟨p, n, false⟩ :=
      ⟨pr, ix, i, rfl, rfl, by omega, hi, zip2_set ..⟩
    by_cases h1 : 2 * i + 1 < pr.size
    · have r1 := rd_lt pr (2*i+1) h1
      have r1' := rd_lt ix (2*i+1) (by omega)
      have c1 : ¬ ((2*i+1 : Nat) : Int) ≥ (pr.size : Int) := by omega
      by_cases h2 : 2 * i + 2 < pr.size
      · have r2 := rd_lt pr (2*i+2) h2
        have r2' := rd_lt ix (2*i+2) (by omega)
        have c2 : ¬ ((2*i+2 : Nat) : Int) ≥ (pr.size : Int) := by omega
        simp only [c1, c2, if_false, r1, r2, r1', r2', Option.bind_eq_bind, Option.bind_some, hz, h1, h2,
          dite_true, zip2_getElem, wr_lt pr i _ hi, wr_lt ix i _ (show i < ix.size by omega)]
        split
        · split
          · exact stepc (2*i+1) (by omega) h1
          · exact stay
        · split
          · exact stepc (2*i+2) (by omega) h2
          · exact stay
      · have c2 : ((2*i+2 : Nat) : Int) ≥ (pr.size : Int) := by omega
        simp only [c1, c2, if_false, if_true, r1, r1', Option.bind_eq_bind, Option.bind_some, hz, h1, h2,
          dite_true, dite_false, zip2_getElem, wr_lt pr i _ hi, wr_lt ix i _ (show i < ix.size by omega)]
        split
        · exact stepc (2*i+1) (by omega) h1
        · exact stay
    · have c1 : ((2*i+1 : Nat) : Int) ≥ (pr.size : Int) := by omega
      simp only [c1, if_true, hz, h1, dite_false]
      exact stay
  ))

theorem simple_heap_push_refines (pr : Array P) (ix : Array Int) (p : P) (n : Int) (fuel : Nat)
    (hs : pr.size = ix.size) (hk : 0 < pr.size) (hf : pr.size < fuel) :
    ∃ pr' ix', GenK.simple_heap_push fuel pr ix p n
        = some (pr', ix', if (push false (zip2 pr ix) p n false).2 then 1 else 0)
      ∧ pr'.size = pr.size ∧ ix'.size = ix.size
      ∧ zip2 pr' ix' = (push false (zip2 pr ix) p n false).1 := by
  have hk' : 0 < (zip2 pr ix).size := zip2_size_eq rfl hs.symm ▸ hk
  unfold GenK.simple_heap_push push
  simp only [rd_zero pr hk, Option.bind_eq_bind, Option.bind_some, hk', dite_true, zip2_getElem,
    Bool.false_and, Bool.false_eq_true, if_false]
  by_cases hge : p ≥ pr[0]
  · simp only [hge, if_true]
    exact ⟨pr, ix, rfl, rfl, rfl, rfl⟩
  · obtain ⟨pr', ix', i', hl, h1, h2, h3, h4⟩ :=
      simple_loop_spec p n pr.size fuel 0 hf (pr.setIfInBounds 0 p) (ix.setIfInBounds 0 n) (zip2_set ..)
        Array.size_setIfInBounds (Array.size_setIfInBounds.trans hs.symm) hk
    rw [sift_set_hole] at h4
    rw [Int.natCast_zero] at hl
    simp only [hge, if_false, wr_zero pr p hk, wr_zero ix n (hs ▸ hk), Option.bind_some, hl,
      wr_lt pr' i' p (h1 ▸ h3), wr_lt ix' i' n (h2 ▸ h3)]
    exact ⟨_, _, rfl, Array.size_setIfInBounds.trans h1, Array.size_setIfInBounds.trans (h2.trans hs), h4⟩

/-- the checked push is the unchecked push behind the duplicate scan -/
theorem checked_heap_push_eq (pr : Array P) (ix : Array Int) (p : P) (n : Int) (fuel : Nat)
    (hs : pr.size = ix.size) (hk : 0 < pr.size) (hf : pr.size < fuel) :
    GenK.checked_heap_push fuel pr ix p n
      = if n ∈ ix then some (pr, ix, 0) else GenK.simple_heap_push fuel pr ix p n := by
  have hsc := dup_scan_eq (checked_heap_push.loop0 pr ix n ix.size) ix n (pr, ix, 0) (fun _ _ => rfl) fuel 0
    (Nat.zero_le _) (hs ▸ hf)
  simp only [List.drop_zero, Array.mem_toList_iff, ← hs, Int.natCast_zero] at hsc
  unfold GenK.checked_heap_push GenK.simple_heap_push
  simp only [rd_zero pr hk, Option.bind_eq_bind, Option.bind_some, hsc, checked_loop1_eq]
  by_cases hge : p ≥ pr[0]
  · simp only [hge, ↓reduceIte, Option.pure_def, ite_self]
  · by_cases hm : n ∈ ix
    · simp only [hge, hm, ↓reduceIte, Option.pure_def]
    · simp only [hge, hm, ↓reduceIte]

theorem checked_heap_push_refines (pr : Array P) (ix : Array Int) (p : P) (n : Int) (fuel : Nat)
    (hs : pr.size = ix.size) (hk : 0 < pr.size) (hf : pr.size < fuel) :
    ∃ pr' ix', GenK.checked_heap_push fuel pr ix p n
        = some (pr', ix', if (push true (zip2 pr ix) p n false).2 then 1 else 0)
      ∧ pr'.size = pr.size ∧ ix'.size = ix.size
      ∧ zip2 pr' ix' = (push true (zip2 pr ix) p n false).1 := by
  rw [checked_heap_push_eq pr ix p n fuel hs hk hf, push_true_eq]
  simp only [any_idx_iff, zip2_idx pr ix hs]
  by_cases hm : n ∈ ix
  · rw [if_pos hm, if_pos hm]
    exact ⟨pr, ix, rfl, rfl, rfl, rfl⟩
  · rw [if_neg hm, if_neg hm]
    exact simple_heap_push_refines pr ix p n fuel hs hk hf

theorem checked_flagged_heap_push_refines (pr : Array P) (ix fl : Array Int) (p : P) (n f : Int)
    (fuel : Nat) (hs : pr.size = ix.size) (hs' : pr.size = fl.size) (hk : 0 < pr.size)
    (hf : pr.size < fuel) :
    ∃ pr' ix' fl', GenK.checked_flagged_heap_push fuel pr ix fl p n f
        = some (pr', ix', fl', if (push true (zip3 pr ix fl) p n (f != 0)).2 then 1 else 0)
      ∧ pr'.size = pr.size ∧ ix'.size = ix.size ∧ fl'.size = fl.size
      ∧ zip3 pr' ix' fl' = (push true (zip3 pr ix fl) p n (f != 0)).1 := by
  have hk' : 0 < (zip3 pr ix fl).size := zip3_size_eq rfl hs.symm hs'.symm ▸ hk
  have hsc := dup_scan_eq (checked_flagged_heap_push.loop0 pr ix fl n ix.size) ix n (pr, ix, fl, 0)
    (fun _ _ => rfl) fuel 0 (Nat.zero_le _) (hs ▸ hf)
  simp only [List.drop_zero, Array.mem_toList_iff, ← hs, Int.natCast_zero] at hsc
  unfold GenK.checked_flagged_heap_push push
  simp only [rd_zero pr hk, Option.bind_eq_bind, Option.bind_some, hk', dite_true, zip3_getElem,
    Bool.true_and, hsc, any_idx_iff, zip3_idx pr ix fl hs hs']
  by_cases hge : p ≥ pr[0]
  · simp only [hge, if_true]
    exact ⟨pr, ix, fl, rfl, rfl, rfl, rfl, rfl⟩
  · by_cases hm : n ∈ ix
    · simp only [hge, hm, ↓reduceIte]
      exact ⟨pr, ix, fl, rfl, rfl, rfl, rfl, rfl⟩
    · obtain ⟨pr', ix', fl', i', hl, h1, h2, h2', h3, h4⟩ :=
        flagged_loop_spec p n f pr.size fuel 0 hf (pr.setIfInBounds 0 p) (ix.setIfInBounds 0 n)
          (fl.setIfInBounds 0 f) (zip3_set ..) Array.size_setIfInBounds
          (Array.size_setIfInBounds.trans hs.symm) (Array.size_setIfInBounds.trans hs'.symm) hk
      rw [sift_set_hole] at h4
      rw [Int.natCast_zero] at hl
      simp only [hge, hm, ↓reduceIte, Option.bind_some,
        wr_zero pr p hk, wr_zero ix n (hs ▸ hk), wr_zero fl f (hs' ▸ hk), hl, wr_lt pr' i' p (h1 ▸ h3),
        wr_lt ix' i' n (h2 ▸ h3), wr_lt fl' i' f (h2' ▸ h3)]
      exact ⟨_, _, _, rfl, Array.size_setIfInBounds.trans h1, Array.size_setIfInBounds.trans (h2.trans hs),
        Array.size_setIfInBounds.trans (h2'.trans hs'), h4⟩

/-- the outcome of the swap loop of `siftdown` holds the row `r` in two arrays of `size` slots -/
def Holds2 {ρ : Type} (size : Nat) (out : Option (LoopOut (Int × Array P × Array Int) ρ)) (r : Row P) : Prop :=
  ∃ e' h1' h2', out = some (.next (e', h1', h2')) ∧ h1'.size = size ∧ h2'.size = size ∧ zip2 h1' h2' = r

omit [LE P] [DecidableLE P] in
/-- **Swap loop** (`siftdown.loop0`): stays in bounds, ends by `break`, arrays = `siftdownSwap` over the
whole row. -/
theorem siftdown_loop_spec (n : Nat) : ∀ (fuel elt : Nat), n - elt < fuel → ∀ (h1 : Array P) (h2 : Array Int) {r : Row P},
    zip2 h1 h2 = r → h1.size = n → h2.size = n →
    Holds2 n (siftdown.loop0 fuel (elt : Int) h1 h2) (siftdownSwap r n elt) := by
  refine descent_loop fun fuel elt ih h1 h2 r hr hp hx => ?_
  subst hr hp
  have hz : (zip2 h1 h2).size = h1.size := zip2_size_eq rfl hx
  have l1 : elt < 2*elt+1 := lt_of_child (.inl rfl)
  have l2 : elt < 2*elt+2 := lt_of_child (.inr rfl)
  -- swapping `elt` with its child `c` and going on from `c` is the induction hypothesis
  have step := fun c (hec : elt < c) (hc : c < h1.size) =>
    ih c hec hc (h1.swap elt c (Nat.lt_trans hec hc) hc) (h2.swap elt c (hx ▸ Nat.lt_trans hec hc) (hx ▸ hc))
      (zip2_swap ..) Array.size_swap (Array.size_swap.trans hx)
  have stay : Holds2 (ρ := Array P × Array Int) h1.size (some (.next ((elt : Int), h1, h2))) (zip2 h1 h2) :=
    ⟨_, h1, h2, rfl, rfl, hx, rfl⟩
  rw [siftdownSwap]
  rcases Nat.lt_or_ge (2*elt+1) h1.size with hl | hl
  · have he : elt < h1.size := Nat.lt_trans l1 hl
    have he' : elt < h2.size := hx ▸ he
    have hl' : 2*elt+1 < h2.size := hx ▸ hl
    have ne1 : ¬ 2*elt+1 = elt := Nat.ne_of_gt l1
    rcases Nat.lt_or_ge (2*elt+2) h1.size with hr | hr
    · have hr' : 2*elt+2 < h2.size := hx ▸ hr
      have ne2 : ¬ 2*elt+2 = elt := Nat.ne_of_gt l2
      simp only [siftdown.loop0, child_cast', cursor_succ, Int.ofNat_lt, Int.natCast_inj, hl, hr, ne1, ne2,
        ↓reduceIte, ↓reduceDIte, rd_lt _ _ he, rd_lt _ _ he', rd_lt _ _ hl, rd_lt _ _ hl', rd_lt _ _ hr,
        rd_lt _ _ hr', wr_swap _ _ _ he hl, wr_swap _ _ _ he' hl', wr_swap _ _ _ he hr, wr_swap _ _ _ he' hr',
        Option.bind_eq_bind, Option.bind_some, Option.pure_def, hz, Nat.le_refl, and_self, zip2_getElem]
      exact ite_rel (Holds2 h1.size)
        (fun _ => ite_rel _ (fun _ => step (2*elt+2) l2 hr) (fun _ => step (2*elt+1) l1 hl))
        (fun _ => ite_rel _ (fun _ => step (2*elt+2) l2 hr) (fun _ => stay))
    · simp only [siftdown.loop0, child_cast', cursor_succ, Int.ofNat_lt, Int.natCast_inj, hl,
        Nat.not_lt.mpr hr, ne1, ↓reduceIte, ↓reduceDIte, rd_lt _ _ he, rd_lt _ _ he', rd_lt _ _ hl,
        rd_lt _ _ hl', wr_swap _ _ _ he hl, wr_swap _ _ _ he' hl', Option.bind_eq_bind, Option.bind_some,
        Option.pure_def, hz, Nat.le_refl, and_self, zip2_getElem]
      exact ite_rel (Holds2 h1.size) (fun _ => step (2*elt+1) l1 hl) (fun _ => stay)
  · simp only [siftdown.loop0, child_cast', Int.ofNat_lt, Nat.not_lt.mpr hl, ↓reduceIte, ↓reduceDIte,
      Option.pure_def, hz, false_and]
    exact stay

omit [LE P] [DecidableLE P] in
theorem siftdown_refines (h1 : Array P) (h2 : Array Int) (elt : Int) (fuel : Nat)
    (hs : h1.size = h2.size) (he : 0 ≤ elt) (hf : h1.size < fuel) :
    ∃ h1' h2', GenK.siftdown fuel h1 h2 elt = some (h1', h2')
      ∧ h1'.size = h1.size ∧ h2'.size = h2.size
      ∧ zip2 h1' h2' = siftdownSwap (zip2 h1 h2) h1.size elt.toNat := by
  obtain ⟨e', h1', h2', hl, a1, a2, a3⟩ :=
    siftdown_loop_spec h1.size fuel elt.toNat (Nat.lt_of_le_of_lt (Nat.sub_le _ _) hf) h1 h2 rfl rfl hs.symm
  rw [Int.toNat_of_nonneg he] at hl
  unfold GenK.siftdown
  simp only [hl, Option.bind_eq_bind, Option.bind_some]
  exact ⟨h1', h2', rfl, a1, a2.trans hs, a3⟩

/-- without fuel nothing runs: some fuel bound is needed (`size + 1` is sufficient, not tight) -/
theorem siftdown_no_fuel (h1 : Array P) (h2 : Array Int) (elt : Int) :
    GenK.siftdown 0 h1 h2 elt = none := by
  simp [GenK.siftdown, siftdown.loop0]

/-- Feed the candidates `offers` (candidate `n` at distance `d n`) one after the other through the
**translated** `checked_heap_push`, threading the two arrays; `none` as soon as one call leaves an array
or runs out of fuel. -/
def kernelRun (fuel : Nat) (d : Nat → P) : List Nat → Array P → Array Int → Option (Array P × Array Int)
  | [], pr, ix => some (pr, ix)
  | n :: rest, pr, ix =>
    match GenK.checked_heap_push fuel pr ix (d n) (n : Int) with
    | some (pr', ix', _) => kernelRun fuel d rest pr' ix'
    | none => none

theorem kernelRun_refines (fuel k : Nat) (d : Nat → P) (hk : 0 < k) (hf : k < fuel) :
    ∀ (offers : List Nat) (pr : Array P) (ix : Array Int), pr.size = k → ix.size = k →
    ∃ pr' ix', kernelRun fuel d offers pr ix = some (pr', ix') ∧ pr'.size = k ∧ ix'.size = k ∧
      zip2 pr' ix' = (offers.map (fun n => (n, false))).foldl
        (fun h o => (push true h (d o.1) o.1 o.2).1) (zip2 pr ix) := by
  intro offers
  induction offers with
  | nil => intro pr ix hp hx; exact ⟨pr, ix, rfl, hp, hx, rfl⟩
  | cons n rest ih =>
    intro pr ix hp hx
    obtain ⟨pr1, ix1, h1, s1, s2, hz⟩ :=
      checked_heap_push_refines pr ix (d n) n fuel (hp.trans hx.symm) (hp ▸ hk) (hp ▸ hf)
    obtain ⟨pr2, ix2, h2, t⟩ := ih pr1 ix1 (s1.trans hp) (s2.trans hx)
    rw [hz] at t
    exact ⟨pr2, ix2, by simp only [kernelRun, h1, h2], t⟩

/-- offers `(candidate, new?)` through the translated `checked_flagged_heap_push` (flag byte `1`/`0`),
threading the three arrays -/
def kernelRunFlagged (fuel : Nat) (d : Nat → P) :
    List (Nat × Bool) → Array P → Array Int → Array Int → Option (Array P × Array Int × Array Int)
  | [], pr, ix, fl => some (pr, ix, fl)
  | o :: rest, pr, ix, fl =>
    match GenK.checked_flagged_heap_push fuel pr ix fl (d o.1) (o.1 : Int) (if o.2 then 1 else 0) with
    | some (pr', ix', fl', _) => kernelRunFlagged fuel d rest pr' ix' fl'
    | none => none

theorem kernelRunFlagged_refines (fuel k : Nat) (d : Nat → P) (hk : 0 < k) (hf : k < fuel) :
    ∀ (offers : List (Nat × Bool)) (pr : Array P) (ix fl : Array Int), pr.size = k → ix.size = k → fl.size = k →
    ∃ pr' ix' fl', kernelRunFlagged fuel d offers pr ix fl = some (pr', ix', fl') ∧
      pr'.size = k ∧ ix'.size = k ∧ fl'.size = k ∧
      zip3 pr' ix' fl' = offers.foldl (fun h o => (push true h (d o.1) o.1 o.2).1) (zip3 pr ix fl) := by
  intro offers
  induction offers with
  | nil => intro pr ix fl hp hx hl; exact ⟨pr, ix, fl, rfl, hp, hx, hl, rfl⟩
  | cons o rest ih =>
    intro pr ix fl hp hx hl
    obtain ⟨pr1, ix1, fl1, h1, s1, s2, s3, hz⟩ := checked_flagged_heap_push_refines pr ix fl (d o.1) o.1
      (if o.2 then 1 else 0) fuel (hp.trans hx.symm) (hp.trans hl.symm) (hp ▸ hk) (hp ▸ hf)
    have hb : ((if o.2 then 1 else 0 : Int) != 0) = o.2 := by cases o.2 <;> rfl
    obtain ⟨pr2, ix2, fl2, h2, t⟩ := ih pr1 ix1 fl1 (s1.trans hp) (s2.trans hx) (s3.trans hl)
    rw [hz, hb] at t
    exact ⟨pr2, ix2, fl2, by simp only [kernelRunFlagged, h1, h2], t⟩

/-- offers through the translated `simple_heap_push` -/
def kernelRunSimple (fuel : Nat) (d : Nat → P) : List Nat → Array P → Array Int → Option (Array P × Array Int)
  | [], pr, ix => some (pr, ix)
  | n :: rest, pr, ix =>
    match GenK.simple_heap_push fuel pr ix (d n) (n : Int) with
    | some (pr', ix', _) => kernelRunSimple fuel d rest pr' ix'
    | none => none

theorem kernelRunSimple_refines (fuel k : Nat) (d : Nat → P) (hk : 0 < k) (hf : k < fuel) :
    ∀ (offers : List Nat) (pr : Array P) (ix : Array Int), pr.size = k → ix.size = k →
    ∃ pr' ix', kernelRunSimple fuel d offers pr ix = some (pr', ix') ∧ pr'.size = k ∧ ix'.size = k ∧
      zip2 pr' ix' = (offers.map (fun n => (n, false))).foldl
        (fun h o => (push false h (d o.1) o.1 o.2).1) (zip2 pr ix) := by
  intro offers
  induction offers with
  | nil => intro pr ix hp hx; exact ⟨pr, ix, rfl, hp, hx, rfl⟩
  | cons n rest ih =>
    intro pr ix hp hx
    obtain ⟨pr1, ix1, h1, s1, s2, hz⟩ :=
      simple_heap_push_refines pr ix (d n) n fuel (hp.trans hx.symm) (hp ▸ hk) (hp ▸ hf)
    obtain ⟨pr2, ix2, h2, t⟩ := ih pr1 ix1 (s1.trans hp) (s2.trans hx)
    rw [hz] at t
    exact ⟨pr2, ix2, by simp only [kernelRunSimple, h1, h2], t⟩

end Pynn
