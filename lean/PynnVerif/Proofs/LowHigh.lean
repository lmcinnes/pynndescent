import PynnVerif.Proofs.RowWise
import PynnVerif.Proofs.DescentInv

/-! # The high-memory application equals the low-memory one

`apply_graph_updates_high_memory` keeps, per row, a record `in_graph[r]` of every candidate that
was ever in the row and skips a push whose candidate is recorded.  A skipped push is one the heap
would have rejected: the candidate is still held (duplicate rejection), or it was evicted — when
it was the root — and the root only decreases, so its distance is `≥` the current root (far
rejection).  `InGraphInv` states exactly this; it needs the rows to be heaps that store true
distances (`HeapTruth`, the part of `GraphInv` used here).  A state of the high-memory path with
both (`HighOk`) simulates the low-memory path: its graph and change count are the low-memory
ones, one guarded push, update, block and iteration at a time (`…_sim`).
-/
namespace Pynn
variable {P : Type} [LinearOrder P]
variable {C : Type} [LE C] [LT C] [DecidableLE C] [DecidableLT C]

/-! ## the two invariants -/

/-- every row is a max-heap whose real entries carry their true distance (part of `GraphInv`) -/
def HeapTruth (dist : Nat → Nat → P) (g : Graph P) : Prop :=
  ∀ r row, g[r]? = some row →
    IsHeap row ∧ ∀ e ∈ row, 0 ≤ e.idx → e.prio = dist r e.idx.toNat

theorem GraphInv.heapTruth {top : P} {n k : Nat} {dist : Nat → Nat → P} {g : Graph P}
    (h : GraphInv top n k dist g) : HeapTruth dist g := by
  intro r row hr
  obtain ⟨hlt, rfl⟩ := Array.getElem?_eq_some_iff.mp hr
  exact ⟨h.heap r hlt, h.truth r hlt⟩

/-- every recorded real candidate of row `p` is held by the row or is at least as far as the
row's root -/
def InGraphInv (dist : Nat → Nat → P) (g : Graph P) (s : InGraph) : Prop :=
  s.size = g.size ∧
  ∀ p row, g[p]? = some row → ∀ q : Int, s.has p q = true → 0 ≤ q →
    (∃ e ∈ row, e.idx = q) ∨ ∀ hk : 0 < row.size, row[0].prio ≤ dist p q.toNat

/-- `HeapTruth` and the second part of `InGraphInv` say the same thing of every row: they are
`AllRows` of a row predicate, and go through the kernels by the `AllRows` lemmas -/
theorem HeapTruth.allRows {dist : Nat → Nat → P} {g : Graph P} (h : HeapTruth dist g) :
    AllRows (fun r row => IsHeap row ∧ ∀ e ∈ row, 0 ≤ e.idx → e.prio = dist r e.idx.toNat) g := h

theorem InGraphInv.allRows {dist : Nat → Nat → P} {g : Graph P} {s : InGraph}
    (h : InGraphInv dist g s) :
    AllRows (fun p row => ∀ q : Int, s.has p q = true → 0 ≤ q → Covered row q (dist p q.toNat)) g :=
  h.2

/-! ## the initial record -/

theorem initInGraph_inv (dist : Nat → Nat → P) (g : Graph P) : InGraphInv dist g (initInGraph g) := by
  refine ⟨by simp [initInGraph], ?_⟩
  intro p row hp q hq _
  left
  obtain ⟨l, hl, hmem⟩ := (InGraph.has_iff _ _ _).mp hq
  simp only [initInGraph, Array.getElem?_map, hp, Option.map_some, Option.some.injEq] at hl
  subst hl
  obtain ⟨e, he, heq⟩ := List.mem_map.mp hmem
  exact ⟨e, Array.mem_toList_iff.mp he, heq⟩

/-! ## one push -/

/-- **A recorded candidate is rejected**: the high-memory path loses nothing by skipping it. -/
theorem pushInto_recorded {dist : Nat → Nat → P} {g : Graph P} {s : InGraph}
    (hI : InGraphInv dist g s) (p q : Nat) (hrec : s.has p (q : Int) = true) (f : Bool) :
    pushInto g p (dist p q) (q : Int) f = (g, false) := by
  by_cases hp : p < g.size
  · have hc := hI.allRows p g[p] (Array.getElem?_eq_getElem hp) q hrec (Int.natCast_nonneg q)
    rw [Int.toNat_natCast] at hc
    rw [pushInto_lt g p hp, hc.push_eq f]
    simp
  · exact pushInto_oob g p _ _ f (Nat.le_of_not_lt hp)

theorem heapTruth_pushClosed (dist : Nat → Nat → P) :
    PushClosed (HeapTruth dist) (fun r d q => d = dist r q.toNat) := by
  intro g r d q f hg hd
  refine hg.allRows.pushInto r d q f
    (fun row _ h => ⟨push_heap _ _ _ _ _ h.1, fun e he hidx => ?_⟩) (fun _ _ _ h => h)
  rcases push_mem true row d q f e he with rfl | he'
  · exact hd
  · exact h.2 e he' hidx

/-- **After an accepted push and the record update the record invariant still holds**: recorded
candidates stay covered (`Covered.push`: rows store true distances), the new one is held; other
rows are untouched. -/
theorem pushInto_inGraphInv_accept {dist : Nat → Nat → P} {g : Graph P} {s : InGraph}
    (hH : HeapTruth dist g) (hI : InGraphInv dist g s) (r q : Nat) (d : P)
    (hacc : (pushInto g r d (q : Int) true).2 = true) :
    InGraphInv dist (pushInto g r d (q : Int) true).1 (s.add r (q : Int)) := by
  refine ⟨by simp [hI.1], AllRows.pushInto (fun p row hp => And.intro (hH p row hp) (hI.allRows p row hp))
    r d q true ?_ ?_⟩
  · intro row hrow ⟨⟨hheap, htruth⟩, hrec⟩ q' hq' hq0
    rcases (InGraph.has_add _ _ _ _ _).mp hq' with hold | ⟨_, _, rfl⟩
    · exact Covered.push (hrec q' hold hq0) hheap
        (fun e he heq => le_of_eq (heq ▸ htruth e he (heq ▸ hq0))) true d q true
    · rw [pushInto_snd, hrow] at hacc
      exact Or.inl ⟨_, push_accept_mem true row d q true hacc, rfl⟩
  · intro p row hpr ⟨_, hrec⟩ q' hq' hq0
    rcases (InGraph.has_add _ _ _ _ _).mp hq' with hold | ⟨h1, _, _⟩
    · exact hrec q' hold hq0
    · exact absurd h1 hpr

/-! ## flag-only changes (`new_build_candidates`) keep both invariants -/

omit [LE C] [LT C] [DecidableLE C] [DecidableLT C] in
theorem HeapTruth.clearFlags {dist : Nat → Nat → P} {g : Graph P} (h : HeapTruth dist g)
    (c : Cands C) : HeapTruth dist (clearFlags g c) := by
  refine h.allRows.clearFlags (fun r row φ hφ hrow => ⟨isHeap_map_keepsKey φ hφ hrow.1, ?_⟩) c
  intro e he hidx
  obtain ⟨e0, he0, rfl⟩ := Array.mem_map.mp he
  rw [(hφ e0).2] at hidx ⊢
  rw [(hφ e0).1]
  exact hrow.2 e0 he0 hidx

omit [LE C] [LT C] [DecidableLE C] [DecidableLT C] in
theorem InGraphInv.clearFlags {dist : Nat → Nat → P} {g : Graph P} {s : InGraph}
    (h : InGraphInv dist g s) (c : Cands C) : InGraphInv dist (clearFlags g c) s := by
  refine ⟨by rw [h.1, clearFlags_size], h.allRows.clearFlags (fun p row φ hφ hrow q hq hq0 => ?_) c⟩
  rcases hrow q hq hq0 with ⟨e, he, heq⟩ | hfar
  · exact Or.inl ⟨φ e, Array.mem_map.mpr ⟨e, he, rfl⟩, by rw [(hφ e).2, heq]⟩
  · right
    intro hk'
    simp only [Array.size_map] at hk'
    simp only [Array.getElem_map, (hφ _).1]
    exact hfar hk'

/-! ## the high-memory path simulates the low-memory one -/

/-- a state of the high-memory path whose rows are heaps with true distances and whose record is
valid; its first component is then the state of the low-memory path (`…_sim` below) -/
def HighOk (dist : Nat → Nat → P) (acc : (Graph P × Nat) × InGraph) : Prop :=
  HeapTruth dist acc.1.1 ∧ InGraphInv dist acc.1.1 acc.2

theorem guardedPush_sim {dist : Nat → Nat → P} {acc : (Graph P × Nat) × InGraph}
    (h : HighOk dist acc) (r q : Nat) (d : P) (hd : d = dist r q) :
    HighOk dist (guardedPush acc r d q) ∧
      (guardedPush acc r d q).1 = stepC acc.1 (r, d, (q : Int)) := by
  obtain ⟨⟨g, c⟩, s⟩ := acc
  obtain ⟨hH, hI⟩ := h
  dsimp only at hH hI
  unfold guardedPush stepC
  dsimp only
  by_cases hrec : s.has r (q : Int) = true
  · rw [if_pos hrec, hd, pushInto_recorded hI r q hrec true]
    exact ⟨⟨hH, hI⟩, rfl⟩
  · rw [if_neg hrec]
    cases hacc : (pushInto g r d (q : Int) true).2
    · rw [pushInto_reject g r d q true hacc]
      exact ⟨⟨hH, hI⟩, rfl⟩
    · exact ⟨⟨heapTruth_pushClosed dist g r d q true hH (hd.trans (by rw [Int.toNat_natCast])),
        pushInto_inGraphInv_accept hH hI r q d hacc⟩, rfl⟩

theorem stepC_twice (acc : Graph P × Nat) (x : Nat × P × Int) :
    stepC (stepC acc x) x = stepC acc x := by
  simp [stepC, pushInto_twice]

/-- **High-memory application = sequential application** (graph and change count), and the state
is valid again afterwards.  For the self pair `p = q` the one guarded push stands for two equal
counted pushes, the second of which is a no-op. -/
theorem applyHigh_sim {dist : Nat → Nat → P} (hsymm : ∀ a b, dist a b = dist b a)
    (g : Graph P) (ups : List (Upd P)) (s : InGraph) (h : HighOk dist ((g, 0), s))
    (hT : Truthful dist ups) :
    HighOk dist (applyHigh g ups s) ∧ (applyHigh g ups s).1 = applySeq g ups := by
  rw [applyHigh_eq_foldl_highStep, applySeq, pushesOf, List.foldl_flatMap]
  refine List.foldl_rel (r := fun hi lo => HighOk dist hi ∧ hi.1 = lo) ⟨h, rfl⟩ ?_
  rintro u hu acc _ ⟨hacc, rfl⟩
  obtain ⟨h1, e1⟩ := guardedPush_sim hacc u.p u.q u.d (hT u hu)
  rw [List.foldl_cons, List.foldl_cons, List.foldl_nil, highStep]
  split
  · rename_i hpq
    rw [← hpq, stepC_twice]
    rw [← hpq] at h1 e1
    exact ⟨h1, e1⟩
  · rw [← e1]
    exact guardedPush_sim h1 u.q u.p u.d (by rw [hT u hu, hsymm])

/-- **High-memory application = low-memory application with any positive thread count.** -/
theorem applyHigh_eq_applyLow_of_heapTruth {dist : Nat → Nat → P} (hsymm : ∀ a b, dist a b = dist b a)
    (T : Nat) (hT : 0 < T) (g : Graph P) (ups : List (Upd P)) (s : InGraph)
    (hH : HeapTruth dist g) (hI : InGraphInv dist g s) (hTr : Truthful dist ups) :
    (applyHigh g ups s).1 = applyLow T g ups ∧
    HeapTruth dist (applyHigh g ups s).1.1 ∧
    InGraphInv dist (applyHigh g ups s).1.1 (applyHigh g ups s).2 := by
  obtain ⟨h, e⟩ := applyHigh_sim hsymm g ups s ⟨hH, hI⟩ hTr
  exact ⟨by rw [applyLow_eq_applySeq T hT, e], h.1, h.2⟩

/-! ## truthful update lists -/

omit [LinearOrder P] in
theorem truthful_flatMap {α : Type} (dist : Nat → Nat → P) (l : List α) (f : α → List (Upd P))
    (h : ∀ a ∈ l, Truthful dist (f a)) : Truthful dist (l.flatMap f) := by
  intro u hu
  obtain ⟨a, ha, hua⟩ := List.mem_flatMap.mp hu
  exact h a ha u hua

/-! ## one iteration: `processBlocks` -/

theorem processBlocks_sim (top : P) {dist : Nat → Nat → P} (hsymm : ∀ a b, dist a b = dist b a)
    (cfg : Cfg) (hT : 0 < cfg.nThreads) (newC oldC : List (List Int)) (g : Graph P) (sL s : InGraph)
    (h : HighOk dist ((g, 0), s)) :
    HighOk dist (processBlocks top dist { cfg with lowMemory := false } g newC oldC s) ∧
    ((processBlocks top dist { cfg with lowMemory := false } g newC oldC s).1, sL) =
      processBlocks top dist { cfg with lowMemory := true } g newC oldC sL := by
  rw [processBlocks_eq_blockStep, processBlocks_eq_blockStep]
  -- one block: the low-memory mode does to `(acc.1, sL)` what the high-memory mode does to a valid
  -- `acc`, and leaves its (unused) record `sL` untouched
  refine List.foldl_rel (r := fun hi lo => HighOk dist hi ∧ (hi.1, sL) = lo) ⟨h, rfl⟩ ?_
  rintro block _ acc _ ⟨hacc, rfl⟩
  obtain ⟨h1, e1⟩ := applyHigh_sim hsymm acc.1.1 _ acc.2 hacc
    (truthful_flatMap dist block (fun no => joinUpdates (threshold top acc.1.1) dist no.1 no.2)
      (fun no _ u hu => (joinUpdates_truthful _ _ _ _ u hu).1))
  simp only [blockStep, ↓reduceIte, Bool.false_eq_true, applyLow_eq_applySeq _ hT, ← e1]
  exact ⟨h1, trivial⟩

/-! ## the iteration loop -/

/-- **The iteration loop does the same in both modes.**  The low-memory run carries an unused
record `sL`; the high-memory run carries `s` with `InGraphInv`. -/
theorem descentLoop_low_high (top : P) (ctop : C) (draw : RngState → C × RngState)
    {dist : Nat → Nat → P} (hsymm : ∀ a b, dist a b = dist b a) (cfg : Cfg) (hT : 0 < cfg.nThreads)
    (stop : Nat → Bool) (rng : RngState) (it : Nat) (g : Graph P) (sL s : InGraph)
    (hH : HeapTruth dist g) (hI : InGraphInv dist g s) :
    descentLoop top ctop draw dist { cfg with lowMemory := true } stop rng it g sL =
      descentLoop top ctop draw dist { cfg with lowMemory := false } stop rng it g s := by
  induction it generalizing g sL s with
  | zero => rfl
  | succ it ih =>
    simp only [descentLoop]
    have hr := newBuildCandidates_snd ctop draw g cfg.maxCand rng cfg.nThreads
    generalize newBuildCandidates ctop draw g cfg.maxCand rng cfg.nThreads = r at hr ⊢
    obtain ⟨nc, hnc⟩ := hr
    obtain ⟨h, e⟩ := processBlocks_sim top hsymm cfg hT r.1.1 r.1.2 r.2 sL s
      ⟨hnc ▸ hH.clearFlags nc, hnc ▸ hI.clearFlags nc⟩
    rw [← e]
    congr 1
    exact ih _ _ _ h.1 h.2

/-! ## the initialisations establish `HeapTruth` -/

theorem mkGraph_heapTruth (top : P) (n k : Nat) (dist : Nat → Nat → P) :
    HeapTruth dist (mkGraph top n k) :=
  AllRows.mkGraph top n k fun r _ => ⟨mkRow_isHeap top k, fun e he hidx => by
    rw [mem_mkRow he] at hidx
    exact absurd hidx (by decide : ¬ (0 : Int) ≤ -1)⟩

theorem startGraph_heapTruth (top : P) {dist : Nat → Nat → P} (hsymm : ∀ a b, dist a b = dist b a)
    (n : Nat) (cfg : Cfg) (rng : RngState) (init : Option (Graph P))
    (hinit : ∀ g, init = some g → HeapTruth dist g) (rp : Bool) (leafArray : List (List Int)) :
    HeapTruth dist (startGraph top dist n cfg rng init rp leafArray).1 :=
  startGraph_lift (heapTruth_pushClosed dist) top dist n cfg rng init rp leafArray hinit
    (mkGraph_heapTruth top n cfg.k dist)
    (fun thr row _ u hu => by
      have := (leafUpdates_truthful thr dist row u hu).1
      exact ⟨by simpa using this, by simpa [hsymm u.q] using this⟩)
    (fun i idx _ _ => by simpa using hsymm idx i)

end Pynn
