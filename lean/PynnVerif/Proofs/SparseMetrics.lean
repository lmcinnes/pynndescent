import PynnVerif.Proofs.SparseIndex
import Mathlib.Algebra.Order.Ring.Abs
import Mathlib.Algebra.Field.Defs

/-! # Sparse metrics on encodings equal the dense metrics (helpers for C08): `absV` / `maxV`, sign of
the accumulators, what is used of `sqrt`, the accumulators of the ring metrics, `canberra`'s lists -/
namespace Pynn.Sparse
variable {α : Type}

section OrderMetrics
variable [LinearOrder α]

theorem maxV_eq_max (r v : α) : maxV r v = max r v := by
  unfold maxV; split
  · rename_i h; rw [max_eq_right (le_of_lt h)]
  · rename_i h; rw [max_eq_left (not_lt.1 h)]

section
variable [Zero α]

theorem maxV_nonneg {r v : α} (hr : 0 ≤ r) (hv : 0 ≤ v) : 0 ≤ maxV r v := by
  unfold maxV; split <;> assumption

theorem maxV_zero {r : α} (hr : 0 ≤ r) : maxV r 0 = r := by
  unfold maxV; rw [if_neg (not_lt.2 hr)]

theorem absV_zero [Neg α] : absV (0 : α) = 0 := if_neg (lt_irrefl 0)

end

variable [Ring α]

theorem absV_eq_abs [IsStrictOrderedRing α] (v : α) : absV v = |v| := by
  unfold absV; split
  · rename_i h; rw [abs_of_neg h]
  · rename_i h; rw [abs_of_nonneg (not_lt.1 h)]

theorem absV_nonneg [IsStrictOrderedRing α] (v : α) : 0 ≤ absV v := by
  rw [absV_eq_abs]; exact abs_nonneg v

theorem absV_eq_zero_iff [IsStrictOrderedRing α] (v : α) : absV v = 0 ↔ v = 0 := by
  rw [absV_eq_abs, abs_eq_zero]

end OrderMetrics

/-! the square root is any function that is multiplicative and vanishes only at 0 on non-negative
arguments (e.g. `Real.sqrt`) -/
section Sqrt
variable [Field α] [LinearOrder α] [IsStrictOrderedRing α]

/-- what is used of `sqrt` -/
structure IsSqrt (s : α → α) : Prop where
  mul : ∀ u v : α, 0 ≤ u → 0 ≤ v → s (u * v) = s u * s v
  eq_zero : ∀ u : α, 0 ≤ u → (s u = 0 ↔ u = 0)

theorem foldl_add_nonneg {γ : Type} (t : γ → α) (ht : ∀ p, 0 ≤ t p) (l : List γ) (r0 : α)
    (h0 : 0 ≤ r0) : 0 ≤ l.foldl (fun r p => r + t p) r0 := by
  induction l generalizing r0 with
  | nil => exact h0
  | cons p l ih => exact ih _ (add_nonneg h0 (ht p))

theorem foldl_sq_nonneg {γ : Type} (f : γ → α) (l : List γ) (r0 : α) (h0 : 0 ≤ r0) :
    0 ≤ l.foldl (fun r p => r + f p * f p) r0 :=
  foldl_add_nonneg (fun p => f p * f p) (fun _ => mul_self_nonneg _) l r0 h0

end Sqrt

section RingMetrics
variable [Ring α]

theorem powN_zero_of_pos {p : Nat} (hp : 1 ≤ p) : powN (0 : α) p = 0 := by
  cases p with
  | zero => exact absurd hp (Nat.not_succ_le_zero 0)
  | succ k => simp [powN]

variable [DecidableEq α]

theorem sqEuclidean_enc (x y : List α) (h : x.length = y.length) :
    sqEuclidean (enc x) (enc y) = Dense.sqEuclidean x y :=
  foldl_merge_enc (fun r d : α => r + d * d) (fun r => by rw [mul_zero, add_zero]) _ (sparseDiff_enc x y h) 0

theorem mulSum_enc (x y : List α) (h : x.length = y.length) :
    mulSum (enc x) (enc y) = Dense.dot x y :=
  foldl_merge_enc (fun r d : α => r + d) add_zero _ (sparseMul_enc x y h) 0

theorem normSq_enc (x : List α) : normSq (enc x) = Dense.normSq x :=
  foldl_enc (fun r d : α => r + d * d) (fun r => by rw [mul_zero, add_zero]) x 0

theorem dataSum_enc (x : List α) : dataSum (enc x) = Dense.sum x :=
  foldl_enc (fun r d : α => r + d) add_zero x 0

theorem hellingerSum_enc (sqrt : α → α) (h0 : sqrt 0 = 0) (x y : List α) (h : x.length = y.length) :
    hellingerSum sqrt (enc x) (enc y) = Dense.hellingerSum sqrt x y :=
  foldl_merge_enc (fun r d : α => r + sqrt d) (fun r => by rw [h0, add_zero]) _ (sparseMul_enc x y h) 0

end RingMetrics

section Canberra
variable [Field α] [LinearOrder α]

theorem canberra_lists (x y : List α) :
    List.zipWith (· * ·) ((List.zipWith (· - ·) x y).map absV)
        ((List.zipWith (· + ·) (x.map absV) (y.map absV)).map (fun d => 1 / d))
      = (x.zip y).map (fun p => absV (p.1 - p.2) * (1 / (absV p.1 + absV p.2))) := by
  induction x generalizing y with
  | nil => rfl
  | cons u s ih =>
    cases y with
    | nil => rfl
    | cons v t => simp only [List.zipWith_cons_cons, List.map_cons, List.zip_cons_cons, ih]

end Canberra

end Pynn.Sparse
