import PynnVerif.Proofs.SparseMetrics
import Mathlib.Tactic.Ring

/-! # `sparse_correlation`'s accounting of the implicit zeros equals the dense centred sums
(helpers for C08).  The trap (defect D17 of pynndescent, DESIGN §6): a stored coordinate whose
centred value is exactly 0 is still a stored one, so `common` has to come from the index arrays
(`arr_intersect`), not from the non-zero products of `sparse_mul`; `mem_common_enc` is that fact. -/
namespace Pynn.Sparse
variable {α : Type}

theorem sum_map_ite_const [NonAssocSemiring α] {γ : Type} (q : γ → Bool) (c : α) (l : List γ) :
    (l.map (fun p => if q p then c else 0)).sum = c * ((l.countP q : Nat) : α) := by
  induction l with
  | nil => simp
  | cons p l ih =>
    rw [List.map_cons, List.sum_cons, ih, List.countP_cons]
    by_cases hq : q p
    · simp [hq, mul_add, add_comm]
    · simp [hq]

/-- in `Int`, as the code counts: what a count leaves out is what the opposite test counts -/
theorem length_sub_countP {γ : Type} (q : γ → Bool) (l : List γ) :
    (l.length : Int) - (l.countP q : Nat) = (l.countP (fun a => ¬q a) : Nat) := by
  rw [List.length_eq_countP_add_countP q (l := l), Int.natCast_add, add_sub_cancel_left]

section Shift
variable [Sub α]

theorem sortedFrom_shiftV {lo : Nat} {a : SVec α} (m : α) (h : SortedFrom lo a) :
    SortedFrom lo (shiftV m a) := by
  induction a generalizing lo with
  | nil => trivial
  | cons p t ih => exact ⟨h.1, ih h.2⟩

variable [DecidableEq α] [Zero α]

theorem shiftV_keep (m : α) (k : Nat) (u : α) (rest : SVec α) :
    shiftV m (keep k u rest) = if u = 0 then shiftV m rest else (k, u - m) :: shiftV m rest := by
  unfold keep shiftV; split <;> rfl

/-- a shifted row holds `v - m` where the row stores a (non-zero) `v`, and nothing elsewhere -/
theorem decode_shiftV (m : α) {a : SVec α} (hz : NoZero a) (i : Nat) :
    decode (shiftV m a) i = if decode a i = 0 then 0 else decode a i - m := by
  induction a with
  | nil => exact (if_pos rfl).symm
  | cons p t ih =>
    obtain ⟨j, v⟩ := p
    obtain ⟨hv, hz⟩ := List.forall_mem_cons.1 hz
    show decode ((j, v - m) :: shiftV m t) i = _
    rw [decode_cons, decode_cons]
    by_cases hji : j = i
    · rw [if_pos hji, if_pos hji, if_neg hv]
    · rw [if_neg hji, if_neg hji]; exact ih hz

end Shift

section ShiftMul
variable [DecidableEq α] [Ring α]

/-- the sum over `sparse_mul(shifted1, shifted2)` is the sum of the centred products over the
coordinates stored in *both* rows: the product row is sorted, stores no zero and decodes to these
products, so it is their encoding (`eq_enc_zipWith`) -/
theorem mulSum_shift_enc (mx my : α) (x y : List α) (h : x.length = y.length) :
    mulSum (shiftV mx (enc x)) (shiftV my (enc y))
      = (x.zip y).foldl (fun r p =>
          r + (if p.1 = 0 then 0 else p.1 - mx) * (if p.2 = 0 then 0 else p.2 - my)) 0 := by
  have hx := sortedFrom_shiftV mx (sortedFrom_enc x)
  have hy := sortedFrom_shiftV my (sortedFrom_enc y)
  refine foldl_merge_enc (fun r d => r + d) add_zero
    (fun u v => (if u = 0 then 0 else u - mx) * (if v = 0 then 0 else v - my))
    (eq_enc_zipWith _ ?_ (sortedFrom_sparseMul hx hy) (noZero_sparseMul _ _) h (fun i => ?_)) 0
  · rw [if_pos rfl, zero_mul]
  · rw [decode_sparseMul hx hy, decode_shiftV mx (noZero_enc x), decode_shiftV my (noZero_enc y)]

/-- one correction loop of `sparse_correlation`: over the stored entries of one row, subtract
`shifted[i] * c` unless the index is in `common` — on the dense side, the coordinates stored in
this row and not in the other (`common` being any list that holds exactly the indices stored in
both) -/
theorem foldl_shift_notCommon (m c : α) (common : List Nat) (k : Nat) (x y : List α)
    (h : x.length = y.length)
    (hc : ∀ j, k + j ∈ common ↔ x.getD j 0 ≠ 0 ∧ y.getD j 0 ≠ 0) (r0 : α) :
    (shiftV m (encFrom k x)).foldl (fun r p => if p.1 ∈ common then r else r - p.2 * c) r0
      = (x.zip y).foldl (fun r p => r + if p.1 ≠ 0 ∧ p.2 = 0 then -((p.1 - m) * c) else 0) r0 := by
  induction x generalizing y k r0 with
  | nil => rfl
  | cons u s ih =>
    cases y with
    | nil => cases h
    | cons v t =>
      have hk : k ∈ common ↔ u ≠ 0 ∧ v ≠ 0 := hc 0
      have ht := ih (k + 1) t (Nat.succ.inj h)
        (fun j => by rw [Nat.add_assoc, Nat.add_comm 1 j]; exact hc (j + 1))
      rw [encFrom, shiftV_keep, List.zip_cons_cons, List.foldl_cons]
      by_cases hu : u = 0
      · rw [if_pos hu, if_neg (fun hh => hh.1 hu), add_zero]; exact ht _
      · rw [if_neg hu, List.foldl_cons, ht]
        by_cases hv : v = 0
        · rw [if_neg (fun hm => (hk.1 hm).2 hv), if_pos ⟨hu, hv⟩, sub_eq_add_neg]
        · rw [if_pos (hk.2 ⟨hu, hv⟩), if_neg (fun hh => hv hh.2), add_zero]

end ShiftMul

section Bookkeeping
variable [DecidableEq α] [Zero α]

theorem mem_common_enc (x y : List α) (j : Nat) :
    j ∈ arrIntersect (inds (enc x)) (inds (enc y)) ↔ x.getD j 0 ≠ 0 ∧ y.getD j 0 ≠ 0 := by
  rw [(arrIntersect_spec (incFrom_inds (sortedFrom_enc x)).pairwise (incFrom_inds (sortedFrom_enc y)).pairwise).2,
    mem_inds_iff (noZero_enc x), mem_inds_iff (noZero_enc y),
    decode_enc, decode_enc]

/-- `|arr_union(ind1, ind2)|` is the number of coordinates stored in at least one row:
`|union| + |common| = nnz₁ + nnz₂ = #(or) + #(and)` and `|common| = #(and)` -/
theorem length_arrUnion_enc (x y : List α) (h : x.length = y.length) :
    (arrUnion (inds (enc x)) (inds (enc y))).length
      = (x.zip y).countP (fun p => p.1 ≠ 0 ∨ p.2 ≠ 0) := by
  have h1 := arrUnion_length (incFrom_inds (sortedFrom_enc x)).pairwise
    (incFrom_inds (sortedFrom_enc y)).pairwise
  have h2 : ((inds (enc x)).filter (· ∈ inds (enc y))).length = _ := isect_count_encFrom 0 x y h
  rw [h2, length_inds, length_inds, length_enc, length_enc, countP_ne_zero_add x y h] at h1
  exact Nat.add_right_cancel h1

end Bookkeeping

/-! Method of both proofs: every loop becomes a sum `(l.map t).sum` over the dense coordinates
(`foldl_encFrom` and its kin, then `foldl_add_eq`), each constant correction the sum of an indicator
(`sum_map_ite_const`), the sums are merged into one (`sum_map_add`) and compared coordinate by
coordinate. -/
section Accumulators
variable [DecidableEq α] [CommRing α]

/-- **`norm ** 2`**: shifted stored entries plus `(n_features − nnz)·mu²` is the dense centred
sum of squares — for every constant `mu` -/
theorem corrNormSq_enc (mu : α) (x : List α) :
    corrNormSq mu (enc x) x.length = x.foldl (fun r u => r + (u - mu) * (u - mu)) 0 := by
  unfold corrNormSq normSq shiftV
  rw [List.foldl_map, length_enc, length_sub_countP, Int.cast_natCast]
  have h1 := foldl_encFrom (fun r v => r + (v - mu) * (v - mu))
    (fun r u => r + (if u = 0 then 0 else (u - mu) * (u - mu))) (fun _ => True)
    (fun _ _ _ => trivial) (by intro r _; rw [if_pos rfl, add_zero])
    (by intro r v hv; rw [if_neg hv]) 0 x (0 : α) trivial
  rw [enc, h1, foldl_add_eq, foldl_add_eq, zero_add, zero_add, mul_comm,
    ← sum_map_ite_const _ (mu * mu) x, sum_map_add]
  congr 1
  apply List.map_congr_left
  intro u _
  by_cases hu : u = 0
  · subst hu; simp
  · simp [hu]

/-- **`dot_product`**: the code's four-part accounting (common coordinates; coordinates stored
only in row 1; only in row 2; `n_features − |union|` coordinates stored in neither) is the dense
centred dot product — for all constants `mu_x`, `mu_y` -/
theorem corrDot_enc (mx my : α) (x y : List α) (h : x.length = y.length) :
    corrDot mx my (enc x) (enc y) x.length
      = (x.zip y).foldl (fun r p => r + (p.1 - mx) * (p.2 - my)) 0 := by
  have hc := mem_common_enc x y
  have hl : (x.zip y).length = x.length := by rw [List.length_zip, h, Nat.min_self]
  unfold corrDot
  simp only []  -- zeta-reduces the `let`s of `corrDot`
  rw [length_arrUnion_enc x y h, ← hl, length_sub_countP, Int.cast_natCast,
    mulSum_shift_enc mx my x y h, enc, enc,
    foldl_shift_notCommon mx my _ 0 x y h (fun j => by rw [Nat.zero_add]; exact hc j),
    foldl_shift_notCommon my mx _ 0 y x h.symm
      (fun j => by rw [Nat.zero_add]; exact (hc j).trans and_comm),
    foldl_zip_swap (fun r v u => r + if v ≠ 0 ∧ u = 0 then -((v - my) * mx) else 0) x y,
    foldl_add_eq, foldl_add_eq, foldl_add_eq, zero_add,
    ← sum_map_ite_const _ (mx * my) (x.zip y),
    sum_map_add, sum_map_add, sum_map_add, foldl_add_eq, zero_add]
  congr 1
  apply List.map_congr_left
  intro p _
  -- the four kinds of coordinate: stored in neither row, in the second only, the first only, both;
  -- `simp` leaves the second (`(p.2 - my) * mx = mx * (p.2 - my)`) to `ring`
  by_cases h1 : p.1 = 0 <;> by_cases h2 : p.2 = 0 <;> simp [h1, h2]
  ring

end Accumulators

section ZeroRow
variable [DecidableEq α] [Field α]

theorem dense_normSq_of_zero (y : List α) (c : α) (hy : enc y = []) :
    y.foldl (fun r v => r + (v - Dense.sum y / c) * (v - Dense.sum y / c)) 0 = 0 := by
  have hz := encFrom_eq_nil (k := 0) hy
  have hsum : Dense.sum y = 0 := foldl_zero_of_all_zero (fun v => v) y hz
  simp only [hsum, zero_div]
  apply foldl_zero_of_all_zero (fun u : α => (u - 0) * (u - 0))
  intro u hu
  rw [hz u hu]; simp

/-- the early returns of `sparse_correlation` on an empty row against the dense kernel on the
corresponding zero vector: the dense kernel has `dot_product = 0` and `norm_x = 0`, hence returns
`0` if the other vector is constant (`norm_y = 0`) and `1` otherwise -/
theorem dense_correlation_of_zero {s : α → α} (x y : List α) (hx : enc x = []) :
    Dense.correlation s x y = if (Dense.correlationParts x y).2.2 = 0 then 0 else 1 := by
  have hz := encFrom_eq_nil (k := 0) hx
  have hsum : Dense.sum x = 0 := foldl_zero_of_all_zero (fun v => v) x hz
  have hdot : (Dense.correlationParts x y).1 = 0 := by
    unfold Dense.correlationParts
    simp only [hsum, zero_div]
    apply foldl_zero_of_all_zero (fun p : α × α => (p.1 - 0) * (p.2 - Dense.sum y / (x.length : α)))
    intro p hp
    rw [hz p.1 (List.of_mem_zip hp).1]; simp
  have hnx : (Dense.correlationParts x y).2.1 = 0 := dense_normSq_of_zero x _ hx
  unfold Dense.correlation
  generalize Dense.correlationParts x y = parts at hdot hnx ⊢
  obtain ⟨d, nx, ny⟩ := parts
  simp only at hdot hnx ⊢
  subst hdot hnx
  by_cases hny : ny = 0 <;> simp [hny]

end ZeroRow

end Pynn.Sparse
