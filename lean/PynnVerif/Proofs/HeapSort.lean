import PynnVerif.Proofs.Heap

/-! # `deheap_sort`: swap-based sift-down and the final sort of a heap row -/
namespace Pynn
variable {P : Type} [LinearOrder P]

/-- Max-heap property restricted to the prefix of length `n` (said of `n ≤ a.size`; for a longer
`n` it holds of anything). -/
def HeapOn (a : Row P) (n : Nat) : Prop :=
  ∀ j (hj : j < n) (hn : n ≤ a.size), 0 < j → a[j].prio ≤ (a[(j-1)/2]'(by omega)).prio

theorem heapOn_iff (a : Row P) (n : Nat) (d : P) (hn : n ≤ a.size) :
    HeapOn a n ↔ HeapF (prioAt a d) n := by
  constructor
  · intro h j hj0 hj
    have hja : j < a.size := Nat.lt_of_lt_of_le hj hn
    rw [prioAt_lt a d hja, prioAt_lt a d (Nat.lt_trans (parent_lt hj0) hja)]
    exact h j hj hn hj0
  · intro h j hj _ hj0
    have hja : j < a.size := Nat.lt_of_lt_of_le hj hn
    have := h j hj0 hj
    rwa [prioAt_lt a d hja, prioAt_lt a d (Nat.lt_trans (parent_lt hj0) hja)] at this

/-- after the swap the hole is at `c`, and the entry in it is the one being sifted -/
theorem sds_move {a : Row P} {n e c : Nat} {d : P} (h : HoleF (prioAt a d) n e (prioAt a d e))
    (he : e < a.size) (hc : c = 2*e+1 ∨ c = 2*e+2) (hcn : c < n) (hn : n ≤ a.size)
    (h1 : ∀ h : 2*e+1 < n, (a[2*e+1]'(Nat.lt_of_lt_of_le h hn)).prio ≤ (a[c]'(Nat.lt_of_lt_of_le hcn hn)).prio)
    (h2 : ∀ h : 2*e+2 < n, (a[2*e+2]'(Nat.lt_of_lt_of_le h hn)).prio ≤ (a[c]'(Nat.lt_of_lt_of_le hcn hn)).prio)
    (hp : a[e].prio < (a[c]'(Nat.lt_of_lt_of_le hcn hn)).prio) :
    HoleF (prioAt (a.swap e c he (Nat.lt_of_lt_of_le hcn hn)) d) n c
      (prioAt (a.swap e c he (Nat.lt_of_lt_of_le hcn hn)) d c) := by
  have hcs : c < a.size := Nat.lt_of_lt_of_le hcn hn
  rw [prioAt_swap_right a d he hcs]
  refine h.move hc hcn (fun h => ?_) (fun h => ?_) ?_ (fun j hji hjc => prioAt_swap_ne a d he hcs hji hjc)
    (prioAt_swap_left a d he hcs)
  · rw [prioAt_lt a d (Nat.lt_of_lt_of_le h hn), prioAt_lt a d hcs]; exact h1 h
  · rw [prioAt_lt a d (Nat.lt_of_lt_of_le h hn), prioAt_lt a d hcs]; exact h2 h
  · rw [prioAt_lt a d he, prioAt_lt a d hcs]; exact le_of_lt hp

theorem sds_stop {a : Row P} {n e : Nat} {d : P} (h : HoleF (prioAt a d) n e (prioAt a d e))
    (he : e < a.size) (hn : n ≤ a.size)
    (h1 : ∀ h : 2*e+1 < n, (a[2*e+1]'(Nat.lt_of_lt_of_le h hn)).prio ≤ a[e].prio)
    (h2 : ∀ h : 2*e+2 < n, (a[2*e+2]'(Nat.lt_of_lt_of_le h hn)).prio ≤ a[e].prio) :
    HeapF (prioAt a d) n := by
  refine h.stop (fun h => ?_) (fun h => ?_) (fun j _ => rfl) rfl
  · rw [prioAt_lt a d (Nat.lt_of_lt_of_le h hn), prioAt_lt a d he]; exact h1 h
  · rw [prioAt_lt a d (Nat.lt_of_lt_of_le h hn), prioAt_lt a d he]; exact h2 h

/-- `siftdownSwap` is `sift` with the sifted entry kept in the hole: the same `HoleF` steps. -/
theorem sds_heapF (a : Row P) (n e : Nat) (d : P) (he : e < n) (hn : n ≤ a.size)
    (h : HoleF (prioAt a d) n e (prioAt a d e)) : HeapF (prioAt (siftdownSwap a n e) d) n := by
  fun_induction siftdownSwap a n e
  case case1 a e hcond hr h1 h2 ih =>
    exact ih hr (Nat.le_trans hn (Nat.le_of_eq (Array.size_swap ..).symm))
      (sds_move h (Nat.lt_of_lt_of_le he hn) (.inr rfl) hr hn (fun _ => le_of_lt h2) (fun _ => le_refl _) (lt_trans h1 h2))
  case case2 a e hcond hr h1 h2 ih =>
    exact ih hcond.1 (Nat.le_trans hn (Nat.le_of_eq (Array.size_swap ..).symm))
      (sds_move h (Nat.lt_of_lt_of_le he hn) (.inl rfl) hcond.1 hn (fun _ => le_refl _) (fun _ => not_lt.mp h2) h1)
  case case3 a e hcond hr h1 h2 ih =>
    exact ih hr (Nat.le_trans hn (Nat.le_of_eq (Array.size_swap ..).symm))
      (sds_move h (Nat.lt_of_lt_of_le he hn) (.inr rfl) hr hn (fun _ => le_trans (not_lt.mp h1) (le_of_lt h2))
        (fun _ => le_refl _) h2)
  case case4 a e hcond hr h1 h2 =>
    exact sds_stop h (Nat.lt_of_lt_of_le he hn) hn (fun _ => not_lt.mp h1) (fun _ => not_lt.mp h2)
  case case5 a e hcond hr h1 ih =>
    exact ih hcond.1 (Nat.le_trans hn (Nat.le_of_eq (Array.size_swap ..).symm))
      (sds_move h (Nat.lt_of_lt_of_le he hn) (.inl rfl) hcond.1 hn (fun _ => le_refl _) (fun h => absurd h hr) h1)
  case case6 a e hcond hr h1 =>
    exact sds_stop h (Nat.lt_of_lt_of_le he hn) hn (fun _ => not_lt.mp h1) (fun h => absurd h hr)
  case case7 a e hcond =>
    exact sds_stop h (Nat.lt_of_lt_of_le he hn) hn (fun h => absurd ⟨h, hn⟩ hcond)
      (fun h => absurd ⟨Nat.lt_of_succ_lt h, hn⟩ hcond)

/-- Loop invariant of `deheapLoop a j`: the prefix `[0, j]` is a heap, the suffix
`(j, size)` is ascending, and the prefix is bounded by the suffix. -/
structure LoopInv (a : Row P) (j : Nat) : Prop where
  heap : HeapOn a (j+1)
  sorted : ∀ x y (hx : x < a.size) (hy : y < a.size), j < x → x ≤ y → a[x].prio ≤ a[y].prio
  le : ∀ x y (hx : x < a.size) (hy : y < a.size), x ≤ j → j < y → a[x].prio ≤ a[y].prio

/-- `LoopInv` on the priorities as a function.  `sorted` and `le` say one thing: a position beyond `j` holds at
least what every position up to it holds. -/
theorem loopInv_iff (a : Row P) (j : Nat) (d : P) (hj : j < a.size) :
    LoopInv a j ↔ HeapF (prioAt a d) (j+1) ∧
      ∀ x y, x ≤ y → j < y → y < a.size → prioAt a d x ≤ prioAt a d y := by
  constructor
  · intro ⟨hheap, hsorted, hle⟩
    refine ⟨(heapOn_iff a _ d hj).mp hheap, fun x y hxy hjy hy => ?_⟩
    have hx : x < a.size := Nat.lt_of_le_of_lt hxy hy
    rw [prioAt_lt a d hx, prioAt_lt a d hy]
    rcases Nat.lt_or_ge j x with hjx | hxj
    · exact hsorted x y hx hy hjx hxy
    · exact hle x y hx hy hxj hjy
  · intro ⟨hheap, hasc⟩
    refine ⟨(heapOn_iff a _ d hj).mpr hheap, fun x y hx hy hjx hxy => ?_, fun x y hx hy hxj hjy => ?_⟩
    · rw [← prioAt_lt a d hx, ← prioAt_lt a d hy]
      exact hasc x y hxy (Nat.lt_of_lt_of_le hjx hxy) hy
    · rw [← prioAt_lt a d hx, ← prioAt_lt a d hy]
      exact hasc x y (Nat.le_trans hxj (Nat.le_of_lt hjy)) hjy hy

theorem loopInv_step (a : Row P) (j : Nat) (hj : j + 1 < a.size) (inv : LoopInv a (j+1)) :
    LoopInv (siftdownSwap (a.swap 0 (j+1) (Nat.zero_lt_of_lt hj) hj) (j+1) 0) j := by
  have h0 : 0 < a.size := Nat.zero_lt_of_lt hj
  have d := (a[0]'h0).prio
  obtain ⟨hF, hasc⟩ := (loopInv_iff a (j+1) d hj).mp inv
  have hsz : (siftdownSwap (a.swap 0 (j+1)) (j+1) 0).size = a.size := (sds_size ..).trans (Array.size_swap ..)
  rw [loopInv_iff _ j d (hsz.symm ▸ Nat.lt_of_succ_lt hj), hsz]
  constructor
  · exact sds_heapF _ _ 0 d (Nat.succ_pos j) ((Array.size_swap ..).symm ▸ Nat.le_of_lt hj)
      (HeapF.holeF_root (fun k hk0 hk => hF k hk0 (Nat.lt_succ_of_lt hk)) _
        fun k hk0 hk => prioAt_swap_ne a d h0 hj (Nat.ne_of_gt hk0) (Nat.ne_of_lt hk))
  · intro x y hxy hjy hy
    -- up to `y` the new row holds what the old row held up to `y`; at `y` it holds what the old row held there,
    -- or the old root if `y = j+1`
    obtain ⟨x', hx', heq⟩ := sds_prefix (a.swap 0 (j+1)) (j+1) 0 (y+1) (Nat.le_succ_of_le hjy) x (Nat.lt_succ_of_le hxy)
    obtain ⟨x'', hx'', heq'⟩ := swap_prefix a 0 (j+1) h0 hj (y+1) (Nat.succ_pos y) (Nat.succ_lt_succ hjy) x' hx'
    rw [prioAt_congr d (heq.trans heq'), prioAt_congr d (sds_frame _ _ _ y hjy)]
    rcases Nat.eq_or_lt_of_le hjy with rfl | hy2
    · rw [prioAt_swap_right a d h0 hj]
      exact hF.root_max x'' hx''
    · rw [prioAt_swap_ne a d h0 hj (Nat.ne_of_gt (Nat.zero_lt_of_lt hy2)) (Nat.ne_of_gt hy2)]
      exact hasc x'' y (Nat.le_of_lt_succ hx'') hy2 hy

theorem deheapLoop_sorted (a : Row P) (j : Nat) (hj : j < a.size) (inv : LoopInv a j) :
    ∀ x y (hx : x < (deheapLoop a j).size) (hy : y < (deheapLoop a j).size), x ≤ y →
      (deheapLoop a j)[x].prio ≤ (deheapLoop a j)[y].prio := by
  induction j generalizing a with
  | zero =>
    intro x y hx hy hxy
    rcases Nat.eq_zero_or_pos x with rfl | hx0
    · rcases Nat.eq_zero_or_pos y with rfl | hy0
      · exact le_refl _
      · exact inv.le 0 y hx hy (Nat.le_refl 0) hy0
    · exact inv.sorted x y hx hy hx0 hxy
  | succ j ih =>
    rw [deheapLoop_succ a j hj]
    exact ih _ (by rw [sds_size, Array.size_swap]; exact Nat.lt_of_succ_lt hj) (loopInv_step a j hj inv)

/-- On a max-heap, `deheap_sort` returns the entries in ascending priority order. -/
theorem deheapSort_sorted (h : Row P) (hh : IsHeap h) :
    ∀ i j (hi : i < (deheapSort h).size) (hj : j < (deheapSort h).size), i ≤ j →
      (deheapSort h)[i].prio ≤ (deheapSort h)[j].prio := by
  intro i j hi hj hij
  have hsz : 0 < h.size := Nat.zero_lt_of_lt (deheapLoop_size h _ ▸ hi)
  refine deheapLoop_sorted h (h.size - 1) (Nat.sub_one_lt (Nat.ne_of_gt hsz)) ⟨?_, ?_, ?_⟩ i j hi hj hij
  · intro x hx hn hx0
    exact hh x (Nat.lt_of_lt_of_le hx hn) hx0
  -- nothing lies beyond the last position
  · intro x y hx hy hlt
    exact absurd hx (Nat.not_lt_of_le (Nat.le_of_pred_lt hlt))
  · intro x y hx hy _ hlt
    exact absurd hy (Nat.not_lt_of_le (Nat.le_of_pred_lt hlt))

end Pynn
