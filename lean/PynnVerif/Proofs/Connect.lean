import PynnVerif.Model.Connect
import PynnVerif.Proofs.SeenLoop
import Mathlib.Data.List.Nodup
import Mathlib.Data.List.Range
import Mathlib.Data.List.Sort
import Mathlib.Logic.Function.Iterate
/-!
# Lemmas for C20: sampling, connectedness, the insertion loop, the alternating loop under exact search

`rejection_sample` (invariant of the outer loop, termination over a fair stream), reachability in the graph
`connect_graph` returns, the edge insertion loop (`addEdges_cases`), `np.unique`, and the alternating loop under
exact nearest neighbours without ties (`altLoop_terminates`).  The file also holds the definitions that the
statements of Props/C20 are written in and that model no code of their own in `Model/Connect.lean`: `Fair`,
`Reachable`, `Sym`, `LabelAdj`, `addEdges` (with `assign`), `IsEdge`, `ExactNN`; `dom`, `dist`, `hgt`, `Settled` are the
side-symmetric vocabulary of the descent argument (`ExactNN.closed`, `ExactNN.nearest` are stated in the first two).
-/
namespace Pynn.Connect
variable {σ : Type}

theorem residue_lt (i : Int) {pool : Nat} (h : 0 < pool) : residue i pool < pool :=
  (Int.toNat_lt' h).mpr (Int.emod_lt_of_pos i (Int.natCast_pos.mpr h))

theorem residue_natCast (a pool : Nat) : residue (a : Int) pool = a % pool := by
  rw [residue, ← Int.natCast_mod, Int.toNat_natCast]

theorem nodup_bounded_length {l : List Nat} {n : Nat} (hn : l.Nodup) (hb : ∀ x ∈ l, x < n) :
    l.length ≤ n :=
  (hn.length_le_of_subset fun x hx => List.mem_range.mpr (hb x hx)).trans_eq List.length_range

theorem exists_fresh {prev : List Nat} {pool : Nat} (hl : prev.length < pool) :
    ∃ r, r < pool ∧ r ∉ prev := by
  by_contra h
  have := List.nodup_range.length_le_of_subset (l₂ := prev) fun r hr =>
    Classical.not_not.mp fun hc => h ⟨r, List.mem_range.mp hr, hc⟩
  rw [List.length_range] at this
  exact Nat.lt_irrefl _ (Nat.lt_of_lt_of_le hl this)

theorem drawSlot_some (next : σ → Int × σ) (pool : Nat) (prev : List Nat) (fuel : Nat) (s : σ) {j : Nat} {s' : σ}
    {f' : Nat} (h : drawSlot next pool prev fuel s = some (j, s', f')) : j ∉ prev ∧ (0 < pool → j < pool) := by
  induction fuel generalizing s with
  | zero => cases h
  | succ fuel ih =>
    rw [drawSlot] at h
    split at h
    · exact ih _ h
    · next hnot =>
      cases h
      exact ⟨hnot, residue_lt _⟩

theorem rejLoop_spec (next : σ → Int × σ) {pool : Nat} (hp : 0 < pool) (slots : Nat) (prev : List Nat)
    (fuel : Nat) (s : σ) {out : List Nat} {s' : σ} {f' : Nat}
    (h : rejLoop next pool slots prev fuel s = some (out, s', f'))
    (hn : prev.Nodup) (hb : ∀ x ∈ prev, x < pool) :
    out.Nodup ∧ (∀ x ∈ out, x < pool) ∧ out.length = prev.length + slots := by
  induction slots generalizing prev fuel s with
  | zero =>
    cases h
    exact ⟨hn, hb, rfl⟩
  | succ slots ih =>
    rw [rejLoop] at h
    split at h
    · cases h
    · next j s1 f1 hd =>
      obtain ⟨hj1, hj2⟩ := drawSlot_some next pool prev fuel s hd
      obtain ⟨h1, h2, h3⟩ := ih (prev ++ [j]) f1 s1 h (List.concat_eq_append ▸ hn.concat hj1)
        (fun x hx => (List.mem_append.mp hx).elim (hb x) fun hx => List.mem_singleton.mp hx ▸ hj2 hp)
      refine ⟨h1, h2, ?_⟩
      rw [h3, List.length_append, List.length_singleton, Nat.add_assoc, Nat.add_comm 1]

theorem rejectionSampleG_eq_some_iff (next : σ → Int × σ) (nSamples pool fuel : Nat) (s : σ) (out : List Nat)
    (s' : σ) : rejectionSampleG next nSamples pool fuel s = some (out, s') ↔
      ∃ f', rejLoop next pool nSamples [] fuel s = some (out, s', f') := by
  rw [rejectionSampleG, Option.map_eq_some_iff]
  constructor
  · rintro ⟨⟨o, s1, f1⟩, h, he⟩
    cases he
    exact ⟨f1, h⟩
  · rintro ⟨f', h⟩
    exact ⟨_, h, rfl⟩

theorem rejectionSample_eq_some_iff (draw : Nat → Nat) (nSamples pool fuel : Nat) (out : List Nat) :
    rejectionSample draw nSamples pool fuel = some out ↔
      ∃ p f', rejLoop (streamNext draw) pool nSamples [] fuel 0 = some (out, p, f') := by
  rw [rejectionSample, Option.map_eq_some_iff]
  constructor
  · rintro ⟨⟨o, p⟩, h, rfl⟩
    exact ⟨p, (rejectionSampleG_eq_some_iff _ _ _ _ _ _ _).mp h⟩
  · rintro ⟨p, hp⟩
    exact ⟨(out, p), (rejectionSampleG_eq_some_iff _ _ _ _ _ _ _).mpr hp, rfl⟩

/-- Fairness of a stream of draws for a pool: every residue keeps coming back. -/
def Fair (draw : Nat → Nat) (pool : Nat) : Prop :=
  ∀ r, r < pool → ∀ N, ∃ p, N ≤ p ∧ draw p % pool = r

theorem drawSlot_stream_succ (draw : Nat → Nat) (pool : Nat) (prev : List Nat) (fuel pos : Nat) :
    drawSlot (streamNext draw) pool prev (fuel + 1) pos =
      if draw pos % pool ∈ prev then drawSlot (streamNext draw) pool prev fuel (pos + 1)
      else some (draw pos % pool, pos + 1, fuel) := by
  rw [drawSlot, streamNext, residue_natCast]

/-- If an acceptable draw sits `d` positions ahead, the slot's loop stops at the first acceptable position:
it needs `m` draws and hands back whatever fuel it was given beyond them. -/
theorem drawSlot_stream (draw : Nat → Nat) (pool : Nat) (prev : List Nat) (d pos : Nat)
    (h : draw (pos + d) % pool ∉ prev) :
    ∃ j m, ∀ fuel, drawSlot (streamNext draw) pool prev (fuel + m) pos = some (j, pos + m, fuel) := by
  induction d generalizing pos with
  | zero =>
    exact ⟨draw pos % pool, 1, fun fuel => by
      rw [drawSlot_stream_succ, if_neg (show draw pos % pool ∉ prev from h)]⟩
  | succ d ih =>
    by_cases hc : draw pos % pool ∈ prev
    · obtain ⟨j, m, hall⟩ := ih (pos + 1) (by rwa [Nat.add_assoc, Nat.add_comm 1 d])
      refine ⟨j, m + 1, fun fuel => ?_⟩
      rw [← Nat.add_assoc, drawSlot_stream_succ, if_pos hc, hall, Nat.add_assoc pos 1, Nat.add_comm 1]
    · exact ⟨draw pos % pool, 1, fun fuel => by rw [drawSlot_stream_succ, if_neg hc]⟩

/-- Over a fair stream the outer loop finishes after `m` draws, with the same samples for every fuel that
covers them. -/
theorem rejLoop_stream (draw : Nat → Nat) {pool : Nat} (hfair : Fair draw pool) (slots : Nat) (prev : List Nat)
    (pos : Nat) (hlen : prev.length + slots ≤ pool) :
    ∃ out m, ∀ fuel, rejLoop (streamNext draw) pool slots prev (fuel + m) pos = some (out, pos + m, fuel) := by
  induction slots generalizing prev pos with
  | zero => exact ⟨prev, 0, fun fuel => rfl⟩
  | succ slots ih =>
    obtain ⟨r, hr, hfresh⟩ := exists_fresh (prev := prev) (pool := pool)
      (Nat.lt_of_lt_of_le (Nat.lt_add_of_pos_right (Nat.succ_pos slots)) hlen)
    obtain ⟨p, hp, hpr⟩ := hfair r hr pos
    obtain ⟨j, m1, hslot⟩ := drawSlot_stream draw pool prev (p - pos) pos
      (by rw [Nat.add_sub_cancel' hp, hpr]; exact hfresh)
    obtain ⟨out, m2, hrest⟩ := ih (prev ++ [j]) (pos + m1)
      (by rw [List.length_append, List.length_singleton, Nat.add_assoc, Nat.add_comm 1]; exact hlen)
    refine ⟨out, m2 + m1, fun fuel => ?_⟩
    rw [rejLoop, ← Nat.add_assoc, hslot]
    simp only
    rw [hrest, Nat.add_assoc pos, Nat.add_comm m2]

section Graph
variable {V : Type}

/-- reflexive-transitive closure of an edge relation (the notion of Mathlib's `Relation.ReflTransGen`, written
out so that the statements of C20 rest on nothing but this file) -/
inductive Reachable (E : V → V → Prop) : V → V → Prop
  | refl (a : V) : Reachable E a a
  | step {a b c : V} : Reachable E a b → E b c → Reachable E a c

theorem Reachable.trans {E : V → V → Prop} {a b c : V} (h1 : Reachable E a b) (h2 : Reachable E b c) :
    Reachable E a c := by
  induction h2 with
  | refl => exact h1
  | step _ e ih => exact .step ih e

theorem Reachable.single {E : V → V → Prop} {a b : V} (e : E a b) : Reachable E a b :=
  .step (.refl a) e

theorem Reachable.mono {E E' : V → V → Prop} (h : ∀ a b, E a b → E' a b) {a b : V}
    (r : Reachable E a b) : Reachable E' a b := by
  induction r with
  | refl => exact .refl _
  | step _ e ih => exact .step ih (h _ _ e)

theorem Reachable.symm {E : V → V → Prop} (hs : ∀ a b, E a b → E b a) {a b : V}
    (r : Reachable E a b) : Reachable E b a := by
  induction r with
  | refl => exact .refl _
  | step _ e ih => exact (Reachable.single (hs _ _ e)).trans ih

/-- the undirected reading of a (possibly directed) input graph: what
`scipy.sparse.csgraph.connected_components(graph)` (default `connection='weak'`) walks -/
def Sym (G : V → V → Prop) (a b : V) : Prop := G a b ∨ G b a

/-- two labels are adjacent when some edge joins a vertex of the one to a vertex of the other -/
def LabelAdj (E : V → V → Prop) (comp : V → Nat) (c1 c2 : Nat) : Prop :=
  ∃ a b, comp a = c1 ∧ comp b = c2 ∧ E a b

end Graph


/-! ## `connect_graph`'s edge insertion, literally

`result = graph.tolil(); for i, j, d in new_edges: result[i, j] = d; result[j, i] = d`.
A sparse matrix is a total function into the weights; a position is an edge iff its value
is not the zero `z` (lil / csr keep no zeros, and `csgraph` ignores explicit ones). -/

section Matrix
variable {V W : Type} [DecidableEq V]

/-- `result[i, j] = d` -/
def assign (M : V → V → W) (i j : V) (d : W) : V → V → W :=
  fun a b => if a = i ∧ b = j then d else M a b

/-- the insertion loop over `new_edges` -/
def addEdges (M : V → V → W) : List (V × V × W) → V → V → W
  | [] => M
  | (i, j, d) :: rest => addEdges (assign (assign M i j d) j i d) rest

def IsEdge (z : W) (M : V → V → W) (a b : V) : Prop := M a b ≠ z

/-- one pass of the loop body: both directions get the weight -/
theorem assign_pair (M : V → V → W) (i j : V) (d : W) (a b : V) :
    assign (assign M i j d) j i d a b = if (i = a ∧ j = b) ∨ (i = b ∧ j = a) then d else M a b := by
  unfold assign
  rw [← ite_or]
  exact if_congr (or_comm.trans (or_congr (and_congr eq_comm eq_comm) ((and_congr eq_comm eq_comm).trans and_comm)))
    rfl rfl

/-- What the loop leaves at a position: the old value if no new edge joins `a` and `b` (in either direction),
otherwise the weight of a new edge that joins them. -/
theorem addEdges_cases (new : List (V × V × W)) (M : V → V → W) (a b : V) :
    (addEdges M new a b = M a b ∧ ∀ e ∈ new, ¬ ((e.1 = a ∧ e.2.1 = b) ∨ (e.1 = b ∧ e.2.1 = a))) ∨
    ∃ e ∈ new, addEdges M new a b = e.2.2 ∧ ((e.1 = a ∧ e.2.1 = b) ∨ (e.1 = b ∧ e.2.1 = a)) := by
  induction new generalizing M with
  | nil => exact Or.inl ⟨rfl, nofun⟩
  | cons e0 rest ih =>
    obtain ⟨i, j, d⟩ := e0
    rw [addEdges]
    rcases ih (assign (assign M i j d) j i d) with ⟨h, hno⟩ | ⟨e, he, h⟩
    · rw [h, assign_pair]
      by_cases hc : (i = a ∧ j = b) ∨ (i = b ∧ j = a)
      · rw [if_pos hc]
        exact Or.inr ⟨(i, j, d), List.mem_cons_self, rfl, hc⟩
      · rw [if_neg hc]
        exact Or.inl ⟨rfl, List.forall_mem_cons.mpr ⟨hc, hno⟩⟩
    · exact Or.inr ⟨e, List.mem_cons_of_mem _ he, h⟩

theorem addEdges_same_label (comp : V → Nat) (new : List (V × V × W))
    (hnew : ∀ e ∈ new, comp e.1 ≠ comp e.2.1) (M : V → V → W) (a b : V) (hab : comp a = comp b) :
    addEdges M new a b = M a b := by
  rcases addEdges_cases new M a b with ⟨h, _⟩ | ⟨e, he, _, hj⟩
  · exact h
  · rcases hj with ⟨rfl, rfl⟩ | ⟨rfl, rfl⟩
    · exact (hnew e he hab).elim
    · exact (hnew e he hab.symm).elim

theorem addEdges_keeps_nonzero (z : W) (new : List (V × V × W)) (hnz : ∀ e ∈ new, e.2.2 ≠ z)
    (M : V → V → W) (a b : V) (hM : M a b ≠ z) : addEdges M new a b ≠ z := by
  rcases addEdges_cases new M a b with ⟨h, _⟩ | ⟨e, he, h, _⟩
  · rw [h]; exact hM
  · rw [h]; exact hnz e he

theorem addEdges_written (z : W) (new : List (V × V × W)) (hnz : ∀ e ∈ new, e.2.2 ≠ z)
    (M : V → V → W) : ∀ e ∈ new, addEdges M new e.1 e.2.1 ≠ z := by
  intro e he
  rcases addEdges_cases new M e.1 e.2.1 with ⟨_, hno⟩ | ⟨e', he', h, _⟩
  · exact (hno e he (Or.inl ⟨rfl, rfl⟩)).elim
  · rw [h]; exact hnz e' he'

theorem addEdges_symm (new : List (V × V × W)) (M : V → V → W) (h : ∀ a b, M a b = M b a) (a b : V) :
    addEdges M new a b = addEdges M new b a := by
  induction new generalizing M with
  | nil => exact h a b
  | cons e rest ih =>
    obtain ⟨i, j, d⟩ := e
    refine ih _ fun a b => ?_
    rw [assign_pair, assign_pair, h a b]
    exact if_congr Or.comm rfl rfl

end Matrix

theorem mem_insertU (x y : Nat) (l : List Nat) : y ∈ insertU x l ↔ y = x ∨ y ∈ l := by
  induction l with
  | nil => simp [insertU]
  | cons z zs ih =>
    unfold insertU
    split
    · exact List.mem_cons
    · split
      · next h => exact ⟨Or.inr, fun hy => hy.elim (fun e => e ▸ h ▸ List.mem_cons_self) id⟩
      · rw [List.mem_cons, ih, List.mem_cons, or_left_comm]

theorem sorted_insertU (x : Nat) (l : List Nat) (h : l.Pairwise (· < ·)) :
    (insertU x l).Pairwise (· < ·) := by
  induction l with
  | nil => simp [insertU]
  | cons z zs ih =>
    unfold insertU
    split
    · next hxz =>
      exact List.pairwise_cons.mpr
        ⟨List.forall_mem_cons.mpr ⟨hxz, fun a ha => Nat.lt_trans hxz (List.rel_of_pairwise_cons h ha)⟩, h⟩
    · split
      · exact h
      · next h1 h2 =>
        refine List.pairwise_cons.mpr ⟨fun a ha => ?_, ih h.of_cons⟩
        rcases (mem_insertU x a zs).mp ha with rfl | ha
        · exact Nat.lt_of_le_of_ne (Nat.le_of_not_lt h1) (Ne.symm h2)
        · exact List.rel_of_pairwise_cons h ha

theorem uniq_cons (z : Nat) (zs : List Nat) : uniq (z :: zs) = insertU z (uniq zs) := rfl

theorem mem_uniq (y : Nat) (l : List Nat) : y ∈ uniq l ↔ y ∈ l := by
  induction l with
  | nil => simp [uniq]
  | cons z zs ih =>
    rw [uniq_cons, mem_insertU, ih, List.mem_cons]

theorem sorted_uniq (l : List Nat) : (uniq l).Pairwise (· < ·) := by
  induction l with
  | nil => simp [uniq]
  | cons z zs ih =>
    rw [uniq_cons]; exact sorted_insertU z _ ih

/-- exact nearest neighbours without ties between two components `A` (side 0) and `B` (side 1) -/
structure ExactNN (nn : Bool → Nat → Nat) (d : Nat → Nat → Nat) (A B : Nat → Prop) : Prop where
  closed0 : ∀ a, A a → B (nn false a)
  closed1 : ∀ b, B b → A (nn true b)
  nearest0 : ∀ a b, A a → B b → b ≠ nn false a → d a (nn false a) < d a b
  nearest1 : ∀ b a, B b → A a → a ≠ nn true b → d (nn true b) b < d a b

section Alt
variable {nn : Bool → Nat → Nat} {d : Nat → Nat → Nat} {A B : Nat → Prop}

/-- the component the querying side lives in -/
def dom (A B : Nat → Prop) (side : Bool) (x : Nat) : Prop := if side then B x else A x
/-- `d` read from the querying side -/
def dist (d : Nat → Nat → Nat) (side : Bool) (x y : Nat) : Nat := if side then d y x else d x y
/-- distance from `x` to its nearest point on the other side: what strictly falls along a chain `x ↦ nn x ↦ …` -/
def hgt (nn : Bool → Nat → Nat) (d : Nat → Nat → Nat) (side : Bool) (x : Nat) : Nat := dist d side x (nn side x)
/-- `x` and `nn x` are mutually nearest: the chain from `x` has stopped moving -/
def Settled (nn : Bool → Nat → Nat) (side : Bool) (x : Nat) : Prop := nn (!side) (nn side x) = x

theorem ExactNN.closed (h : ExactNN nn d A B) (side : Bool) (x : Nat) (hx : dom A B side x) :
    dom A B (!side) (nn side x) := by
  cases side
  · exact h.closed0 x hx
  · exact h.closed1 x hx

theorem ExactNN.nearest (h : ExactNN nn d A B) (side : Bool) (x y : Nat) (hx : dom A B side x)
    (hy : dom A B (!side) y) (hne : y ≠ nn side x) : dist d side x (nn side x) < dist d side x y := by
  cases side
  · exact h.nearest0 x y hx hy hne
  · exact h.nearest1 x y hx hy hne

theorem dist_symm (d : Nat → Nat → Nat) (side : Bool) (x y : Nat) : dist d side x y = dist d (!side) y x := by
  cases side <;> rfl

theorem ExactNN.descends (h : ExactNN nn d A B) (side : Bool) (x : Nat) (hx : dom A B side x)
    (hns : ¬ Settled nn side x) : hgt nn d (!side) (nn side x) < hgt nn d side x := by
  have hy := h.closed side x hx
  have := h.nearest (!side) (nn side x) x hy ((Bool.not_not side).symm ▸ hx) (fun e => hns e.symm)
  unfold hgt
  rw [dist_symm d side x (nn side x)]
  exact this

theorem settled_next (side : Bool) (x : Nat) (hs : Settled nn side x) : Settled nn (!side) (nn side x) := by
  unfold Settled at *
  rw [Bool.not_not, hs]

/-- `q`, `chq`: index set and `changed` flag of the side that queries next; `o`, `cho`: those of the other side -/
def AltState.q (st : AltState) : List Nat := if st.side then st.idx1 else st.idx0
def AltState.o (st : AltState) : List Nat := if st.side then st.idx0 else st.idx1
def AltState.chq (st : AltState) : Bool := if st.side then st.ch1 else st.ch0
def AltState.cho (st : AltState) : Bool := if st.side then st.ch0 else st.ch1

theorem flags_eq (st : AltState) : (st.ch0 || st.ch1) = (st.chq || st.cho) := by
  cases hs : st.side <;> simp [AltState.chq, AltState.cho, hs, Bool.or_comm]

end Alt

section Main
variable {nn : Bool → Nat → Nat} {d : Nat → Nat → Nat} {A B : Nat → Prop}

/-- the state after `t` iterations of the loop body -/
abbrev seq (nn : Bool → Nat → Nat) (s0 : AltState) (t : Nat) : AltState := (altStep nn)^[t] s0

/-- one iteration, in terms of the querying side `q` and the other side `o` -/
theorem seq_spec (nn : Bool → Nat → Nat) (s0 : AltState) (t : Nat) :
    (seq nn s0 (t + 1)).side = !(seq nn s0 t).side ∧
    (seq nn s0 (t + 1)).q = uniq ((seq nn s0 t).q.map (nn (seq nn s0 t).side)) ∧
    (seq nn s0 (t + 1)).o = (seq nn s0 t).q ∧
    (seq nn s0 (t + 1)).cho = (seq nn s0 t).chq ∧
    (seq nn s0 (t + 1)).chq = (if (seq nn s0 t).o.length = (seq nn s0 (t + 1)).q.length
      then decide ((seq nn s0 t).o ≠ (seq nn s0 (t + 1)).q) else (seq nn s0 t).cho) := by
  rw [show seq nn s0 (t + 1) = altStep nn (seq nn s0 t) from Function.iterate_succ_apply' _ _ _]
  generalize seq nn s0 t = st
  cases hs : st.side <;> simp [altStep, AltState.q, AltState.o, AltState.chq, AltState.cho, hs]

theorem mem_q_succ (nn : Bool → Nat → Nat) (s0 : AltState) (t z : Nat) :
    z ∈ (seq nn s0 (t + 1)).q ↔ ∃ x ∈ (seq nn s0 t).q, nn (seq nn s0 t).side x = z := by
  rw [(seq_spec nn s0 t).2.1, mem_uniq, List.mem_map]

section Descent
variable (h : ExactNN nn d A B) (s0 : AltState) (H : Nat) (hdom : ∀ x ∈ s0.q, dom A B s0.side x)
  (hH : ∀ x ∈ s0.q, hgt nn d s0.side x ≤ H)
include h hdom hH

/-- every chain `x ↦ nn x ↦ nn (nn x) …` stays in the components and has reached a mutually nearest pair or has
come down by `t` after `t` iterations -/
theorem alt_inv (t : Nat) : ∀ x ∈ (seq nn s0 t).q, dom A B (seq nn s0 t).side x ∧
    (Settled nn (seq nn s0 t).side x ∨ hgt nn d (seq nn s0 t).side x + t ≤ H) := by
  induction t with
  | zero => intro x hx; exact ⟨hdom x hx, Or.inr (hH x hx)⟩
  | succ t ih =>
    intro z hz
    obtain ⟨x, hx, rfl⟩ := (mem_q_succ nn s0 t z).mp hz
    obtain ⟨hd, hs⟩ := ih x hx
    rw [(seq_spec nn s0 t).1]
    refine ⟨h.closed _ x hd, ?_⟩
    by_cases hset : Settled nn (seq nn s0 t).side x
    · exact Or.inl (settled_next _ x hset)
    · have h1 := h.descends _ x hd hset
      have h2 := hs.resolve_left hset
      exact Or.inr (Nat.le_trans (Nat.add_lt_add_right h1 t) h2)

/-- after `H` rounds every chain is settled, so `nn ∘ nn` is the identity on `q`: the index set two rounds on has
the same members, and two strictly ascending lists with the same members are equal -/
theorem alt_period (t : Nat) (ht : H ≤ t) : (seq nn s0 (t + 3)).q = (seq nn s0 (t + 1)).q := by
  have hsorted : ∀ u, (seq nn s0 (u + 1)).q.Pairwise (· < ·) := fun u =>
    (seq_spec nn s0 u).2.1 ▸ sorted_uniq _
  refine List.Pairwise.eq_of_mem_iff (hsorted _) (hsorted _) fun z => ?_
  have hall : ∀ x ∈ (seq nn s0 (t + 1)).q, Settled nn (seq nn s0 (t + 1)).side x := fun x hx =>
    (alt_inv h s0 H hdom hH (t + 1) x hx).2.resolve_right fun hs =>
      Nat.not_succ_le_self t (Nat.le_trans (Nat.le_add_left _ _) (Nat.le_trans hs ht))
  rw [mem_q_succ, (seq_spec nn s0 (t + 1)).1]
  constructor
  · rintro ⟨y, hy, rfl⟩
    obtain ⟨x, hx, rfl⟩ := (mem_q_succ nn s0 (t + 1) y).mp hy
    rw [hall x hx]; exact hx
  · intro hz
    exact ⟨nn (seq nn s0 (t + 1)).side z, (mem_q_succ nn s0 (t + 1) _).mpr ⟨z, hz, rfl⟩, hall z hz⟩

/-- once the index sets repeat with period 2, every comparison finds "unchanged" -/
theorem alt_chq_false (t : Nat) (ht : H ≤ t) : (seq nn s0 (t + 3)).chq = false := by
  rw [(seq_spec nn s0 (t + 2)).2.2.2.2, (seq_spec nn s0 (t + 1)).2.2.1, alt_period h s0 H hdom hH t ht]
  simp

end Descent

theorem altLoop_eq_plainLoop (nn : Bool → Nat → Nat) (fuel : Nat) (st : AltState) :
    altLoop nn fuel st = plainLoop (altStep nn) (fun st => st.ch0 || st.ch1) fuel st := by
  induction fuel generalizing st with
  | zero => rfl
  | succ fuel ih => rw [altLoop, plainLoop, ih]

theorem altLoop_terminates (h : ExactNN nn d A B) (s0 : AltState)
    (hdom : ∀ x ∈ s0.q, dom A B s0.side x) : ∃ fuel st', altLoop nn fuel s0 = some st' := by
  -- `H`: the largest `hgt` among the first query points
  obtain ⟨H, hH⟩ : ∃ H, ∀ x ∈ s0.q, hgt nn d s0.side x ≤ H :=
    ⟨_, fun _ hx => List.le_max?_getD_of_mem (k := 0) (List.mem_map_of_mem hx)⟩
  -- settled from round `H + 1` on, so `q` has period 2 from there and `chq = false` from round `H + 3`; both flags
  -- are clear once two consecutive rounds compare equal, `H + 3` and `H + 4`
  refine ⟨H + 4, ?_⟩
  simp only [altLoop_eq_plainLoop]
  refine plainLoop_of_iterate (H + 4) s0 ?_
  show ((seq nn s0 (H + 4)).ch0 || (seq nn s0 (H + 4)).ch1) = false
  rw [flags_eq, (seq_spec nn s0 (H + 3)).2.2.2.1, alt_chq_false h s0 H hdom hH (H + 1) (Nat.le_succ _),
    alt_chq_false h s0 H hdom hH H (Nat.le_refl _)]
  rfl

end Main

end Pynn.Connect
