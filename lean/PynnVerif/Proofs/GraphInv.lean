import PynnVerif.Model.Descent
import PynnVerif.Proofs.Heap

/-! # Definitions the statements about NN-descent share: the well-formedness invariant of the
neighbour-graph heap, counts within a threshold, truthful update lists, the offers of a row -/
namespace Pynn
variable {P : Type} [LinearOrder P]

/-- Invariant of the graph heap during NN-descent over `n` points with `k` slots per row. -/
structure GraphInv (top : P) (n k : Nat) (dist : Nat → Nat → P) (g : Graph P) : Prop where
  size : g.size = n
  rowSize : ∀ r (h : r < g.size), g[r].size = k
  heap : ∀ r (h : r < g.size), IsHeap g[r]
  nodup : ∀ r (h : r < g.size), ((g[r].toList.filter (fun e => 0 ≤ e.idx)).map (·.idx)).Nodup
  range : ∀ r (h : r < g.size), ∀ e ∈ g[r],
            (e.idx = -1 ∧ e.prio = top) ∨ (0 ≤ e.idx ∧ e.idx < (n : Int) ∧ e.prio < top)
  truth : ∀ r (h : r < g.size), ∀ e ∈ g[r], 0 ≤ e.idx → e.prio = dist r e.idx.toNat

/-- number of entries of a row within threshold `t` (order statistics: the `j`-th smallest
priority is `≤ t` iff this count is `> j`) -/
def countLe (row : Row P) (t : P) : Nat := (row.toList.filter (fun e => e.prio ≤ t)).length

/-- an update list is truthful for `dist` -/
def Truthful (dist : Nat → Nat → P) (ups : List (Upd P)) : Prop := ∀ u ∈ ups, u.d = dist u.p u.q

/-- the offers row `r` receives from an update list, in order: `(d, q)` for `p = r`, then `(d, p)` for `q = r` -/
def offersFor (r : Nat) (ups : List (Upd P)) : List (P × Int) :=
  ups.flatMap (fun u => (if u.p = r then [(u.d, (u.q : Int))] else []) ++
                        (if u.q = r then [(u.d, (u.p : Int))] else []))

/-- feed a row with a list of offers through `checked_flagged_heap_push(…, 1)` -/
def feed (row : Row P) (offers : List (P × Int)) : Row P :=
  offers.foldl (fun h o => (pushFlagged h o.1 o.2 true).1) row

end Pynn
