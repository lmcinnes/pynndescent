import PynnVerif.Model.Transport
import Mathlib.Algebra.BigOperators.Fin
import Mathlib.Algebra.Order.BigOperators.Group.Finset
import Mathlib.Tactic.Ring
import Mathlib.Tactic.Linarith

/-!
# Transport LP over ℚ: weak duality with tolerance, link to the executable checker

`Fin n → Fin m → ℚ` plans, finite sums, all sizes.  The executable checker of
`Model/Transport.lean` works on arrays with Nat-indexed reads; `sumTo_eq` / `allTo_iff`
connect its recursions to `Finset` sums / bounded quantifiers, so that the soundness
theorem is about exactly the Boolean the native driver evaluates.

This file also holds the definitions the statements of `Props/C10.lean` are written in: `cost`,
`Feasible`, `IsMin`, `mat`, `vec`, `normalize` (and `diag`, the plan `ot_zero_of_equal` is proved with).
-/
namespace Pynn.Transport

variable {n m : ℕ}

/-- `⟨C, f⟩` -/
def cost (C f : Fin n → Fin m → ℚ) : ℚ := ∑ i, ∑ j, C i j * f i j

/-- `f` is a transport plan from `a` to `b` -/
structure Feasible (a : Fin n → ℚ) (b : Fin m → ℚ) (f : Fin n → Fin m → ℚ) : Prop where
  nonneg : ∀ i j, 0 ≤ f i j
  row : ∀ i, ∑ j, f i j = a i
  col : ∀ j, ∑ i, f i j = b j

/-- `val` is the minimum of the transport LP `(a, b, C)`: attained by a plan, below every plan. -/
def IsMin (a : Fin n → ℚ) (b : Fin m → ℚ) (C : Fin n → Fin m → ℚ) (val : ℚ) : Prop :=
  (∃ f, Feasible a b f ∧ cost C f = val) ∧ ∀ g, Feasible a b g → val ≤ cost C g

theorem IsMin.unique {a : Fin n → ℚ} {b : Fin m → ℚ} {C : Fin n → Fin m → ℚ} {v w : ℚ}
    (hv : IsMin a b C v) (hw : IsMin a b C w) : v = w := by
  obtain ⟨⟨f, hf, rfl⟩, hvm⟩ := hv
  obtain ⟨⟨g, hg, rfl⟩, hwm⟩ := hw
  exact le_antisymm (hvm g hg) (hwm f hf)

/-- cost splits into reduced-cost part and potential parts -/
theorem cost_expand (C h : Fin n → Fin m → ℚ) (u : Fin n → ℚ) (v : Fin m → ℚ) :
    ∑ i, ∑ j, C i j * h i j
      = ∑ i, ∑ j, (C i j + u i - v j) * h i j - ∑ i, u i * ∑ j, h i j + ∑ j, v j * ∑ i, h i j := by
  simp only [Finset.mul_sum]
  rw [Finset.sum_comm (f := fun j i => v j * h i j)]
  simp only [← Finset.sum_sub_distrib, ← Finset.sum_add_distrib]
  refine Finset.sum_congr rfl fun i _ => Finset.sum_congr rfl fun j _ => ?_
  ring

/-- Weak duality with tolerance: `f` is arbitrary, `g` any plan from `a` to `b`; the marginals of `f` enter
through the potentials. -/
theorem weak_duality_gen {a : Fin n → ℚ} {b : Fin m → ℚ} (C f : Fin n → Fin m → ℚ) {g : Fin n → Fin m → ℚ}
    (u : Fin n → ℚ) (v : Fin m → ℚ) (ε : ℚ) (hg : Feasible a b g) (hdual : ∀ i j, -ε ≤ C i j + u i - v j) :
    cost C f ≤ cost C g
        + (∑ i, ∑ j, (C i j + u i - v j) * f i j + ε * ∑ i, a i
           + ∑ i, u i * (a i - ∑ j, f i j) + ∑ j, v j * (∑ i, f i j - b j)) := by
  -- the reduced-cost part of `⟨C, g⟩` from below, term by term: `g ≥ 0` and `ε`-dual feasibility
  have hlow : -(ε * ∑ i, ∑ j, g i j) ≤ ∑ i, ∑ j, (C i j + u i - v j) * g i j := by
    rw [Finset.mul_sum, ← Finset.sum_neg_distrib]
    apply Finset.sum_le_sum; intro i _
    rw [Finset.mul_sum, ← Finset.sum_neg_distrib]
    apply Finset.sum_le_sum; intro j _
    rw [← neg_mul]
    exact mul_le_mul_of_nonneg_right (hdual i j) (hg.nonneg i j)
  unfold cost
  rw [cost_expand C f u v, cost_expand C g u v]
  simp only [hg.row, hg.col, mul_sub, Finset.sum_sub_distrib] at hlow ⊢
  linarith

/-! ## link to the executable checker -/

theorem sumTo_eq (k : ℕ) (g : ℕ → ℚ) : sumTo k g = ∑ i : Fin k, g i := by
  induction k with
  | zero => rfl
  | succ k ih => rw [sumTo, ih, Fin.sum_univ_castSucc]; rfl

theorem allTo_iff (k : ℕ) (p : ℕ → Bool) : allTo k p = true ↔ ∀ i, i < k → p i = true := by
  induction k with
  | zero => exact ⟨fun _ i hi => absurd hi (Nat.not_lt_zero i), fun _ => rfl⟩
  | succ k ih => rw [allTo, Bool.and_eq_true, ih, Nat.forall_lt_succ_right]

theorem shapeOk_iff (n m : ℕ) (M : Array (Array Rat)) :
    shapeOk n m M = true ↔ M.size = n ∧ ∀ i, i < n → (M.getD i #[]).size = m := by
  simp only [shapeOk, Bool.and_eq_true, beq_iff_eq, allTo_iff]

/-- the matrix / vector read off an array (reads are in range whenever `shapeOk` holds) -/
def mat (n m : ℕ) (M : Array (Array Rat)) : Fin n → Fin m → ℚ := fun i j => at2 M i j
def vec (n : ℕ) (a : Array Rat) : Fin n → ℚ := fun i => at1 a i

/-- What acceptance by `certOk` gives: the shapes, and `f ≥ 0` and `ε`-dual feasibility of the matrices read off. -/
theorem certOk_spec (a b : Array Rat) (C f : Array (Array Rat)) (u v : Array Rat) (eps : Rat)
    (h : certOk a b C f u v eps = true) :
    (C.size = a.size ∧ ∀ i, i < a.size → (C.getD i #[]).size = b.size) ∧
    (f.size = a.size ∧ ∀ i, i < a.size → (f.getD i #[]).size = b.size) ∧
    u.size = a.size ∧ v.size = b.size ∧
    (∀ i j, 0 ≤ mat a.size b.size f i j) ∧
    (∀ i j, -eps ≤ mat a.size b.size C i j + vec a.size u i - vec b.size v j) := by
  simp only [certOk, Bool.and_eq_true, shapeOk_iff, allTo_iff, beq_iff_eq, decide_eq_true_eq, red] at h
  obtain ⟨⟨⟨⟨⟨h1, h2⟩, h3⟩, h4⟩, h5⟩, h6⟩ := h
  exact ⟨h1, h2, h3, h4, fun i j => h5 i i.isLt j j.isLt, fun i j => of_decide_eq_true (h6 i i.isLt j j.isLt)⟩

theorem certGap_eq (a b : Array Rat) (C f : Array (Array Rat)) (u v : Array Rat) (eps : Rat) :
    certGap a b C f u v eps
      = ∑ i : Fin a.size, ∑ j : Fin b.size, (at2 C i j + at1 u i - at1 v j) * at2 f i j
        + eps * ∑ i : Fin a.size, ∑ j : Fin b.size, at2 f i j := by
  simp only [certGap, total, rowSum, sumTo_eq, red]

theorem gapAB_eq (a b : Array Rat) (C f : Array (Array Rat)) (u v : Array Rat) (eps : Rat) :
    gapAB a b C f u v eps
      = ∑ i : Fin a.size, ∑ j : Fin b.size, (at2 C i j + at1 u i - at1 v j) * at2 f i j
        + eps * ∑ i : Fin a.size, at1 a i
        + ∑ i : Fin a.size, at1 u i * (at1 a i - ∑ j : Fin b.size, at2 f i j)
        + ∑ j : Fin b.size, at1 v j * (∑ i : Fin a.size, at2 f i j - at1 b j) := by
  simp only [gapAB, rowSum, colSum, sumTo_eq, red]

theorem costOf_eq (n m : ℕ) (C f : Array (Array Rat)) : costOf n m C f = cost (mat n m C) (mat n m f) := by
  simp only [costOf, sumTo_eq, cost, mat]

/-! ## the reported residuals -/

theorem maxTo_succ (k : ℕ) (g : ℕ → ℚ) : maxTo (k + 1) g = max (maxTo k g) (g k) := by
  rw [maxTo]
  split_ifs with h
  · exact (max_eq_right h.le).symm
  · exact (max_eq_left (not_lt.mp h)).symm

theorem maxTo_ge (k : ℕ) (g : ℕ → ℚ) : ∀ i, i < k → g i ≤ maxTo k g := by
  induction k with
  | zero => exact fun i hi => absurd hi (Nat.not_lt_zero i)
  | succ k ih =>
    rw [maxTo_succ, Nat.forall_lt_succ_right]
    exact ⟨fun i hi => (ih i hi).trans (le_max_left _ _), le_max_right _ _⟩

theorem absR_eq (x : ℚ) : absR x = |x| := by
  unfold absR
  split_ifs with h
  · exact (abs_of_neg h).symm
  · exact (abs_of_nonneg (not_lt.mp h)).symm

theorem rowRes_spec (a b : Array Rat) (f : Array (Array Rat)) (i : Fin a.size) :
    |∑ j, mat a.size b.size f i j - vec a.size a i| ≤ rowRes a b f := by
  have := maxTo_ge a.size (fun i => absR (rowSum b.size f i - at1 a i)) i i.isLt
  simpa only [rowRes, absR_eq, rowSum, sumTo_eq, mat, vec] using this

theorem colRes_spec (a b : Array Rat) (f : Array (Array Rat)) (j : Fin b.size) :
    |∑ i, mat a.size b.size f i j - vec b.size b j| ≤ colRes a b f := by
  have := maxTo_ge b.size (fun j => absR (colSum a.size f j - at1 b j)) j j.isLt
  simpa only [colRes, absR_eq, colSum, sumTo_eq, mat, vec] using this

/-! ## consequences for the LP optimum -/

theorem Feasible.transpose {a : Fin n → ℚ} {b : Fin m → ℚ} {f : Fin n → Fin m → ℚ}
    (h : Feasible a b f) : Feasible b a (fun j i => f i j) :=
  ⟨fun j i => h.nonneg i j, h.col, h.row⟩

theorem cost_transpose (C f : Fin n → Fin m → ℚ) :
    cost (fun j i => C i j) (fun j i => f i j) = cost C f := by
  unfold cost; exact Finset.sum_comm

section Transfer
variable {n' m' : ℕ} {a : Fin n → ℚ} {b : Fin m → ℚ} {C : Fin n → Fin m → ℚ}
  {a' : Fin n' → ℚ} {b' : Fin m' → ℚ} {C' : Fin n' → Fin m' → ℚ} {val : ℚ}

/-- two problems whose plans go over to one another at equal cost have the same minimum -/
theorem IsMin.of_maps (push : ∀ g, Feasible a b g → ∃ f, Feasible a' b' f ∧ cost C' f = cost C g)
    (pull : ∀ f, Feasible a' b' f → ∃ g, Feasible a b g ∧ cost C g = cost C' f)
    (h : IsMin a b C val) : IsMin a' b' C' val := by
  obtain ⟨⟨g, hg, rfl⟩, hmin⟩ := h
  obtain ⟨f, hf, hc⟩ := push g hg
  refine ⟨⟨f, hf, hc⟩, fun f' hf' => ?_⟩
  obtain ⟨g', hg', hc'⟩ := pull f' hf'
  exact hc' ▸ hmin g' hg'

theorem isMin_iff_of_maps (push : ∀ g, Feasible a b g → ∃ f, Feasible a' b' f ∧ cost C' f = cost C g)
    (pull : ∀ f, Feasible a' b' f → ∃ g, Feasible a b g ∧ cost C g = cost C' f) :
    IsMin a b C val ↔ IsMin a' b' C' val :=
  ⟨.of_maps push pull, .of_maps pull push⟩

end Transfer

theorem IsMin.transpose {a : Fin n → ℚ} {b : Fin m → ℚ} {C : Fin n → Fin m → ℚ} {val : ℚ}
    (h : IsMin a b C val) : IsMin b a (fun j i => C i j) val :=
  h.of_maps (fun g hg => ⟨_, hg.transpose, cost_transpose C g⟩)
    fun _ hf => ⟨_, hf.transpose, (cost_transpose C _).symm⟩

theorem isMin_transpose_iff {a : Fin n → ℚ} {b : Fin m → ℚ} {C : Fin n → Fin m → ℚ} {val : ℚ} :
    IsMin b a (fun j i => C i j) val ↔ IsMin a b C val :=
  ⟨IsMin.transpose, IsMin.transpose⟩

def diag (a : Fin n → ℚ) : Fin n → Fin n → ℚ := fun i j => if i = j then a i else 0

theorem diag_feasible (a : Fin n → ℚ) (ha : ∀ i, 0 ≤ a i) : Feasible a a (diag a) := by
  refine ⟨fun i j => ?_, fun i => ?_, fun j => ?_⟩
  · unfold diag; split_ifs; exacts [ha i, le_rfl]
  · simp only [diag, Finset.sum_ite_eq, Finset.mem_univ, if_true]
  · simp only [diag, Finset.sum_ite_eq', Finset.mem_univ, if_true]

theorem cost_diag (C : Fin n → Fin n → ℚ) (a : Fin n → ℚ) : cost C (diag a) = ∑ i, C i i * a i := by
  simp only [cost, diag, mul_ite, mul_zero, Finset.sum_ite_eq, Finset.mem_univ, if_true]

theorem cost_nonneg (C f : Fin n → Fin m → ℚ) (hC : ∀ i j, 0 ≤ C i j) (hf : ∀ i j, 0 ≤ f i j) :
    0 ≤ cost C f :=
  Finset.sum_nonneg fun i _ => Finset.sum_nonneg fun j _ => mul_nonneg (hC i j) (hf i j)

/-- `x / Σ x` -/
def normalize (x : Fin n → ℚ) : Fin n → ℚ := fun i => x i / ∑ k, x k

theorem normalize_scale (c : ℚ) (hc : c ≠ 0) (x : Fin n → ℚ) :
    normalize (fun i => c * x i) = normalize x := by
  funext i
  simp only [normalize, ← Finset.mul_sum]
  exact mul_div_mul_left _ _ hc

theorem Feasible.row_zero {a : Fin n → ℚ} {b : Fin m → ℚ} {f : Fin n → Fin m → ℚ}
    (h : Feasible a b f) (i : Fin n) (hi : a i = 0) (j : Fin m) : f i j = 0 := by
  have := (Finset.sum_eq_zero_iff_of_nonneg (fun j _ => h.nonneg i j)).mp ((h.row i).trans hi)
  exact this j (Finset.mem_univ j)

theorem Feasible.col_zero {a : Fin n → ℚ} {b : Fin m → ℚ} {f : Fin n → Fin m → ℚ}
    (h : Feasible a b f) (j : Fin m) (hj : b j = 0) (i : Fin n) : f i j = 0 :=
  h.transpose.row_zero j hj i

theorem cost_congr_support {a : Fin n → ℚ} {b : Fin m → ℚ} {f : Fin n → Fin m → ℚ}
    (h : Feasible a b f) (C C' : Fin n → Fin m → ℚ)
    (hC : ∀ i j, a i ≠ 0 → b j ≠ 0 → C i j = C' i j) : cost C f = cost C' f := by
  unfold cost
  apply Finset.sum_congr rfl; intro i _
  apply Finset.sum_congr rfl; intro j _
  by_cases hi : a i = 0
  · rw [h.row_zero i hi j]; simp
  · by_cases hj : b j = 0
    · rw [h.col_zero j hj i]; simp
    · rw [hC i j hi hj]

theorem isMin_congr_support {a : Fin n → ℚ} {b : Fin m → ℚ} {C C' : Fin n → Fin m → ℚ}
    (hC : ∀ i j, a i ≠ 0 → b j ≠ 0 → C i j = C' i j) {val : ℚ} : IsMin a b C val ↔ IsMin a b C' val :=
  isMin_iff_of_maps (fun g hg => ⟨g, hg, (cost_congr_support hg C C' hC).symm⟩)
    fun g hg => ⟨g, hg, cost_congr_support hg C C' hC⟩

/-! ## the masked problem (`a[row_mask]`, `b[col_mask]`, `cost[row_mask, :][:, col_mask]`)

Rows are masked here; columns are rows of the transposed problem. -/
section Mask
open Function
variable {n' : ℕ} {e : Fin n' → Fin n}

/-- extension by zero of a plan on the masked rows -/
def pushRows (e : Fin n' → Fin n) (g : Fin n' → Fin m → ℚ) : Fin n → Fin m → ℚ :=
  fun i j => ∑ i', if e i' = i then g i' j else 0

theorem pushRows_restrict (he : Injective e) (g : Fin n' → Fin m → ℚ) :
    (fun i' j => pushRows e g (e i') j) = g := by
  funext i' j
  simp only [pushRows, he.eq_iff, Finset.sum_ite_eq', Finset.mem_univ, if_true]

theorem pushRows_zero (g : Fin n' → Fin m → ℚ) (i : Fin n) (hi : i ∉ Set.range e) (j : Fin m) :
    pushRows e g i j = 0 :=
  Finset.sum_eq_zero fun i' _ => if_neg fun h => hi ⟨i', h⟩

theorem cost_rows (he : Injective e) (C : Fin n → Fin m → ℚ) {f : Fin n → Fin m → ℚ}
    (hS : ∀ i, i ∉ Set.range e → ∀ j, f i j = 0) :
    cost (fun i' j => C (e i') j) (fun i' j => f (e i') j) = cost C f :=
  Fintype.sum_of_injective e he _ (fun i => ∑ j, C i j * f i j)
    (fun i hi => Finset.sum_eq_zero fun j _ => by rw [hS i hi j, mul_zero]) fun _ => rfl

/-- a plan without mass outside the rows `range e` is a plan of the full problem iff its restriction is one of
the masked problem -/
theorem feasible_rows (he : Injective e) {a : Fin n → ℚ} {b : Fin m → ℚ} (ha : ∀ i, a i ≠ 0 → i ∈ Set.range e)
    {f : Fin n → Fin m → ℚ} (hS : ∀ i, i ∉ Set.range e → ∀ j, f i j = 0) :
    Feasible (fun i' => a (e i')) b (fun i' j => f (e i') j) ↔ Feasible a b f := by
  have hcol : ∀ j, ∑ i', f (e i') j = ∑ i, f i j := fun j =>
    Fintype.sum_of_injective e he _ (fun i => f i j) (fun i hi => hS i hi j) fun _ => rfl
  refine ⟨fun h => ⟨fun i j => ?_, fun i => ?_, fun j => (hcol j).symm.trans (h.col j)⟩,
    fun h => ⟨fun _ _ => h.nonneg _ _, fun _ => h.row _, fun j => (hcol j).trans (h.col j)⟩⟩
  · by_cases hi : i ∈ Set.range e
    · obtain ⟨i', rfl⟩ := hi
      exact h.nonneg i' j
    · exact (hS i hi j).ge
  · by_cases hi : i ∈ Set.range e
    · obtain ⟨i', rfl⟩ := hi
      exact h.row i'
    · rw [Finset.sum_eq_zero fun j _ => hS i hi j]
      exact by_contra fun h => hi (ha i (Ne.symm h))

/-- plans of the full problem restrict to the rows `range e`, plans of the masked problem extend by zero, at
equal cost -/
theorem isMin_maskRows (he : Injective e) (a : Fin n → ℚ) (b : Fin m → ℚ) (ha : ∀ i, a i ≠ 0 → i ∈ Set.range e)
    (C : Fin n → Fin m → ℚ) (val : ℚ) :
    IsMin (fun i' => a (e i')) b (fun i' j => C (e i') j) val ↔ IsMin a b C val := by
  refine isMin_iff_of_maps (fun g hg => ?_) fun f hf => ?_
  · exact ⟨pushRows e g, (feasible_rows he ha (pushRows_zero g)).mp (by rwa [pushRows_restrict he]),
      by rw [← cost_rows he C (pushRows_zero g), pushRows_restrict he]⟩
  · have hS : ∀ i, i ∉ Set.range e → ∀ j, f i j = 0 := fun i hi =>
      hf.row_zero i (by_contra fun h => hi (ha i h))
    exact ⟨_, (feasible_rows he ha hS).mpr hf, cost_rows he C hS⟩

end Mask

end Pynn.Transport
