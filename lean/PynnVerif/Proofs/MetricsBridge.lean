import PynnVerif.Proofs.Metrics
import PynnVerif.Model.Sparse

/-!
# `Model/Metrics.lean` and the reference copies `Sparse.Dense.*` of `Model/Sparse.lean` agree

C08 (`Props/C08.lean`) proves `sparse kernel (enc x) (enc y) = Sparse.Dense.kernel x y`.  The lemmas
below identify those reference copies, at `ℝ`, with the accumulators / kernels of the generic model
`Model/Metrics.lean` that C07 and C09 are about, so the two developments compose: the sparse
surrogates of `pynndescent/sparse.py` are functions of `mulSum`, `normSq`, `dataSum`,
`hellingerSum`, `sqEuclidean`, `numTrueTrue`/`numNonZero`, which C08 equates with the right-hand
sides here.  `C09.sparse_accumulators_are_dense` composes the five sums; the identities for `cosine`
and the two counts are stated for the same purpose and composed by no theorem yet.
-/
namespace Pynn.Metrics
open Pynn.Sparse

theorem dotProd_eq_dense (x y : List ℝ) : dotProd x y = Dense.dot x y := rfl
theorem normSq_eq_dense (x : List ℝ) : normSq x = Dense.normSq x := rfl
theorem l1_eq_dense (x : List ℝ) : l1 x = Dense.sum x := rfl
theorem squaredEuclidean_eq_dense (x y : List ℝ) : squaredEuclidean x y = Dense.sqEuclidean x y := rfl
theorem hellingerSum_eq_dense (x y : List ℝ) : hellingerSum x y = Dense.hellingerSum Real.sqrt x y := rfl

theorem cosine_eq_dense (x y : List ℝ) : cosine x y = Dense.cosine Real.sqrt x y :=
  (cosine_real x y).trans (if_congr Iff.rfl rfl (if_congr Iff.rfl rfl rfl))

theorem isTrue_real (v : ℝ) : isTrue v = decide (v ≠ 0) := by
  unfold isTrue
  rw [Bool.eq_iff_iff, bne_real]
  exact decide_eq_true_iff.symm

theorem numTrueTrue_eq_dense (x y : List ℝ) : (numTrueTrue x y : Int) = Dense.numTrueTrue x y := by
  unfold numTrueTrue Dense.numTrueTrue
  congr 2
  funext p
  rw [Bool.eq_iff_iff]
  simp only [Bool.and_eq_true, isTrue_real, decide_eq_true_eq]

theorem numNonZero_eq_dense (x y : List ℝ) : (numNonZero x y : Int) = Dense.numNonZero x y := by
  unfold numNonZero Dense.numNonZero
  congr 2
  funext p
  rw [Bool.eq_iff_iff]
  simp only [Bool.or_eq_true, isTrue_real, decide_eq_true_eq]

end Pynn.Metrics
