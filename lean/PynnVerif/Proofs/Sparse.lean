import PynnVerif.Model.Sparse
import PynnVerif.Proofs.Lists
import Mathlib.Algebra.GroupWithZero.Defs

/-! # The sparse merge kernels (`sparse_sum`, `sparse_diff`, `sparse_mul`, `sparse_dot_product`,
`dense_union`) compute the pointwise operations; encodings (helper lemmas for C08) -/
namespace Pynn.Sparse
variable {α : Type}

section Decode

theorem SortedFrom.mono {lo lo' : Nat} {a : SVec α} (h : SortedFrom lo a) (hl : lo' ≤ lo) :
    SortedFrom lo' a := by
  cases a with
  | nil => trivial
  | cons p t => exact ⟨Nat.le_trans hl h.1, h.2⟩

theorem Below.head {n : Nat} {p : Nat × α} {a : SVec α} (h : Below n (p :: a)) : p.1 < n :=
  h p (List.mem_cons_self ..)

theorem Below.tail {n : Nat} {p : Nat × α} {a : SVec α} (h : Below n (p :: a)) : Below n a :=
  fun q hq => h q (List.mem_cons_of_mem _ hq)

variable [Zero α]

@[simp] theorem decode_nil (i : Nat) : decode ([] : SVec α) i = 0 := rfl

theorem decode_cons (j : Nat) (v : α) (t : SVec α) (i : Nat) :
    decode ((j, v) :: t) i = if j = i then v else decode t i := by
  unfold decode; simp only [lookup]; split <;> rfl

theorem decode_head_ne_zero {p : Nat × α} {a : SVec α} (hz : NoZero (p :: a)) :
    decode (p :: a) p.1 ≠ 0 := by
  rw [decode_cons, if_pos rfl]
  exact hz p (List.mem_cons_self ..)

theorem mem_inds_iff {a : SVec α} (hz : NoZero a) (i : Nat) : i ∈ inds a ↔ decode a i ≠ 0 := by
  induction a with
  | nil => simp [inds]
  | cons p t ih =>
    obtain ⟨j, v⟩ := p
    obtain ⟨hv, hz⟩ := List.forall_mem_cons.1 hz
    have iht := ih hz
    simp only [inds, List.map_cons, List.mem_cons] at iht ⊢
    rw [decode_cons]
    by_cases hji : j = i
    · subst hji; simp [hv]
    · rw [if_neg hji, ← iht]
      exact or_iff_right (fun h => hji h.symm)

theorem decode_of_not_mem {a : SVec α} {i : Nat} (h : i ∉ inds a) : decode a i = 0 := by
  induction a with
  | nil => rfl
  | cons p t ih =>
    obtain ⟨j, v⟩ := p
    simp only [inds, List.map_cons, List.mem_cons, not_or] at h
    rw [decode_cons, if_neg (fun e => h.1 e.symm)]
    exact ih h.2

theorem decode_of_below {n : Nat} {a : SVec α} (hb : Below n a) {i : Nat} (hi : n ≤ i) :
    decode a i = 0 := by
  apply decode_of_not_mem
  intro hm
  obtain ⟨p, hp, rfl⟩ := List.mem_map.1 hm
  exact Nat.lt_irrefl _ (Nat.lt_of_lt_of_le (hb p hp) hi)

theorem length_inds {β : Type} (a : SVec β) : (inds a).length = a.length := List.length_map ..

end Decode

section Basic
variable [DecidableEq α] [Zero α]

-- `lookup` uses neither instance; they are part of this statement as it was first given, and
-- `decode_lt` (hence `wf_ext`) inherits `[DecidableEq α]` from it
set_option linter.unusedSectionVars false in
theorem lookup_lt {lo : Nat} {a : SVec α} (h : SortedFrom lo a) {i : Nat} (hi : i < lo) :
    lookup a i = none := by
  induction a generalizing lo with
  | nil => rfl
  | cons p t ih =>
    obtain ⟨j, v⟩ := p
    simp only [lookup]
    rw [if_neg (Nat.ne_of_gt (Nat.lt_of_lt_of_le hi h.1))]
    exact ih h.2 (Nat.lt_succ_of_lt (Nat.lt_of_lt_of_le hi h.1))

theorem decode_lt {lo : Nat} {a : SVec α} (h : SortedFrom lo a) {i : Nat} (hi : i < lo) :
    decode a i = 0 := by
  unfold decode; rw [lookup_lt h hi]; rfl

/-- the third branch of a two-pointer step: neither `i1 = i2` nor `i1 < i2` -/
theorem lt_of_not_eq_of_not_lt {i1 i2 : Nat} (hne : ¬ i1 = i2) (hlt : ¬ i1 < i2) : i2 < i1 :=
  Nat.lt_of_le_of_ne (Nat.le_of_not_lt hlt) (Ne.symm hne)

theorem sortedFrom_keep {lo i : Nat} {v : α} {rest : SVec α} (hl : lo ≤ i)
    (h : SortedFrom (i + 1) rest) : SortedFrom lo (keep i v rest) := by
  unfold keep; split
  · exact h.mono (Nat.le_succ_of_le hl)
  · exact ⟨hl, h⟩

theorem forall_mem_keep {P : Nat × α → Prop} {i : Nat} {v : α} {rest : SVec α}
    (hv : v ≠ 0 → P (i, v)) (h : ∀ p ∈ rest, P p) : ∀ p ∈ keep i v rest, P p := by
  unfold keep; split
  · exact h
  · rename_i hne
    exact List.forall_mem_cons.2 ⟨hv hne, h⟩

theorem noZero_keep {i : Nat} {v : α} {rest : SVec α} (h : NoZero rest) :
    NoZero (keep i v rest) := forall_mem_keep (fun hv => hv) h

theorem decode_keep {i : Nat} {v : α} {rest : SVec α} (h : SortedFrom (i + 1) rest) (j : Nat) :
    decode (keep i v rest) j = if i = j then v else decode rest j := by
  unfold keep; split
  · split
    · subst_vars; exact decode_lt h (Nat.lt_succ_self _)
    · rfl
  · exact decode_cons ..

theorem keep_eq_append (j : Nat) (v : α) (r : SVec α) : keep j v r = keep j v [] ++ r := by
  unfold keep; split <;> rfl

theorem below_keep {n i : Nat} {v : α} {rest : SVec α} (hi : i < n) (h : Below n rest) :
    Below n (keep i v rest) := forall_mem_keep (fun _ => hi) h

theorem sortedFrom_tailLoop {lo : Nat} {a : SVec α} (h : SortedFrom lo a) :
    SortedFrom lo (tailLoop a) := by
  induction a generalizing lo with
  | nil => trivial
  | cons p t ih => exact sortedFrom_keep h.1 (ih h.2)

theorem noZero_tailLoop (a : SVec α) : NoZero (tailLoop a) := by
  induction a with
  | nil => intro p hp; cases hp
  | cons p t ih => exact noZero_keep ih

theorem decode_tailLoop {lo : Nat} {a : SVec α} (h : SortedFrom lo a) (j : Nat) :
    decode (tailLoop a) j = decode a j := by
  induction a generalizing lo with
  | nil => rfl
  | cons p t ih =>
    obtain ⟨i, v⟩ := p
    show decode (keep i v (tailLoop t)) j = _
    rw [decode_keep (sortedFrom_tailLoop h.2), decode_cons, ih h.2]

theorem below_tailLoop {n : Nat} {a : SVec α} (h : Below n a) : Below n (tailLoop a) := by
  induction a with
  | nil => exact h
  | cons p t ih => exact below_keep h.head (ih h.tail)

end Basic

/-! the shape of the results (sorted, no stored zero, no new index) needs no arithmetic law -/
section SumShape
variable [DecidableEq α] [Zero α] [Add α]

theorem sortedFrom_sparseSum {lo : Nat} {a b : SVec α} (ha : SortedFrom lo a) (hb : SortedFrom lo b) :
    SortedFrom lo (sparseSum a b) := by
  fun_induction sparseSum a b generalizing lo with
  | case1 b => exact sortedFrom_tailLoop hb
  | case2 p a => exact sortedFrom_tailLoop ha
  | case3 v1 a i1 v2 b ih => exact sortedFrom_keep ha.1 (ih ha.2 hb.2)
  | case4 i1 v1 a i2 v2 b hne hlt ih => exact sortedFrom_keep ha.1 (ih ha.2 ⟨hlt, hb.2⟩)
  | case5 i1 v1 a i2 v2 b hne hlt ih =>
    exact sortedFrom_keep hb.1 (ih ⟨lt_of_not_eq_of_not_lt hne hlt, ha.2⟩ hb.2)

theorem noZero_sparseSum (a b : SVec α) : NoZero (sparseSum a b) := by
  fun_induction sparseSum a b with
  | case1 b => exact noZero_tailLoop _
  | case2 p a => exact noZero_tailLoop _
  | case3 v1 a i1 v2 b ih => exact noZero_keep ih
  | case4 i1 v1 a i2 v2 b hne hlt ih => exact noZero_keep ih
  | case5 i1 v1 a i2 v2 b hne hlt ih => exact noZero_keep ih

theorem below_sparseSum {n : Nat} {a b : SVec α} (ha : Below n a) (hb : Below n b) :
    Below n (sparseSum a b) := by
  fun_induction sparseSum a b with
  | case1 b => exact below_tailLoop hb
  | case2 p a => exact below_tailLoop ha
  | case3 v1 a i1 v2 b ih => exact below_keep ha.head (ih ha.tail hb.tail)
  | case4 i1 v1 a i2 v2 b hne hlt ih => exact below_keep ha.head (ih ha.tail hb)
  | case5 i1 v1 a i2 v2 b hne hlt ih => exact below_keep hb.head (ih ha hb.tail)

end SumShape

section Sum
variable [DecidableEq α] [AddZeroClass α]

theorem decode_sparseSum {lo : Nat} {a b : SVec α} (ha : SortedFrom lo a) (hb : SortedFrom lo b)
    (j : Nat) : decode (sparseSum a b) j = decode a j + decode b j := by
  fun_induction sparseSum a b generalizing lo with
  | case1 b => rw [decode_tailLoop hb, decode_nil, zero_add]
  | case2 p a => rw [decode_tailLoop ha, decode_nil, add_zero]
  | case3 v1 a i1 v2 b ih =>
    rw [decode_keep (sortedFrom_sparseSum ha.2 hb.2), decode_cons, decode_cons, ih ha.2 hb.2]
    split <;> rfl
  | case4 i1 v1 a i2 v2 b hne hlt ih =>
    have hb' : SortedFrom (i1 + 1) ((i2, v2) :: b) := ⟨hlt, hb.2⟩
    rw [decode_keep (sortedFrom_sparseSum ha.2 hb'), decode_cons, ih ha.2 hb']
    split
    · subst_vars; rw [decode_lt hb' (Nat.lt_succ_self _), add_zero]
    · rfl
  | case5 i1 v1 a i2 v2 b hne hlt ih =>
    have ha' : SortedFrom (i2 + 1) ((i1, v1) :: a) := ⟨lt_of_not_eq_of_not_lt hne hlt, ha.2⟩
    rw [decode_keep (sortedFrom_sparseSum ha' hb.2), decode_cons (v := v2), ih ha' hb.2]
    split
    · subst_vars; rw [decode_lt ha' (Nat.lt_succ_self _), zero_add]
    · rfl
end Sum

section DiffShape
variable [Neg α]

theorem sortedFrom_negate {lo : Nat} {b : SVec α} (h : SortedFrom lo b) : SortedFrom lo (negate b) := by
  induction b generalizing lo with
  | nil => trivial
  | cons p t ih => exact ⟨h.1, ih h.2⟩

theorem length_negate (b : SVec α) : (negate b).length = b.length := List.length_map ..

theorem below_negate {n : Nat} {b : SVec α} (h : Below n b) : Below n (negate b) := by
  intro p hp
  obtain ⟨q, hq, rfl⟩ := List.mem_map.1 hp
  exact h q hq

variable [DecidableEq α] [Zero α] [Add α]

theorem sortedFrom_sparseDiff {lo : Nat} {a b : SVec α} (ha : SortedFrom lo a) (hb : SortedFrom lo b) :
    SortedFrom lo (sparseDiff a b) := sortedFrom_sparseSum ha (sortedFrom_negate hb)

theorem noZero_sparseDiff (a b : SVec α) : NoZero (sparseDiff a b) := noZero_sparseSum _ _

theorem below_sparseDiff {n : Nat} {a b : SVec α} (ha : Below n a) (hb : Below n b) :
    Below n (sparseDiff a b) := below_sparseSum ha (below_negate hb)

end DiffShape

section Diff
variable [AddGroup α]

theorem decode_negate (b : SVec α) (j : Nat) : decode (negate b) j = - decode b j := by
  induction b with
  | nil => simp [negate]
  | cons p t ih =>
    obtain ⟨i, v⟩ := p
    show decode ((i, -v) :: negate t) j = _
    rw [decode_cons, decode_cons, ih]; split <;> rfl

variable [DecidableEq α]

theorem decode_sparseDiff {lo : Nat} {a b : SVec α} (ha : SortedFrom lo a) (hb : SortedFrom lo b)
    (j : Nat) : decode (sparseDiff a b) j = decode a j - decode b j := by
  unfold sparseDiff
  rw [decode_sparseSum ha (sortedFrom_negate hb), decode_negate, sub_eq_add_neg]

end Diff

section MulShape
variable [DecidableEq α] [Zero α] [Mul α]

theorem sparseMul_nil_left (b : SVec α) : sparseMul [] b = [] := by rw [sparseMul]

theorem sparseMul_nil_right (a : SVec α) : sparseMul a [] = [] := by
  cases a with
  | nil => exact sparseMul_nil_left _
  | cons p a => rw [sparseMul]

theorem sortedFrom_sparseMul {lo : Nat} {a b : SVec α} (ha : SortedFrom lo a) (hb : SortedFrom lo b) :
    SortedFrom lo (sparseMul a b) := by
  fun_induction sparseMul a b generalizing lo with
  | case1 b => trivial
  | case2 p a => trivial
  | case3 v1 a i1 v2 b ih => exact sortedFrom_keep ha.1 (ih ha.2 hb.2)
  | case4 i1 v1 a i2 v2 b hne hlt ih => exact (ih ha.2 ⟨hlt, hb.2⟩).mono (Nat.le_succ_of_le ha.1)
  | case5 i1 v1 a i2 v2 b hne hlt ih =>
    exact (ih ⟨lt_of_not_eq_of_not_lt hne hlt, ha.2⟩ hb.2).mono (Nat.le_succ_of_le hb.1)

theorem noZero_sparseMul (a b : SVec α) : NoZero (sparseMul a b) := by
  fun_induction sparseMul a b with
  | case1 b => intro p hp; cases hp
  | case2 p a => intro p hp; cases hp
  | case3 v1 a i1 v2 b ih => exact noZero_keep ih
  | case4 i1 v1 a i2 v2 b hne hlt ih => exact ih
  | case5 i1 v1 a i2 v2 b hne hlt ih => exact ih

theorem below_sparseMul {n : Nat} {a : SVec α} (b : SVec α) (ha : Below n a) :
    Below n (sparseMul a b) := by
  fun_induction sparseMul a b with
  | case1 b => intro p hp; cases hp
  | case2 p a => intro p hp; cases hp
  | case3 v1 a i1 v2 b ih => exact below_keep ha.head (ih ha.tail)
  | case4 i1 v1 a i2 v2 b hne hlt ih => exact ih ha.tail
  | case5 i1 v1 a i2 v2 b hne hlt ih => exact ih ha

theorem sparseMul_cons_lt {k : Nat} {u : α} {A B : SVec α} (hB : SortedFrom (k + 1) B) :
    sparseMul ((k, u) :: A) B = sparseMul A B := by
  cases B with
  | nil => rw [sparseMul_nil_right, sparseMul_nil_right]
  | cons q B =>
    obtain ⟨j, w⟩ := q
    rw [sparseMul, if_neg (Nat.ne_of_lt hB.1), if_pos (Nat.lt_of_succ_le hB.1)]

theorem sparseMul_lt_cons {k : Nat} {v : α} {A B : SVec α} (hA : SortedFrom (k + 1) A) :
    sparseMul A ((k, v) :: B) = sparseMul A B := by
  cases A with
  | nil => rw [sparseMul_nil_left, sparseMul_nil_left]
  | cons p A =>
    obtain ⟨j, w⟩ := p
    rw [sparseMul, if_neg (Nat.ne_of_gt hA.1), if_neg (Nat.lt_asymm hA.1)]

end MulShape

section Mul
variable [DecidableEq α] [MulZeroClass α]

theorem decode_sparseMul {lo : Nat} {a b : SVec α} (ha : SortedFrom lo a) (hb : SortedFrom lo b)
    (j : Nat) : decode (sparseMul a b) j = decode a j * decode b j := by
  fun_induction sparseMul a b generalizing lo with
  | case1 b => rw [decode_nil, zero_mul]
  | case2 p a => rw [decode_nil, mul_zero]
  | case3 v1 a i1 v2 b ih =>
    rw [decode_keep (sortedFrom_sparseMul ha.2 hb.2), decode_cons, decode_cons, ih ha.2 hb.2]
    split <;> rfl
  | case4 i1 v1 a i2 v2 b hne hlt ih =>
    have hb' : SortedFrom (i1 + 1) ((i2, v2) :: b) := ⟨hlt, hb.2⟩
    rw [ih ha.2 hb', decode_cons i1 v1 a j]
    split
    · subst_vars; rw [decode_lt hb' (Nat.lt_succ_self _), mul_zero, mul_zero]
    · rfl
  | case5 i1 v1 a i2 v2 b hne hlt ih =>
    have ha' : SortedFrom (i2 + 1) ((i1, v1) :: a) := ⟨lt_of_not_eq_of_not_lt hne hlt, ha.2⟩
    rw [ih ha' hb.2, decode_cons i2 v2 b j]
    split
    · subst_vars; rw [decode_lt ha' (Nat.lt_succ_self _), zero_mul, zero_mul]
    · rfl

end Mul

section Dot
variable [DecidableEq α] [AddZeroClass α]

theorem foldl_keep_add (i : Nat) (v : α) (rest : SVec α) (r : α) :
    (keep i v rest).foldl (fun r p => r + p.2) r = rest.foldl (fun r p => r + p.2) (r + v) := by
  unfold keep; split
  · subst_vars; rw [add_zero]
  · rfl

variable [Mul α]

/-- the loop of `sparse_dot_product` accumulates exactly the values `sparse_mul` would store -/
theorem dotLoop_eq (r : α) (a b : SVec α) :
    dotLoop r a b = (sparseMul a b).foldl (fun r p => r + p.2) r := by
  fun_induction dotLoop r a b with
  | case1 r v1 a i v2 b r1 hA =>
    obtain rfl : a = [] := List.isEmpty_iff.1 hA
    rw [sparseMul, if_pos rfl, foldl_keep_add, sparseMul_nil_left]; rfl
  | case2 r v1 a i v2 b r1 hA hB =>
    obtain rfl : b = [] := List.isEmpty_iff.1 hB
    rw [sparseMul, if_pos rfl, foldl_keep_add, sparseMul_nil_right]; rfl
  | case3 r v1 a i v2 b r1 hA hB ih =>
    rw [sparseMul, if_pos rfl, foldl_keep_add]; exact ih
  | case4 r i1 v1 a i2 v2 b hne hlt hA =>
    obtain rfl : a = [] := List.isEmpty_iff.1 hA
    rw [sparseMul, if_neg hne, if_pos hlt, sparseMul_nil_left]; rfl
  | case5 r i1 v1 a i2 v2 b hne hlt hA ih =>
    rw [sparseMul, if_neg hne, if_pos hlt]; exact ih
  | case6 r i1 v1 a i2 v2 b hne hlt hB =>
    obtain rfl : b = [] := List.isEmpty_iff.1 hB
    rw [sparseMul, if_neg hne, if_neg hlt, sparseMul_nil_right]; rfl
  | case7 r i1 v1 a i2 v2 b hne hlt hB ih =>
    rw [sparseMul, if_neg hne, if_neg hlt]; exact ih
  | case8 r a b hx =>
    cases a with
    | nil => rw [sparseMul_nil_left]; rfl
    | cons p a =>
      cases b with
      | nil => rw [sparseMul_nil_right]; rfl
      | cons q b => exact (hx _ _ _ _ _ _ rfl rfl).elim

theorem sparseDotProduct_eq {a b : SVec α} (ha : a ≠ []) (hb : b ≠ []) :
    sparseDotProduct a b = some (mulSum a b) := by
  cases a with
  | nil => exact (ha rfl).elim
  | cons p a =>
    cases b with
    | nil => exact (hb rfl).elim
    | cons q b => simp only [sparseDotProduct, mulSum, dotLoop_eq]

end Dot

section Enc
variable [DecidableEq α] [Zero α]

theorem sortedFrom_encFrom (k : Nat) (x : List α) : SortedFrom k (encFrom k x) := by
  induction x generalizing k with
  | nil => trivial
  | cons v t ih => exact sortedFrom_keep (Nat.le_refl _) (ih (k + 1))

theorem noZero_encFrom (k : Nat) (x : List α) : NoZero (encFrom k x) := by
  induction x generalizing k with
  | nil => intro p hp; cases hp
  | cons v t ih => exact noZero_keep (ih (k + 1))

theorem below_encFrom (k : Nat) (x : List α) : Below (k + x.length) (encFrom k x) := by
  induction x generalizing k with
  | nil => intro p hp; cases hp
  | cons v t ih =>
    refine below_keep (Nat.lt_add_of_pos_right (Nat.succ_pos _)) ?_
    rw [List.length_cons, ← Nat.add_assoc, Nat.add_right_comm]
    exact ih (k + 1)

theorem decode_encFrom_add (k : Nat) (x : List α) (i : Nat) :
    decode (encFrom k x) (k + i) = x.getD i 0 := by
  induction x generalizing k i with
  | nil => rfl
  | cons v t ih =>
    rw [encFrom, decode_keep (sortedFrom_encFrom _ _)]
    cases i with
    | zero => exact if_pos rfl
    | succ i =>
      rw [if_neg (Nat.ne_of_lt (Nat.lt_add_of_pos_right (Nat.succ_pos i))),
        ← Nat.add_assoc, Nat.add_right_comm k i 1, ih]
      rfl

theorem sortedFrom_enc (x : List α) : SortedFrom 0 (enc x) := sortedFrom_encFrom 0 x
theorem noZero_enc (x : List α) : NoZero (enc x) := noZero_encFrom 0 x
theorem decode_enc (x : List α) (i : Nat) : decode (enc x) i = x.getD i 0 := by
  rw [enc, ← decode_encFrom_add 0 x i, Nat.zero_add]

/-- two sorted rows without stored zeros that decode to the same vector are equal: the first
stored index is the first coordinate with a non-zero value -/
theorem wf_ext {lo : Nat} {a b : SVec α} (ha : SortedFrom lo a) (hza : NoZero a)
    (hb : SortedFrom lo b) (hzb : NoZero b) (h : ∀ i, decode a i = decode b i) : a = b := by
  induction a generalizing b lo with
  | nil =>
    cases b with
    | nil => rfl
    | cons q b => exact (decode_head_ne_zero hzb (h q.1).symm).elim
  | cons p a ih =>
    cases b with
    | nil => exact (decode_head_ne_zero hza (h p.1)).elim
    | cons q b =>
      obtain ⟨i, v⟩ := p
      obtain ⟨j, w⟩ := q
      have hij : i = j := by
        rcases Nat.lt_trichotomy i j with hlt | heq | hgt
        · exact (decode_head_ne_zero hza
            ((h i).trans (decode_lt (a := (j, w) :: b) ⟨Nat.le_refl j, hb.2⟩ hlt))).elim
        · exact heq
        · exact (decode_head_ne_zero hzb
            ((h j).symm.trans (decode_lt (a := (i, v) :: a) ⟨Nat.le_refl i, ha.2⟩ hgt))).elim
      subst hij
      have hvw : v = w := by
        have := h i
        rwa [decode_cons, decode_cons, if_pos rfl, if_pos rfl] at this
      subst hvw
      rw [ih ha.2 (List.forall_mem_cons.1 hza).2 hb.2 (List.forall_mem_cons.1 hzb).2 (fun k => ?_)]
      by_cases hk : i = k
      · subst hk; rw [decode_lt ha.2 (Nat.lt_succ_self _), decode_lt hb.2 (Nat.lt_succ_self _)]
      · have := h k
        rwa [decode_cons, decode_cons, if_neg hk, if_neg hk] at this

/-- a loop over the stored values of `encFrom k z` against the dense loop over all of `z`: the
dense body does nothing on a zero entry and agrees with the sparse body on the non-zero ones (an
invariant `Inv` of the accumulator may be assumed) -/
theorem foldl_encFrom {β : Type} (gs gd : β → α → β) (Inv : β → Prop)
    (hstep : ∀ r v, Inv r → Inv (gd r v)) (hzero : ∀ r, Inv r → gd r 0 = r)
    (hs : ∀ r v, v ≠ 0 → gs r v = gd r v) (k : Nat) (z : List α) (r0 : β) (h0 : Inv r0) :
    (encFrom k z).foldl (fun r p => gs r p.2) r0 = z.foldl gd r0 := by
  induction z generalizing k r0 with
  | nil => rfl
  | cons v t ih =>
    rw [encFrom, List.foldl_cons]
    unfold keep; split
    · subst_vars; rw [hzero r0 h0]; exact ih _ _ h0
    · rename_i hv; rw [List.foldl_cons, hs _ _ hv]; exact ih _ _ (hstep _ _ h0)

theorem length_encFrom (k : Nat) (z : List α) : (encFrom k z).length = z.countP (· ≠ 0) := by
  induction z generalizing k with
  | nil => rfl
  | cons v t ih =>
    rw [encFrom]
    unfold keep; split
    · rw [List.countP_cons_of_neg (by simpa), ih]
    · rw [List.countP_cons_of_pos (by simpa), List.length_cons, ih]

theorem length_enc (z : List α) : (enc z).length = z.countP (· ≠ 0) := length_encFrom 0 z

theorem encFrom_eq_nil {k : Nat} {x : List α} (h : encFrom k x = []) : ∀ u ∈ x, u = 0 := by
  have := length_encFrom k x
  rw [h, List.length_nil] at this
  intro u hu
  by_contra hne
  have hpos : 0 < x.countP (· ≠ 0) := List.countP_pos_iff.2 ⟨u, hu, decide_eq_true hne⟩
  exact Nat.lt_irrefl 0 (this ▸ hpos)

theorem map_encFrom (f : α → α) (hf : ∀ v, f v = 0 ↔ v = 0) (k : Nat) (z : List α) :
    (encFrom k z).map (fun p => (p.1, f p.2)) = encFrom k (z.map f) := by
  induction z generalizing k with
  | nil => rfl
  | cons v t ih =>
    rw [List.map_cons, encFrom, encFrom]
    unfold keep
    by_cases hv : v = 0
    · rw [if_pos hv, if_pos ((hf v).2 hv)]; exact ih _
    · rw [if_neg hv, if_neg (fun h => hv ((hf v).1 h)), List.map_cons, ih]

theorem map_enc (f : α → α) (hf : ∀ v, f v = 0 ↔ v = 0) (z : List α) :
    (enc z).map (fun p => (p.1, f p.2)) = enc (z.map f) := map_encFrom f hf 0 z

end Enc

/-! how many entries the kernels can store (no arithmetic law is used); `length_sparseDiff_le` and
`length_enc_le` bound the fuel of the translated metric kernels (`GenSparseMetrics`, `Props/C08`) -/
section Lengths
variable [DecidableEq α] [Zero α]

theorem length_keep_le (j : Nat) (v : α) (r : SVec α) : (keep j v r).length ≤ r.length + 1 := by
  unfold keep; split <;> simp

theorem length_tailLoop_le (a : SVec α) : (tailLoop a).length ≤ a.length := by
  induction a with
  | nil => exact Nat.le_refl 0
  | cons p t ih => exact Nat.le_trans (length_keep_le p.1 p.2 (tailLoop t)) (Nat.succ_le_succ ih)

theorem length_sparseSum_le [Add α] (a b : SVec α) :
    (sparseSum a b).length ≤ a.length + b.length := by
  fun_induction sparseSum a b with
  | case1 b => rw [List.length_nil, Nat.zero_add]; exact length_tailLoop_le b
  | case2 p a => exact length_tailLoop_le (p :: a)
  | case3 v1 a i1 v2 b ih =>
    exact Nat.le_trans (length_keep_le _ _ _)
      (Nat.succ_le_succ (Nat.le_trans ih (Nat.add_le_add_right (Nat.le_succ _) _)))
  | case4 i1 v1 a i2 v2 b hne hlt ih =>
    rw [List.length_cons, Nat.succ_add]
    exact Nat.le_trans (length_keep_le _ _ _) (Nat.succ_le_succ ih)
  | case5 i1 v1 a i2 v2 b hne hlt ih =>
    exact Nat.le_trans (length_keep_le _ _ _) (Nat.succ_le_succ ih)

theorem length_sparseDiff_le [Add α] [Neg α] (a b : SVec α) :
    (sparseDiff a b).length ≤ a.length + b.length := by
  have := length_sparseSum_le a (negate b)
  rwa [length_negate] at this

theorem length_enc_le (x : List α) : (enc x).length ≤ x.length := by
  rw [length_enc]; exact List.countP_le_length

end Lengths

section Canon
variable [DecidableEq α]

/-- a well-formed row that decodes to `c` of two encoded vectors is the encoding of `zipWith c` -/
theorem eq_enc_zipWith [Zero α] (c : α → α → α) (h0 : c 0 0 = 0) {r : SVec α} (hs : SortedFrom 0 r)
    (hz : NoZero r) {x y : List α} (h : x.length = y.length)
    (hd : ∀ i, decode r i = c (decode (enc x) i) (decode (enc y) i)) :
    r = enc (List.zipWith c x y) := by
  refine wf_ext hs hz (sortedFrom_enc _) (noZero_enc _) (fun i => ?_)
  rw [hd, decode_enc, decode_enc, decode_enc]
  exact (getD_zipWith c x y h 0 0 0 h0 i).symm

theorem sparseSum_enc [AddZeroClass α] (x y : List α) (h : x.length = y.length) :
    sparseSum (enc x) (enc y) = enc (List.zipWith (· + ·) x y) :=
  eq_enc_zipWith _ (add_zero 0) (sortedFrom_sparseSum (sortedFrom_enc x) (sortedFrom_enc y))
    (noZero_sparseSum _ _) h (decode_sparseSum (sortedFrom_enc x) (sortedFrom_enc y))

theorem sparseDiff_enc [AddGroup α] (x y : List α) (h : x.length = y.length) :
    sparseDiff (enc x) (enc y) = enc (List.zipWith (· - ·) x y) :=
  eq_enc_zipWith _ (sub_zero 0) (sortedFrom_sparseDiff (sortedFrom_enc x) (sortedFrom_enc y))
    (noZero_sparseDiff _ _) h (decode_sparseDiff (sortedFrom_enc x) (sortedFrom_enc y))

theorem sparseMul_enc [MulZeroClass α] (x y : List α) (h : x.length = y.length) :
    sparseMul (enc x) (enc y) = enc (List.zipWith (· * ·) x y) :=
  eq_enc_zipWith _ (mul_zero 0) (sortedFrom_sparseMul (sortedFrom_enc x) (sortedFrom_enc y))
    (noZero_sparseMul _ _) h (decode_sparseMul (sortedFrom_enc x) (sortedFrom_enc y))

/-- the loop of a metric that accumulates `g r (stored value)` over a sparse row `enc z` -/
theorem foldl_enc {β : Type} [Zero α] (g : β → α → β) (hzero : ∀ r, g r 0 = r) (z : List α) (r0 : β) :
    (enc z).foldl (fun r p => g r p.2) r0 = z.foldl g r0 :=
  foldl_encFrom g g (fun _ => True) (fun _ _ _ => trivial) (fun r _ => hzero r) (fun _ _ _ => rfl) 0 z r0 trivial

/-- a metric that loops over the stored values of a merge `m` of two encodings
(`m = enc (zipWith c x y)`: `sparseSum_enc`, `sparseDiff_enc`, `sparseMul_enc`) with a body that
does nothing on a zero is the dense loop over `c x[i] y[i]` -/
theorem foldl_merge_enc {β : Type} [Zero α] (g : β → α → β) (hg : ∀ r, g r 0 = r) (c : α → α → α)
    {m : SVec α} {x y : List α} (hm : m = enc (List.zipWith c x y)) (r0 : β) :
    m.foldl (fun r p => g r p.2) r0 = (x.zip y).foldl (fun r p => g r (c p.1 p.2)) r0 := by
  rw [hm, foldl_enc g hg]
  exact List.zipWith_foldl_eq_zip_foldl

end Canon

/-! ### `dense_union` (Jensen–Shannon, symmetric KL) -/
section DenseUnionShape
variable [DecidableEq α] [Zero α] [Add α]

theorem denseUnion_cons_lt {k : Nat} {u : α} {A B : SVec α} (hB : SortedFrom (k + 1) B) :
    denseUnion ((k, u) :: A) B = keep2 u u 0 (denseUnion A B) := by
  cases B with
  | nil => rw [denseUnion]
  | cons q B =>
    obtain ⟨j, w⟩ := q
    rw [denseUnion, if_neg (Nat.ne_of_lt hB.1), if_pos (Nat.lt_of_succ_le hB.1)]

theorem denseUnion_lt_cons {k : Nat} {v : α} {A B : SVec α} (hA : SortedFrom (k + 1) A) :
    denseUnion A ((k, v) :: B) = keep2 v 0 v (denseUnion A B) := by
  cases A with
  | nil => rw [denseUnion]
  | cons p A =>
    obtain ⟨j, w⟩ := p
    rw [denseUnion, if_neg (Nat.ne_of_gt hA.1), if_neg (Nat.lt_asymm hA.1)]

end DenseUnionShape

section DenseUnion
variable [DecidableEq α] [AddZeroClass α]

theorem keep2_zero (u v : α) (rest : List (α × α)) : keep2 0 u v rest = rest := if_pos rfl

/-- one coordinate of two encodings: whether or not `u`, `v` are stored, the outcome is that of
the matching branch -/
theorem denseUnion_keep_keep {k : Nat} (u v : α) {A B : SVec α} (hA : SortedFrom (k + 1) A)
    (hB : SortedFrom (k + 1) B) :
    denseUnion (keep k u A) (keep k v B) = keep2 (u + v) u v (denseUnion A B) := by
  unfold keep
  by_cases hu : u = 0
  · by_cases hv : v = 0
    · rw [if_pos hu, if_pos hv, hu, hv, add_zero, keep2_zero]
    · rw [if_pos hu, if_neg hv, denseUnion_lt_cons hA, hu, zero_add]
  · by_cases hv : v = 0
    · rw [if_neg hu, if_pos hv, denseUnion_cons_lt hB, hv, add_zero]
    · rw [if_neg hu, if_neg hv, denseUnion, if_pos rfl]

/-- `dense_union` on encodings returns the two dense vectors restricted to the coordinates on
which `x[i] + y[i] ≠ 0` -/
theorem denseUnion_encFrom (k : Nat) (x y : List α) (h : x.length = y.length) :
    denseUnion (encFrom k x) (encFrom k y) = (x.zip y).filter (fun p => p.1 + p.2 ≠ 0) := by
  induction x generalizing y k with
  | nil =>
    cases y with
    | nil => rw [encFrom, denseUnion]; rfl
    | cons _ _ => cases h
  | cons u s ih =>
    cases y with
    | nil => cases h
    | cons v t =>
      rw [encFrom, encFrom, denseUnion_keep_keep u v (sortedFrom_encFrom _ s) (sortedFrom_encFrom _ t),
        ih (k + 1) t (Nat.succ.inj h), List.zip_cons_cons, List.filter_cons]
      unfold keep2
      by_cases hs : u + v = 0
      · rw [if_pos hs, if_neg (fun hd => absurd hs (of_decide_eq_true hd))]
      · rw [if_neg hs, if_pos (decide_eq_true hs)]

end DenseUnion

section ToDense
variable [Zero α]

theorem getD_toDense (n : Nat) (a : SVec α) (i : Nat) :
    (toDense n a).getD i 0 = if i < n then decode a i else 0 := by
  unfold toDense
  rw [List.getD_eq_getElem?_getD, List.getElem?_map]
  by_cases h : i < n
  · rw [List.getElem?_range h, if_pos h]; rfl
  · rw [List.getElem?_eq_none (by simpa using h), if_neg h]; rfl

theorem length_toDense (n : Nat) (a : SVec α) : (toDense n a).length = n := by
  simp [toDense]

variable [DecidableEq α]

/-- a well-formed row with indices below `n` *is* the encoding of its `n`-dimensional dense vector -/
theorem enc_toDense {n : Nat} {a : SVec α} (hs : SortedFrom 0 a) (hz : NoZero a) (hb : Below n a) :
    enc (toDense n a) = a := by
  refine wf_ext (sortedFrom_enc _) (noZero_enc _) hs hz (fun i => ?_)
  rw [decode_enc, getD_toDense]
  split
  · rfl
  · rename_i hi
    exact (decode_of_below hb (Nat.le_of_not_lt hi)).symm

end ToDense

end Pynn.Sparse
