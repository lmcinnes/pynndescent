import PynnVerif.Proofs.GraphInv

/-! # Order statistics of a row never get worse under pushes

For every threshold `t`, the number of entries with priority `≤ t` never
decreases under a push (accepted or not); equivalently every order statistic
of the row is non-increasing along any push sequence. -/
namespace Pynn
variable {P : Type} [LinearOrder P]

/-- Replacing the root by an entry of strictly smaller priority cannot decrease the
number of entries within a threshold. -/
theorem count_set_root_le (h : Row P) (e : Entry P) (t : P) (hk : 0 < h.size)
    (hlt : e.prio < h[0].prio) :
    (h.toList.filter (fun e => e.prio ≤ t)).length ≤
      ((h.setIfInBounds 0 e).toList.filter (fun e => e.prio ≤ t)).length := by
  rcases h with ⟨_ | ⟨r, rest⟩⟩
  · simp at hk
  · simp only [Array.toList_setIfInBounds, List.set_cons_zero]
    have hlt' : e.prio < r.prio := by simpa using hlt
    by_cases hr : r.prio ≤ t
    · have he : e.prio ≤ t := le_trans (le_of_lt hlt') hr
      rw [List.filter_cons_of_pos (by simpa using hr), List.filter_cons_of_pos (by simpa using he)]
      exact Nat.le_refl _
    · rw [List.filter_cons_of_neg (by simpa using hr)]
      exact ((List.sublist_cons_self e rest).filter _).length_le

theorem push_count_le (c : Bool) (h : Row P) (p : P) (n : Int) (f : Bool) (t : P) :
    countLe h t ≤ countLe (push c h p n f).1 t := by
  unfold countLe
  rcases push_spec c h p n f with ⟨_, heq⟩ | ⟨_, hk, hlt, _, hperm⟩
  · rw [heq]; exact Nat.le_refl _
  · rw [((Array.perm_iff_toList_perm.mp hperm).filter (fun e => e.prio ≤ t)).length_eq]
    exact count_set_root_le h ⟨p, n, f⟩ t hk hlt

theorem pushes_count_le (c : Bool) (h : Row P) (hh : IsHeap h) (ops : List (P × Int × Bool))
    (t : P) :
    (h.toList.filter (·.prio ≤ t)).length ≤
      ((ops.foldl (fun h o => (push c h o.1 o.2.1 o.2.2).1) h).toList.filter
        (·.prio ≤ t)).length := by
  induction ops generalizing h with
  | nil => exact Nat.le_refl _
  | cons o ops ih =>
    rw [List.foldl_cons]
    exact Nat.le_trans (push_count_le c h o.1 o.2.1 o.2.2 t)
      (ih _ (push_heap c h o.1 o.2.1 o.2.2 hh))

theorem countLe_perm {a b : Row P} (h : a.Perm b) (t : P) : countLe a t = countLe b t := by
  unfold countLe
  exact ((Array.perm_iff_toList_perm.mp h).filter _).length_eq

theorem countLe_map_keepsKey (φ : Entry P → Entry P) (hφ : KeepsKey φ) (row : Row P) (t : P) :
    countLe (row.map φ) t = countLe row t := by
  simp only [countLe, Array.toList_map, List.filter_map, List.length_map, Function.comp_def, (hφ _).1]

/-! ## counts within thresholds vs. order statistics -/

theorem countLe_ge_of_prefix (l : List (Entry P)) (t : P) (j : Nat) (hj : j < l.length)
    (h : ∀ i (hi : i < l.length), i ≤ j → l[i].prio ≤ t) :
    j + 1 ≤ (l.filter (fun e => e.prio ≤ t)).length := by
  -- the first `j + 1` entries pass the filter, and they are a sublist
  have h1 : (l.take (j + 1)).filter (fun e => decide (e.prio ≤ t)) = l.take (j + 1) :=
    List.filter_eq_self.mpr fun a ha => by
      obtain ⟨i, hi, rfl⟩ := List.mem_take_iff_getElem.mp ha
      exact decide_eq_true (h i (Nat.lt_of_lt_of_le hi (Nat.min_le_right _ _))
        (Nat.le_of_lt_succ (Nat.lt_of_lt_of_le hi (Nat.min_le_left _ _))))
  have h2 := ((List.take_sublist (j + 1) l).filter (fun e => decide (e.prio ≤ t))).length_le
  rw [h1, List.length_take, Nat.min_eq_left (Nat.succ_le_of_lt hj)] at h2
  exact h2

theorem countLe_le_of_suffix (l : List (Entry P)) (t : P) (j : Nat)
    (h : ∀ i (hi : i < l.length), j ≤ i → t < l[i].prio) :
    (l.filter (fun e => e.prio ≤ t)).length ≤ j := by
  -- nothing from position `j` on passes the filter
  have h1 : (l.drop j).filter (fun e => decide (e.prio ≤ t)) = [] :=
    List.filter_eq_nil_iff.mpr fun a ha => by
      obtain ⟨i, hi, rfl⟩ := List.mem_drop_iff_getElem.mp ha
      exact fun hd => absurd (of_decide_eq_true hd) (not_le.mpr (h (j + i) (Nat.add_comm i j ▸ hi) (Nat.le_add_right j i)))
  rw [← List.take_append_drop j l, List.filter_append, h1, List.append_nil]
  exact Nat.le_trans (List.length_filter_le _ _) (List.length_take_le j l)

/-- in an ascending row the `j`-th priority is within `t` iff more than `j` entries are -/
theorem lt_countLe_iff {a : Row P}
    (ha : ∀ i j (hi : i < a.size) (hj : j < a.size), i ≤ j → a[i].prio ≤ a[j].prio)
    (t : P) (j : Nat) (hj : j < a.size) : j < countLe a t ↔ a[j].prio ≤ t := by
  constructor
  · intro h
    by_contra hgt
    refine absurd (countLe_le_of_suffix a.toList t j fun i hi hji => ?_) (Nat.not_le.mpr h)
    rw [Array.getElem_toList]
    exact lt_of_lt_of_le (not_le.mp hgt) (ha j i hj (by simpa using hi) hji)
  · intro h
    refine countLe_ge_of_prefix a.toList t j (by simpa using hj) fun i hi hij => ?_
    rw [Array.getElem_toList]
    exact le_trans (ha i j (by simpa using hi) hj hij) h

theorem countLe_le_size (a : Row P) (t : P) : countLe a t ≤ a.size := by
  simpa [countLe] using List.length_filter_le (fun e : Entry P => decide (e.prio ≤ t)) a.toList

/-- For two ascending rows, "for every threshold `t`, `b` holds at least as many entries within
`t` as `a`" says that every order statistic of `b` is at most the one of `a`: take
`t = a[j].prio`. -/
theorem sorted_rank_le_of_countLe {a b : Row P}
    (ha : ∀ i j (hi : i < a.size) (hj : j < a.size), i ≤ j → a[i].prio ≤ a[j].prio)
    (hb : ∀ i j (hi : i < b.size) (hj : j < b.size), i ≤ j → b[i].prio ≤ b[j].prio)
    (hc : ∀ t, countLe a t ≤ countLe b t) :
    ∀ j (hja : j < a.size) (hjb : j < b.size), b[j].prio ≤ a[j].prio :=
  fun j hja hjb => (lt_countLe_iff hb _ j hjb).mp
    (Nat.lt_of_lt_of_le ((lt_countLe_iff ha _ j hja).mpr (le_refl _)) (hc _))

/-- the converse: were `countLe b t < countLe a t`, position `j = countLe b t` would have
`b[j] ≤ a[j] ≤ t`, so more than `j` entries of `b` would be within `t` -/
theorem countLe_le_of_sorted_rank_le {a b : Row P} (hsize : b.size = a.size)
    (ha : ∀ i j (hi : i < a.size) (hj : j < a.size), i ≤ j → a[i].prio ≤ a[j].prio)
    (hb : ∀ i j (hi : i < b.size) (hj : j < b.size), i ≤ j → b[i].prio ≤ b[j].prio)
    (hr : ∀ j (hja : j < a.size) (hjb : j < b.size), b[j].prio ≤ a[j].prio) :
    ∀ t, countLe a t ≤ countLe b t := by
  intro t
  by_contra hlt
  have hlt := Nat.lt_of_not_le hlt
  have hja := Nat.lt_of_lt_of_le hlt (countLe_le_size a t)
  have hjb : countLe b t < b.size := hsize ▸ hja
  exact Nat.lt_irrefl _ ((lt_countLe_iff hb t _ hjb).mpr
    (le_trans (hr _ hja hjb) ((lt_countLe_iff ha t _ hja).mp hlt)))

end Pynn
