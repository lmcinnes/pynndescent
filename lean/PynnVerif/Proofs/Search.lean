import PynnVerif.Model.Search
import PynnVerif.Proofs.TopK
import PynnVerif.Proofs.HeapSort

/-! # The search as a sequence of elementary state changes

The visited table and `popMin`; the relation `Steps`; one walk through the phases of `search` for any property the
four kinds of change keep (`StepInv.keeps_search`); the invariants `VInv`, `HInv` and the measure `mu`, each proved for
the four kinds of `Step`; termination and fuel.

A new invariant that speaks only of the state is a lemma `Step.… : Step n dq s t → J s → J t` (by `cases`), carried to
the end of a search by `Steps.preserves` and `C02.InputsOk.steps`; one that needs to know which vertices a change may
touch (as reachability does) is a `StepInv dq A J` instance, carried by `StepInv.keeps_search`. -/
namespace Pynn
variable {P : Type} [LinearOrder P]

theorem visited_mark (vis : Array Bool) (c x : Nat) :
    visited (mark vis c) x = true ↔ (x = c ∧ c < vis.size) ∨ visited vis x = true := by
  unfold visited mark
  rw [Array.getElem?_setIfInBounds]
  by_cases h : c = x
  · subst h
    by_cases hc : c < vis.size
    · simp [hc]
    · simp [hc]
  · simp only [h, if_false]
    exact (or_iff_right fun h' => h h'.1.symm).symm

theorem visited_mark_imp {vis : Array Bool} {c v : Nat} (h : visited (mark vis c) v = true) :
    v = c ∨ visited vis v = true := ((visited_mark vis c v).mp h).imp_left (·.1)

@[simp] theorem mark_size (vis : Array Bool) (c : Nat) : (mark vis c).size = vis.size := by
  simp [mark]

section
omit [LinearOrder P]
variable [LT P] [DecidableLT P]

theorem popMin_none (l : List (P × Nat)) (h : popMin l = none) : l = [] := by
  fun_induction popMin l with
  | case1 => rfl
  | case2 => cases h
  | case3 => cases h
  | case4 => cases h

theorem popMin_perm (l : List (P × Nat)) (x : P × Nat) (rest : List (P × Nat))
    (h : popMin l = some (x, rest)) : l.Perm (x :: rest) := by
  -- the cases of `popMin`: `[]`; `[y]`; the least `m` of `ys` lies below `y`; it does not
  fun_induction popMin l generalizing x rest with
  | case1 => cases h
  | case2 y ys hp =>
    cases h
    rw [popMin_none ys hp]
  | case3 y ys m r hp hlt ih =>
    cases h
    exact ((ih m r hp).cons y).trans (List.Perm.swap _ _ _)
  | case4 y ys m r hp hnlt ih =>
    cases h
    exact List.Perm.refl _

theorem popMin_length (l : List (P × Nat)) (x : P × Nat) (rest : List (P × Nat))
    (h : popMin l = some (x, rest)) : rest.length + 1 = l.length :=
  (popMin_perm l x rest h).length_eq.symm

end

theorem seedLt_iff (a b : P × Nat) :
    seedLt a b = true ↔ a.1 < b.1 ∨ (a.1 = b.1 ∧ a.2 < b.2) := by
  unfold seedLt
  simp only [Bool.or_eq_true, Bool.and_eq_true, decide_eq_true_eq, Bool.not_eq_true',
    decide_eq_false_iff_not]
  -- when `a.1 < b.1` fails, `b.1 < a.1` fails exactly if the two are equal
  refine Decidable.or_congr_right' fun hlt => and_congr_left' ⟨fun h => ?_, fun h => ?_⟩
  · exact le_antisymm (not_lt.mp h) (not_lt.mp hlt)
  · exact h ▸ lt_irrefl _

theorem seedLt_asymm (a b : P × Nat) (h : seedLt a b = true) : seedLt b a = false := by
  rw [Bool.eq_false_iff]
  intro h'
  rw [seedLt_iff] at h h'
  rcases h with h | ⟨h1, h2⟩ <;> rcases h' with h' | ⟨h1', h2'⟩
  · exact lt_asymm h h'
  · rw [h1'] at h; exact lt_irrefl _ h
  · rw [h1] at h'; exact lt_irrefl _ h'
  · exact Nat.lt_asymm h2 h2'

/-- negative transitivity: `c ≤ b`, `b ≤ a` give `c ≤ a` for the seed order -/
theorem seedLt_neg_trans (a b c : P × Nat) (h1 : seedLt a b = false) (h2 : seedLt b c = false) :
    seedLt a c = false := by
  -- `seedLt x y = false` reads `y.1 ≤ x.1 ∧ (x.1 = y.1 → y.2 ≤ x.2)`
  rw [Bool.eq_false_iff, ne_eq, seedLt_iff, not_or, not_and, not_lt, Nat.not_lt] at *
  refine ⟨le_trans h2.1 h1.1, fun hac => ?_⟩
  have hab : a.1 = b.1 := le_antisymm (hac ▸ h2.1) h1.1
  exact Nat.le_trans (h2.2 (hab ▸ hac)) (h1.2 hab)

/-- `heappop` returns a least seed: no remaining seed is smaller. -/
theorem popMin_least (l : List (P × Nat)) (x : P × Nat) (rest : List (P × Nat))
    (h : popMin l = some (x, rest)) : ∀ y ∈ rest, seedLt y x = false := by
  fun_induction popMin l generalizing x rest with
  | case1 => cases h
  | case2 z zs hp =>
    cases h
    exact nofun
  | case3 z zs m r hp hlt ih =>
    cases h
    intro y hy
    rcases List.mem_cons.mp hy with rfl | hy
    · exact seedLt_asymm _ _ hlt
    · exact ih m r hp y hy
  | case4 z zs m r hp hnlt ih =>
    cases h
    intro y hy
    -- `m` is least in `zs` and not below `z`
    have hmx : seedLt m z = false := Bool.not_eq_true _ ▸ hnlt
    rcases List.mem_cons.mp ((popMin_perm zs m r hp).subset hy) with rfl | hy'
    · exact hmx
    · exact seedLt_neg_trans _ _ _ (ih m r hp y hy') hmx

/-! ## The state changes of the search, as a relation

Every phase of `search` is a sequence of four kinds of elementary changes; each
invariant below is proved once, for these four, and then holds along every phase. -/

/-- `offer`: a not-yet-visited vertex is pushed to the result heap and the seed set and
marked (in either order: the state is observed after the whole step); `skip`: a vertex is
marked but fails `d < distance_bound`; `pop`: `heappop`; `rebound`: the bound is recomputed. -/
inductive Step (n : Nat) (dq : Nat → P) : SState P → SState P → Prop
  | offer (s : SState P) (c : Nat) (b : P) (hc : c < n) (hv : visited s.vis c = false) :
      Step n dq s { heap := (pushSimple s.heap (dq c) c).1, seeds := (dq c, c) :: s.seeds,
                    vis := mark s.vis c, bound := b }
  | skip (s : SState P) (c : Nat) (hc : c < n) : Step n dq s { s with vis := mark s.vis c }
  | pop (s : SState P) (x : P × Nat) (rest : List (P × Nat)) (h : s.seeds.Perm (x :: rest)) :
      Step n dq s { s with seeds := rest }
  | rebound (s : SState P) (b : P) : Step n dq s { s with bound := b }

inductive Steps (n : Nat) (dq : Nat → P) : SState P → SState P → Prop
  | refl (s : SState P) : Steps n dq s s
  | tail {s t u : SState P} : Steps n dq s t → Step n dq t u → Steps n dq s u

theorem Steps.single {n : Nat} {dq : Nat → P} {s t : SState P} (h : Step n dq s t) :
    Steps n dq s t := Steps.tail (Steps.refl s) h

theorem Steps.preserves {n : Nat} {dq : Nat → P} (Inv : SState P → Prop)
    (hstep : ∀ s t, Step n dq s t → Inv s → Inv t) {s t : SState P}
    (h : Steps n dq s t) (hs : Inv s) : Inv t := by
  induction h with
  | refl => exact hs
  | tail _ hst ih => exact hstep _ _ hst ih

/-- `Steps.preserves` in hypothesis form, with the set `A` of vertices a change may touch as a parameter
(`Steps n dq s0` itself is the case `A = (· < n)`: `stepInv_steps`). -/
structure StepInv (dq : Nat → P) (A : Nat → Prop) (J : SState P → Prop) : Prop where
  offer : ∀ s c b, A c → visited s.vis c = false → J s →
    J { heap := (pushSimple s.heap (dq c) c).1, seeds := (dq c, c) :: s.seeds, vis := mark s.vis c, bound := b }
  skip : ∀ s c, A c → J s → J { s with vis := mark s.vis c }
  pop : ∀ s x rest, s.seeds.Perm (x :: rest) → J s → J { s with seeds := rest }
  rebound : ∀ s b, J s → J { s with bound := b }

theorem stepInv_steps (n : Nat) (dq : Nat → P) (s0 : SState P) : StepInv dq (· < n) (Steps n dq s0) where
  offer s c b hc hv hs := hs.tail (.offer s c b hc hv)
  skip s c hc hs := hs.tail (.skip s c hc)
  pop s x rest hp hs := hs.tail (.pop s x rest hp)
  rebound s b hs := hs.tail (.rebound s b)

theorem mem_nbrs (indptr indices : Array Nat) (v c : Nat) (h : c ∈ nbrs indptr indices v) :
    c ∈ indices := by
  unfold nbrs at h
  rw [Array.mem_toList_iff, Array.mem_extract_iff_getElem] at h
  obtain ⟨k, hk, rfl⟩ := h
  exact Array.getElem_mem _

section
omit [LinearOrder P]

theorem visited_empty (top : P) (n k c : Nat) : visited (emptyState top n k).vis c = false := by
  unfold visited emptyState
  simp only [Array.getElem?_replicate]
  split <;> rfl

theorem emptyState_vis_size (top : P) (n k : Nat) : (emptyState top n k).vis.size = n := Array.size_replicate

theorem emptyState_heap_size (top : P) (n k : Nat) : (emptyState top n k).heap.size = k := Array.size_replicate

end

theorem search_eq (top : P) (scale : P → P) (n k nNeighbors : Nat) (indptr indices : Array Nat) (dq : Nat → P)
    (leaf draws : List Nat) (fuel : Nat) :
    search top scale n k nNeighbors indptr indices dq leaf draws fuel =
      match popMin (initState top scale n k nNeighbors dq leaf draws).seeds with
      | none => (initState top scale n k nNeighbors dq leaf draws, false)
      | some (x, rest) => searchLoop top scale indptr indices dq fuel
          { initState top scale n k nNeighbors dq leaf draws with seeds := rest } x.1 x.2 := rfl

namespace StepInv
variable {dq : Nat → P} {A : Nat → Prop} {J : SState P → Prop} (h : StepInv dq A J)
include h

/-- the seed set is fed by `offer` alone, so it stays inside `A` -/
theorem withSeeds : StepInv dq A fun s => J s ∧ ∀ x ∈ s.seeds, A x.2 where
  offer s c b hc hv hs := ⟨h.offer s c b hc hv hs.1, List.forall_mem_cons.mpr ⟨hc, hs.2⟩⟩
  skip s c hc hs := ⟨h.skip s c hc hs.1, hs.2⟩
  pop s x rest hp hs := ⟨h.pop s x rest hp hs.1, fun y hy => hs.2 y (hp.symm.subset (List.mem_cons_of_mem _ hy))⟩
  rebound s b hs := ⟨h.rebound s b hs.1, hs.2⟩

/-- the leaf loop has no visited test: its steps are `offer`s because the leaf holds no vertex twice -/
theorem keeps_leaf (rest : List Nat) (s : SState P) (hA : ∀ c ∈ rest, A c)
    (hun : ∀ c ∈ rest, visited s.vis c = false) (hnd : rest.Nodup) (hs : J s) :
    J (rest.foldl (leafStep dq) s) := by
  induction rest generalizing s with
  | nil => exact hs
  | cons c cs ih =>
    obtain ⟨hc, hnd'⟩ := List.nodup_cons.mp hnd
    refine ih _ (fun x hx => hA x (List.mem_cons_of_mem _ hx)) (fun x hx => ?_) hnd'
      (h.offer s c s.bound (hA c List.mem_cons_self) (hun c List.mem_cons_self) hs)
    rw [Bool.eq_false_iff]
    intro hvis
    rcases visited_mark_imp hvis with rfl | h'
    · exact hc hx
    · rw [hun x (List.mem_cons_of_mem _ hx)] at h'; cases h'

variable (top : P) (scale : P → P) (n k nNeighbors : Nat) (leaf draws : List Nat) (hleaf : leaf.Nodup)
  (hcand : ∀ c ∈ leaf ++ draws.take (min k nNeighbors - leaf.length), A c)
include hleaf hcand

theorem keeps_init (h0 : J (emptyState top n k)) : J (initState top scale n k nNeighbors dq leaf draws) := by
  refine h.rebound _ _ (List.foldlRecOn _ _ (h.keeps_leaf leaf _ (fun c hc => hcand c (List.mem_append_left _ hc))
    (fun c _ => visited_empty top n k c) hleaf h0) fun s hs c hc => ?_)
  unfold randStep
  split
  · exact hs
  · next hv => exact h.offer s c s.bound (hcand c (List.mem_append_right _ hc)) (Bool.not_eq_true _ ▸ hv) hs

omit hleaf hcand
variable (indptr indices : Array Nat)

theorem keeps_expand (s : SState P) (v : Nat) (hv : ∀ c ∈ nbrs indptr indices v, A c) (hs : J s) :
    J ((nbrs indptr indices v).foldl (expandStep top scale dq) s) := by
  refine List.foldlRecOn _ _ hs fun t ht c hc => ?_
  -- the three ways of `expandStep`: already visited; offered (with the recomputed bound); marked only
  unfold expandStep
  split
  · exact ht
  · next hvis =>
    split
    · exact h.offer t c _ (hv c hc) (Bool.not_eq_true _ ▸ hvis) ht
    · exact h.skip t c (hv c hc) ht

variable (hedge : ∀ v c, A v → c ∈ nbrs indptr indices v → A c)
include hedge

/-- the vertex whose neighbours are expanded next was a seed, so it lies in `A`, and so do its neighbours -/
theorem keeps_loop (hseed : ∀ s, J s → ∀ x ∈ s.seeds, A x.2) (fuel : Nat) (s : SState P) (dv : P) (v : Nat) (hv : A v)
    (hs : J s) : J (searchLoop top scale indptr indices dq fuel s dv v).1 := by
  -- the cases of `searchLoop`: out of fuel; seed set empty after the expansion; pop and iterate; `dv ≥ bound`
  fun_induction searchLoop top scale indptr indices dq fuel s dv v with
  | case1 s => exact hs
  | case2 fuel s dv v hb s' hp => exact h.keeps_expand top scale indptr indices s v (hedge v · hv) hs
  | case3 fuel s dv v hb s' x rest hp ih =>
    have h1 := h.keeps_expand top scale indptr indices s v (hedge v · hv) hs
    have hp' := popMin_perm _ _ _ hp
    exact ih (hseed _ h1 x (hp'.symm.subset List.mem_cons_self)) (h.pop _ x rest hp' h1)
  | case4 fuel s dv v hb => exact hs

include hleaf hcand in
/-- **Induction over a search**: `A` holds the candidates and is closed under the edges of the search graph. -/
theorem keeps_search (h0 : J (emptyState top n k)) (fuel : Nat) :
    J (search top scale n k nNeighbors indptr indices dq leaf draws fuel).1 ∧
      ∀ x ∈ (search top scale n k nNeighbors indptr indices dq leaf draws fuel).1.seeds, A x.2 := by
  have h1 := h.withSeeds.keeps_init top scale n k nNeighbors leaf draws hleaf hcand ⟨h0, nofun⟩
  rw [search_eq]
  split
  · exact h1
  · next x rest hp =>
    have hp' := popMin_perm _ _ _ hp
    exact h.withSeeds.keeps_loop top scale indptr indices hedge (fun _ hs => hs.2) fuel _ _ _
      (h1.2 x (hp'.symm.subset List.mem_cons_self)) (h.withSeeds.pop _ x rest hp' h1)

end StepInv

theorem Step.sizes {n : Nat} {dq : Nat → P} {s t : SState P} (h : Step n dq s t) :
    t.vis.size = s.vis.size ∧ t.heap.size = s.heap.size := by
  cases h with
  | offer c b hc hv => exact ⟨mark_size _ _, push_size _ _ _ _ _⟩
  | skip c hc => exact ⟨mark_size _ _, rfl⟩
  | pop x rest hp => exact ⟨rfl, rfl⟩
  | rebound b => exact ⟨rfl, rfl⟩

section
omit [LinearOrder P]

/-- What the visited table knows: `offers` (ghost) lists the vertices handed to `simple_heap_push` so far; all of
them are real vertices and marked visited — which is why none is offered twice — and every seed is one of them,
paired with its own distance, and no vertex occurs twice in the seed set. -/
structure VInv (n : Nat) (dq : Nat → P) (offers : List Nat) (s : SState P) : Prop where
  lt : ∀ o ∈ offers, o < n
  vis : ∀ o ∈ offers, visited s.vis o = true
  size : s.vis.size = n
  seed : ∀ x ∈ s.seeds, x.2 ∈ offers ∧ x.1 = dq x.2
  nodup : (s.seeds.map (·.2)).Nodup

theorem empty_vinv (top : P) (n k : Nat) (dq : Nat → P) : VInv n dq [] (emptyState top n k) :=
  ⟨nofun, nofun, emptyState_vis_size top n k, nofun, List.nodup_nil⟩

end

/-- What a change does to `VInv` and to the result heap: it leaves `offers` and the heap alone, or it hands the heap
a vertex that is not marked, hence has not been offered before. -/
theorem Step.vinv_cases {n : Nat} {dq : Nat → P} {s t : SState P} (h : Step n dq s t) {offers : List Nat}
    (hinv : VInv n dq offers s) :
    (t.heap = s.heap ∧ VInv n dq offers t) ∨
      ∃ c, c ∉ offers ∧ t.heap = (pushSimple s.heap (dq c) c).1 ∧ VInv n dq (c :: offers) t := by
  cases h with
  | offer c b hc hv =>
    have hnew : c ∉ offers := fun ho => by rw [hinv.vis c ho] at hv; exact Bool.noConfusion hv
    exact .inr ⟨c, hnew, rfl, {
      lt := List.forall_mem_cons.mpr ⟨hc, hinv.lt⟩
      vis := List.forall_mem_cons.mpr ⟨(visited_mark s.vis c c).mpr (Or.inl ⟨rfl, Nat.lt_of_lt_of_eq hc hinv.size.symm⟩),
        fun o ho => (visited_mark s.vis c o).mpr (Or.inr (hinv.vis o ho))⟩
      size := (mark_size s.vis c).trans hinv.size
      seed := List.forall_mem_cons.mpr ⟨⟨List.mem_cons_self, rfl⟩,
        fun x hx => ⟨List.mem_cons_of_mem _ (hinv.seed x hx).1, (hinv.seed x hx).2⟩⟩
      nodup := List.nodup_cons.mpr ⟨fun hm =>
        let ⟨x, hx, (hxc : x.2 = c)⟩ := List.mem_map.mp hm
        hnew (hxc ▸ (hinv.seed x hx).1), hinv.nodup⟩ }⟩
  | skip c hc =>
    exact .inl ⟨rfl, hinv.lt, fun o ho => (visited_mark s.vis c o).mpr (Or.inr (hinv.vis o ho)),
      (mark_size s.vis c).trans hinv.size, hinv.seed, hinv.nodup⟩
  | pop x rest hp =>
    exact .inl ⟨rfl, hinv.lt, hinv.vis, hinv.size, fun y hy => hinv.seed y (hp.symm.subset (List.mem_cons_of_mem _ hy)),
      (List.nodup_cons.mp ((hp.map (·.2)).nodup_iff.mp hinv.nodup)).2⟩
  | rebound b => exact .inl ⟨rfl, hinv.lt, hinv.vis, hinv.size, hinv.seed, hinv.nodup⟩

theorem Step.vinv {n : Nat} {dq : Nat → P} {s t : SState P} (h : Step n dq s t)
    (hs : ∃ offers, VInv n dq offers s) : ∃ offers, VInv n dq offers t := by
  obtain ⟨offers, hinv⟩ := hs
  rcases h.vinv_cases hinv with ⟨_, ht⟩ | ⟨c, _, _, ht⟩
  · exact ⟨offers, ht⟩
  · exact ⟨c :: offers, ht⟩

/-- What the result heap knows: it has been fed exactly the `offers` of `VInv`. -/
def HInv (top : P) (n : Nat) (dq : Nat → P) (offers : List Nat) (s : SState P) : Prop :=
  RowInv top dq (offers.map (fun o => (o, false))) s.heap ∧ VInv n dq offers s

theorem Step.hinv {top : P} (htop : ∀ x : P, x ≤ top) {n : Nat} {dq : Nat → P} {s t : SState P}
    (h : Step n dq s t) (hs : ∃ offers, HInv top n dq offers s) :
    ∃ offers, HInv top n dq offers t := by
  obtain ⟨offers, hrow, hinv⟩ := hs
  rcases h.vinv_cases hinv with ⟨he, ht⟩ | ⟨c, hnew, he, ht⟩
  · exact ⟨offers, he ▸ hrow, ht⟩
  · refine ⟨c :: offers, he ▸ push_inv false top htop dq _ s.heap c false (fun _ hmem => hnew ?_) hrow, ht⟩
    rw [List.map_map] at hmem
    obtain ⟨o, ho, rfl⟩ := List.mem_map.mp hmem
    exact ho

theorem empty_hinv (top : P) (n k : Nat) (dq : Nat → P) : HInv top n dq [] (emptyState top n k) :=
  ⟨mkRow_inv top k dq, empty_vinv top n k dq⟩

/-- number of vertices not yet visited -/
def unvis (vis : Array Bool) : Nat := vis.count false

theorem unvis_mark_le (vis : Array Bool) (c : Nat) : unvis (mark vis c) ≤ unvis vis := by
  unfold unvis mark
  by_cases hc : c < vis.size
  · rw [Array.setIfInBounds, dif_pos hc, Array.count_set hc]
    -- `count - _ + 0`
    exact Nat.sub_le _ _
  · rw [Array.setIfInBounds, dif_neg hc]
    exact Nat.le_refl _

theorem unvis_mark_succ (vis : Array Bool) (c : Nat) (hc : c < vis.size) (hv : visited vis c = false) :
    unvis (mark vis c) + 1 = unvis vis := by
  have hget : vis[c] = false := by
    unfold visited at hv
    rw [Array.getElem?_eq_getElem hc] at hv
    exact hv
  have hpos := Array.boole_getElem_le_count (a := false) hc
  unfold unvis mark
  rw [Array.setIfInBounds, dif_pos hc, Array.count_set hc]
  rw [hget] at hpos ⊢
  -- the `if`s evaluate: `count - 1 + 0 + 1 = count`, with `1 ≤ count`
  exact Nat.sub_add_cancel hpos

section
omit [LinearOrder P]

/-- the termination measure: seeds still to pop + vertices that can still become seeds -/
def mu (s : SState P) : Nat := s.seeds.length + unvis s.vis

theorem empty_mu (top : P) (n k : Nat) : mu (emptyState top n k) = n := by
  simp [mu, emptyState, unvis]

end

theorem Step.mu_le {n : Nat} {dq : Nat → P} {s t : SState P} (h : Step n dq s t)
    (hsz : s.vis.size = n) : mu t ≤ mu s := by
  cases h with
  | offer c b hc hv =>
    show s.seeds.length + 1 + unvis (mark s.vis c) ≤ s.seeds.length + unvis s.vis
    rw [← unvis_mark_succ s.vis c (hsz ▸ hc) hv, Nat.add_assoc, Nat.add_comm 1]
    exact Nat.le_refl _
  | skip c hc => exact Nat.add_le_add_left (unvis_mark_le s.vis c) _
  | pop x rest hp =>
    have : rest.length ≤ s.seeds.length := hp.length_eq ▸ Nat.le_succ rest.length
    exact Nat.add_le_add_right this _
  | rebound b => exact Nat.le_refl _

theorem Steps.mu_le {n : Nat} {dq : Nat → P} {s t : SState P} (h : Steps n dq s t)
    (hsz : s.vis.size = n) : mu t ≤ mu s ∧ t.vis.size = n :=
  Steps.preserves (fun u => mu u ≤ mu s ∧ u.vis.size = n)
    (fun _ _ hab ⟨h1, h2⟩ => ⟨Nat.le_trans (hab.mu_le h2) h1, hab.sizes.1.trans h2⟩) h
    ⟨Nat.le_refl _, hsz⟩

theorem loop_terminates (n : Nat) (top : P) (scale : P → P) (indptr indices : Array Nat)
    (dq : Nat → P) (hcsr : ∀ c ∈ indices, c < n) (fuel : Nat) (s : SState P) (dv : P) (v : Nat)
    (hsz : s.vis.size = n) (hfuel : mu s < fuel) :
    (searchLoop top scale indptr indices dq fuel s dv v).2 = true := by
  fun_induction searchLoop top scale indptr indices dq fuel s dv v with
  | case1 s => exact absurd hfuel (Nat.not_lt_zero _)
  | case2 fuel s dv v hb s' hp => rfl
  | case3 fuel s dv v hb s' x rest hp ih =>
    -- expanding does not raise `mu`, popping lowers it
    have h1 := ((stepInv_steps n dq s).keeps_expand top scale indptr indices s v
      (fun c hc => hcsr c (mem_nbrs _ _ _ _ hc)) (Steps.refl s)).mu_le hsz
    refine ih h1.2 (Nat.lt_of_succ_lt_succ (Nat.lt_of_le_of_lt ?_ hfuel))
    show rest.length + unvis s'.vis + 1 ≤ mu s
    rw [Nat.add_right_comm, popMin_length _ _ _ hp]
    exact h1.1
  | case4 fuel s dv v hb => rfl

theorem loop_fuel_mono (top : P) (scale : P → P) (indptr indices : Array Nat) (dq : Nat → P)
    (fuel fuel' : Nat) (s : SState P) (dv : P) (v : Nat) (hle : fuel ≤ fuel')
    (h : (searchLoop top scale indptr indices dq fuel s dv v).2 = true) :
    searchLoop top scale indptr indices dq fuel' s dv v
      = searchLoop top scale indptr indices dq fuel s dv v := by
  fun_induction searchLoop top scale indptr indices dq fuel s dv v generalizing fuel' with
  | case1 s => cases h
  | case2 fuel s dv v hb s' hp =>
    obtain ⟨f', rfl⟩ := Nat.exists_eq_add_of_lt hle
    simp only [searchLoop, if_pos hb, hp, s']
  | case3 fuel s dv v hb s' x rest hp ih =>
    obtain ⟨f', rfl⟩ := Nat.exists_eq_add_of_lt hle
    rw [searchLoop, if_pos hb]
    simp only [s'] at hp ⊢
    rw [hp]
    exact ih _ (Nat.le_add_right _ _) h
  | case4 fuel s dv v hb =>
    obtain ⟨f', rfl⟩ := Nat.exists_eq_add_of_lt hle
    simp only [searchLoop, if_neg hb]

/-- With `k ≥ 1`, `n_neighbors ≥ 1` and a generator that delivers the values the code asks
for, the init phase leaves at least one seed: either the leaf is non-empty, or the first
random candidate meets a cleared table; neither init loop removes a seed. -/
theorem init_seeds_nonempty (top : P) (scale : P → P) (n k nNeighbors : Nat) (dq : Nat → P)
    (leaf draws : List Nat) (hk : 1 ≤ k) (hnn : 1 ≤ nNeighbors)
    (hdr : min k nNeighbors - leaf.length ≤ draws.length) :
    (initState top scale n k nNeighbors dq leaf draws).seeds ≠ [] := by
  have hrand : ∀ (cs : List Nat) (s : SState P), s.seeds ≠ [] → (cs.foldl (randStep dq) s).seeds ≠ [] := fun cs s h =>
    List.foldlRecOn cs (randStep dq) (motive := (·.seeds ≠ [])) h fun s hs c _ => by
      unfold randStep
      split
      · exact hs
      · exact List.cons_ne_nil _ _
  show ((draws.take (min k nNeighbors - leaf.length)).foldl (randStep dq)
    (leaf.foldl (leafStep dq) (emptyState top n k))).seeds ≠ []
  rcases leaf.eq_nil_or_concat with rfl | ⟨cs, c, rfl⟩
  · have hm : min k nNeighbors - ([] : List Nat).length = min k nNeighbors - 1 + 1 :=
      (Nat.sub_add_cancel (Nat.le_min.mpr ⟨hk, hnn⟩)).symm
    rw [hm] at hdr ⊢
    cases draws with
    | nil => exact absurd hdr (Nat.not_succ_le_zero _)
    | cons d ds =>
      rw [List.take_succ_cons, List.foldl_cons, List.foldl_nil, randStep, visited_empty]
      exact hrand _ _ (List.cons_ne_nil _ _)
  · -- the last leaf candidate is pushed
    rw [List.concat_eq_append, List.foldl_append]
    exact hrand _ _ (List.cons_ne_nil _ _)

end Pynn
