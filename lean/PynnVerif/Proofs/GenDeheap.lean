import PynnVerif.Proofs.GenHeap

/-!
# `utils.deheap_sort`: the translated `siftdown` on row-prefix views, row by row

One pass of `deheap_sort`'s per-row loop (`for j in range(k-1, 0, -1)`: swap slots `0` and `j`, then
`siftdown(dist[i, :j], ind[i, :j], 0)`) is `deheap_step`.  Two loops rest on it:

* `kernelDeheapLoop` / `kernelDeheapSort`, the per-row loop written out by hand on one row held in two arrays (a view
  `a[:j]` is the prefix, the stores go through to the row) with the **generated** `siftdown` as its body; these are
  the definitions the statement of `C11.kernel_deheap_sort_spec` uses;
* the generated `deheap_sort` itself: `prange` translated as `range` (that the rows are independent is property
  C05's obligation), `A[i, j]` through `wr2`, the views `A[i, :j]` handed to the translated `siftdown` through
  `take` / `wrPrefix` (what the callee stores lands in row `i`, the tail `A[i, j:]` untouched).  For rectangular
  `n × k` arrays and `fuel ≥ n + k + 1` it never leaves an array and each row ends as the model's `deheapSort` of
  that row (`deheap_loop0_spec`, assembled in `C11.kernel_deheap_sort_refines`).
-/
-- `siftdownSwap_size` takes four order instances without using them
set_option linter.unusedSectionVars false
namespace Pynn
open GenK
variable {P : Type}

theorem prio_sorted_of_zip2 [LE P] {pr : Array P} {ix : Array Int} {r : Row P} (hz : zip2 pr ix = r)
    (hs : pr.size = ix.size)
    (h : ∀ i j (hi : i < r.size) (hj : j < r.size), i ≤ j → r[i].prio ≤ r[j].prio) :
    ∀ i j (hi : i < pr.size) (hj : j < pr.size), i ≤ j → pr[i] ≤ pr[j] := by
  subst hz
  intro i j hi hj hij
  have := h i j (zip2_size_eq rfl hs.symm ▸ hi) (zip2_size_eq rfl hs.symm ▸ hj) hij
  rwa [zip2_getElem, zip2_getElem] at this

section
variable [LE P] [LT P] [DecidableLE P] [DecidableLT P]

theorem siftdownSwap_size (a : Row P) (n elt : Nat) : (siftdownSwap a n elt).size = a.size := sds_size a n elt

end

/-! `siftdown` and `deheap_sort` compare with `<` only. -/
variable [LT P] [DecidableLT P]

/-- **`siftdown` on the view `heap[:m]`**: the callee works on the prefixes, its stores land in front of
the untouched tails, and the row as a whole is the model's `siftdownSwap` bounded by `m`. -/
theorem siftdown_prefix (pr : Array P) (ix : Array Int) (m : Nat) (fuel : Nat)
    (hs : pr.size = ix.size) (hm : m ≤ pr.size) (hf : m < fuel) :
    ∃ a b, GenK.siftdown fuel (pr.extract 0 m) (ix.extract 0 m) 0 = some (a, b) ∧ a.size = m ∧ b.size = m ∧
      zip2 (a ++ pr.extract m pr.size) (b ++ ix.extract m ix.size) = siftdownSwap (zip2 pr ix) m 0 := by
  have p1 : (pr.extract 0 m).size = m := by rw [Array.size_extract, Nat.min_eq_left hm, Nat.sub_zero]
  have p2 : (ix.extract 0 m).size = m := by rw [Array.size_extract, Nat.min_eq_left (hs ▸ hm), Nat.sub_zero]
  have p12 := p1.trans p2.symm
  obtain ⟨a, b, hk, a1, a2, a3⟩ :=
    siftdown_refines (pr.extract 0 m) (ix.extract 0 m) 0 fuel p12 (Int.le_refl 0) (p1.symm ▸ hf)
  refine ⟨a, b, hk, a1.trans p1, a2.trans p2, ?_⟩
  rw [zip2_append _ _ _ _ (a1.trans (p12.trans a2.symm)), a3, p1, Int.toNat_zero,
    ← siftdownSwap_append _ _ _ _ (by simp [p1, p2]), ← zip2_append _ _ _ _ p12, extract_append_rest,
    extract_append_rest]

/-- one row of `deheap_sort` from position `j` downwards, with the translated `siftdown` run on the
prefix views (`none` if it ever leaves its arrays or runs out of fuel) -/
def kernelDeheapLoop (fuel : Nat) : Nat → Array P → Array Int → Option (Array P × Array Int)
  | 0, pr, ix => some (pr, ix)
  | j+1, pr, ix =>
    if h : j + 1 < pr.size ∧ j + 1 < ix.size then
      let pr1 := pr.swap 0 (j+1) (by omega) h.1
      let ix1 := ix.swap 0 (j+1) (by omega) h.2
      match GenK.siftdown fuel (pr1.extract 0 (j+1)) (ix1.extract 0 (j+1)) 0 with
      | some (a, b) =>
        kernelDeheapLoop fuel j (a ++ pr1.extract (j+1) pr1.size) (b ++ ix1.extract (j+1) ix1.size)
      | none => none
    else some (pr, ix)

/-- `deheap_sort` on one row stored in two arrays -/
def kernelDeheapSort (fuel : Nat) (pr : Array P) (ix : Array Int) : Option (Array P × Array Int) :=
  kernelDeheapLoop fuel (pr.size - 1) pr ix

/-- **One pass of the per-row loop of `deheap_sort`.**  `R`, `S` are the row after the swap of slots `0` and
`j+1`: the translated `siftdown` on the views `R[:j+1]`, `S[:j+1]` stays in bounds, and once its result is put
back in front of the tails the model's loop has one position less to go. -/
theorem deheap_step (fuel k j : Nat) (pr : Array P) (ix : Array Int) (hp : pr.size = k) (hx : ix.size = k)
    (hj : j + 1 < k) (hf : j + 1 < fuel) {R : Array P} {S : Array Int}
    (hR : R = pr.swap 0 (j+1) (Nat.zero_lt_of_lt (hp ▸ hj)) (hp ▸ hj))
    (hS : S = ix.swap 0 (j+1) (Nat.zero_lt_of_lt (hx ▸ hj)) (hx ▸ hj)) :
    j + 1 ≤ R.size ∧ j + 1 ≤ S.size ∧
    ∃ a b, GenK.siftdown fuel (R.extract 0 (j+1)) (S.extract 0 (j+1)) 0 = some (a, b) ∧
      a.size = j + 1 ∧ b.size = j + 1 ∧
      (a ++ R.extract (j+1) R.size).size = k ∧ (b ++ S.extract (j+1) S.size).size = k ∧
      deheapLoop (zip2 (a ++ R.extract (j+1) R.size) (b ++ S.extract (j+1) S.size)) j
        = deheapLoop (zip2 pr ix) (j+1) := by
  have sR : R.size = k := by rw [hR, Array.size_swap, hp]
  have sS : S.size = k := by rw [hS, Array.size_swap, hx]
  have hjR : j + 1 ≤ R.size := sR ▸ Nat.le_of_lt hj
  have hjS : j + 1 ≤ S.size := sS ▸ Nat.le_of_lt hj
  have hz : j + 1 < (zip2 pr ix).size := (zip2_size_eq hp hx).symm ▸ hj
  obtain ⟨a, b, hk, sa, sb, hzip⟩ := siftdown_prefix R S (j+1) fuel (sR.trans sS.symm) hjR hf
  refine ⟨hjR, hjS, a, b, hk, sa, sb, (size_append_extract a R (j+1) sa hjR).trans sR,
    (size_append_extract b S (j+1) sb hjS).trans sS, ?_⟩
  rw [hzip, hR, hS, zip2_swap]
  simp only [deheapLoop, hz, dite_true]

/-- (The `else` branch of `kernelDeheapLoop` mirrors the guard of the model's `deheapLoop`; from `kernelDeheapSort`,
which starts at `j = size - 1`, it is not reached.) -/
theorem kernelDeheapLoop_refines (fuel k : Nat) (hf : k < fuel) : ∀ (j : Nat) (pr : Array P) (ix : Array Int),
    pr.size = k → ix.size = k →
    ∃ pr' ix', kernelDeheapLoop fuel j pr ix = some (pr', ix') ∧ pr'.size = k ∧ ix'.size = k ∧
      zip2 pr' ix' = deheapLoop (zip2 pr ix) j := by
  intro j
  induction j with
  | zero => intro pr ix hp hx; exact ⟨pr, ix, rfl, hp, hx, rfl⟩
  | succ j ih =>
    intro pr ix hp hx
    unfold kernelDeheapLoop
    by_cases hj : j + 1 < k
    · obtain ⟨_, _, a, b, hk, _, _, s1, s2, hd⟩ :=
        deheap_step fuel k j pr ix hp hx hj (Nat.lt_trans hj hf) rfl rfl
      obtain ⟨pr', ix', hr, b1, b2, b3⟩ := ih _ _ s1 s2
      simp only [hp, hx, hj, and_self, dite_true, hk]
      exact ⟨pr', ix', hr, b1, b2, b3.trans hd⟩
    · have hz : ¬ j + 1 < (zip2 pr ix).size := (zip2_size_eq hp hx).symm ▸ hj
      simp only [hp, hx, hj, and_self, dite_false, deheapLoop, hz]
      exact ⟨pr, ix, rfl, hp, hx, rfl⟩

theorem kernelDeheapSort_refines (fuel : Nat) (pr : Array P) (ix : Array Int)
    (hs : pr.size = ix.size) (hf : pr.size < fuel) :
    ∃ pr' ix', kernelDeheapSort fuel pr ix = some (pr', ix') ∧ pr'.size = pr.size ∧ ix'.size = ix.size ∧
      zip2 pr' ix' = deheapSort (zip2 pr ix) := by
  have hz : (zip2 pr ix).size = pr.size := by simp [hs]
  unfold kernelDeheapSort deheapSort
  rw [hz, ← hs]
  exact kernelDeheapLoop_refines fuel pr.size hf _ pr ix rfl hs.symm

/-- **`deheap_sort`, inner loop** (`for j in range(k-1, 0, -1)` on row `i` of the 2-D arrays), entered at `j = m - 1`
(`m = k` is the whole loop; on a row without slots it is entered at `-1` and left at once): stays in bounds, only
row `i` changes, and it becomes the model's `deheapLoop`.  The loop counts down and its callee `siftdown` asks less fuel
with every pass (`j + 1 < fuel` at cursor `j`), which neither `range_loop` nor `descent_loop` expresses: the induction
on fuel is done here. -/
theorem deheap_loop1_spec (i k : Nat) : ∀ (fuel : Nat) (D : Array (Array P)) (I : Array (Array Int)) (m : Nat)
    (pr : Array P) (ix : Array Int) (hi : i < D.size) (hi' : i < I.size), D[i] = pr → I[i] = ix →
    pr.size = k → ix.size = k → m ≤ k → m < fuel →
    ∃ pr' ix' j', deheap_sort.loop1 (i : Int) 0 fuel D I ((m : Int) + (-1))
        = some (.next (D.setIfInBounds i pr', I.setIfInBounds i ix', j')) ∧
      pr'.size = k ∧ ix'.size = k ∧ zip2 pr' ix' = deheapLoop (zip2 pr ix) (m - 1) := by
  intro fuel
  induction fuel with
  | zero => intro D I m pr ix hi hi' eD eI hD hI hm hf; exact absurd hf (Nat.not_lt_zero m)
  | succ fuel ih =>
    intro D I m pr ix hi hi' eD eI hD hI hm hf
    subst eD eI
    unfold deheap_sort.loop1
    match m, hm, hf with
    | 0, _, _ | 1, _, _ =>
      -- entered at `j ≤ 0`
      rw [if_neg (by decide)]
      refine ⟨D[i], I[i], ?_⟩
      rw [setIfInBounds_getElem_self D i hi, setIfInBounds_getElem_self I i hi']
      exact ⟨_, rfl, hD, hI, rfl⟩
    | j + 2, hj, hf =>
      have hf' : j + 1 < fuel := Nat.lt_of_succ_lt_succ hf
      have hj1 : j + 1 < D[i].size := hD ▸ hj
      have hj2 : j + 1 < I[i].size := hI ▸ hj
      have h01 : 0 < D[i].size := Nat.zero_lt_of_lt hj1
      have h02 : 0 < I[i].size := Nat.zero_lt_of_lt hj2
      -- the row after the swap of slots `0` and `j+1`, kept abstract while the loop body is run
      obtain ⟨R, hR⟩ : ∃ x, x = D[i].swap 0 (j+1) h01 hj1 := ⟨_, rfl⟩
      obtain ⟨S, hS⟩ : ∃ x, x = I[i].swap 0 (j+1) h02 hj2 := ⟨_, rfl⟩
      obtain ⟨hjR, hjS, a, b, hk, sa, sb, s1, s2, hd⟩ := deheap_step fuel k j D[i] I[i] hD hI hj hf' hR hS
      rw [cursor_pred]
      simp only [Int.natCast_succ_pos, if_true, rd_lt I i hi', rd_lt D i hi, rd_lt I[i] (j+1) hj2,
        rd_lt D[i] (j+1) hj1, rd_zero I[i] h02, rd_zero D[i] h01, Option.bind_eq_bind, Option.bind_some,
        wr2_swap I i (j+1) hi' h02 hj2 hS, wr2_swap D i (j+1) hi h01 hj1 hR,
        rd_set_self D i R hi, rd_set_self I i S hi', take_le R (j+1) hjR, take_le S (j+1) hjS, hk,
        wrPrefix_set D i (j+1) R a hi hjR sa, wrPrefix_set I i (j+1) S b hi' hjS sb]
      obtain ⟨pr', ix', j', h1, h⟩ := ih (D.setIfInBounds i (a ++ R.extract (j+1) R.size))
        (I.setIfInBounds i (b ++ S.extract (j+1) S.size)) (j+1) _ _ (by rwa [Array.size_setIfInBounds])
        (by rwa [Array.size_setIfInBounds]) (Array.getElem_setIfInBounds_self ..)
        (Array.getElem_setIfInBounds_self ..) s1 s2 (Nat.le_of_lt hj) hf'
      rw [Array.setIfInBounds_setIfInBounds, Array.setIfInBounds_setIfInBounds] at h1
      exact ⟨pr', ix', j', h1, h.1, h.2.1, h.2.2.trans hd⟩

/-- **`deheap_sort`, outer loop** over the rows `i, i+1, …` of two rectangular `n × k` arrays -/
theorem deheap_loop0_spec (n k : Nat) : ∀ (fuel i : Nat), i ≤ n → n - i + k < fuel →
    ∀ (D : Array (Array P)) (I : Array (Array Int)),
    D.size = n → I.size = n → (∀ r (h : r < D.size), D[r].size = k) → (∀ r (h : r < I.size), I[r].size = k) →
    ∃ D' I' i', deheap_sort.loop0 (n : Int) fuel D I (i : Int) = some (.next (D', I', i')) ∧
      D'.size = n ∧ I'.size = n ∧
      ∀ r (h : r < D.size) (h' : r < I.size) (g : r < D'.size) (g' : r < I'.size),
        D'[r].size = k ∧ I'[r].size = k ∧
        zip2 D'[r] I'[r] = if i ≤ r then deheapSort (zip2 D[r] I[r]) else zip2 D[r] I[r] := by
  refine range_loop ?_ ?_
  · intro fuel i hlt hf ih D I hD hI hDk hIk
    have hiD : i < D.size := hD ▸ hlt
    have hiI : i < I.size := hI ▸ hlt
    have hnc : ncols I = k := (ncols_eq I (Nat.zero_lt_of_lt hiI)).trans (hIk 0 _)
    obtain ⟨pr', ix', j', h1, h2, h3, h4⟩ :=
      deheap_loop1_spec i k fuel D I k _ _ hiD hiI rfl rfl (hDk i hiD) (hIk i hiI) (Nat.le_refl k) hf
    rw [← zip2_size_eq (hDk i hiD) (hIk i hiI), ← deheapSort] at h4
    unfold deheap_sort.loop0
    simp only [cursor_lt, hlt, if_true, hnc, Int.sub_eq_add_neg, h1, Option.bind_eq_bind, Option.bind_some,
      cursor_succ]
    obtain ⟨D', I', i', g1, g2, g3, g4⟩ := ih (D.setIfInBounds i pr') (I.setIfInBounds i ix')
      (Array.size_setIfInBounds.trans hD) (Array.size_setIfInBounds.trans hI) (forall_getElem_set (Q := fun R : Array P => R.size = k) hDk i h2)
      (forall_getElem_set (Q := fun R : Array Int => R.size = k) hIk i h3)
    refine ⟨D', I', i', g1, g2, g3, fun r h h' g g' => ?_⟩
    obtain ⟨q1, q2, q3⟩ := g4 r (by rwa [Array.size_setIfInBounds]) (by rwa [Array.size_setIfInBounds]) g g'
    refine ⟨q1, q2, q3.trans ?_⟩
    by_cases hri : i = r
    · subst hri
      simp only [Array.getElem_setIfInBounds_self, h4, Nat.not_succ_le_self, Nat.le_refl, if_true, if_false]
    · rw [Array.getElem_setIfInBounds_ne h hri, Array.getElem_setIfInBounds_ne h' hri]
      have : i + 1 ≤ r ↔ i ≤ r := ⟨Nat.le_of_succ_le, fun h => Nat.lt_of_le_of_ne h hri⟩
      simp only [this]
  · intro fuel D I hD hI hDk hIk
    unfold deheap_sort.loop0
    rw [if_neg (Int.lt_irrefl _)]
    refine ⟨D, I, _, rfl, hD, hI, fun r h h' g g' => ⟨hDk r h, hIk r h', ?_⟩⟩
    rw [if_neg (Nat.not_le.mpr (hD ▸ h))]

end Pynn
