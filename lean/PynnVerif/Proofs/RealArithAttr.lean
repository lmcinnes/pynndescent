import Lean.Meta.Tactic.Simp.RegisterCommand

/-- the named fields of `Metrics.Arith` / `Metrics.Trig` at `ℝ` (`abs`, `sqrt`, `pow`, …) and the kernels'
Boolean tests, rewritten into Mathlib's operations and propositions -/
register_simp_attr real_arith
