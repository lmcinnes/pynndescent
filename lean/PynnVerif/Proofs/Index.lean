import PynnVerif.Model.Index
import Mathlib.Data.List.Perm.Subperm
import Mathlib.Data.List.Nodup

/-!
# Proofs about the life-cycle model (`Model/Index.lean`, property C04)

`Inv` is read as the proposition `InvP`; `step` preserves it whenever the vertex orders it *consults*
are permutations (`OpOk`), and the logical dataset after a history is the independently defined `spec`.

The file also holds the definitions that the statements of `Props/C04.lean` use: `OpOk`, `OpPerm`,
`OpsOk` (part 3), `specUpdate`, `specGo`, `spec` (part 4) and `updRestored`.
-/
namespace Pynn.Idx

/-! ## 1. permutations -/

theorem isPerm_iff {p : List Nat} {n : Nat} :
    isPerm p n = true ↔ p.length = n ∧ ∀ i, i < n → i ∈ p := by
  simp [isPerm, List.all_eq_true]

theorem isPerm_perm {p : List Nat} {n : Nat} (h : isPerm p n = true) : (List.range n).Perm p := by
  obtain ⟨hl, hm⟩ := isPerm_iff.1 h
  apply List.Subperm.perm_of_length_le
  · apply List.Nodup.subperm List.nodup_range
    intro i hi; exact hm i (List.mem_range.1 hi)
  · simp [hl]

theorem isPerm_nodup {p : List Nat} {n : Nat} (h : isPerm p n = true) : p.Nodup :=
  (isPerm_perm h).nodup_iff.1 List.nodup_range

theorem isPerm_lt {p : List Nat} {n : Nat} (h : isPerm p n = true) : ∀ i ∈ p, i < n := fun _ hi =>
  List.mem_range.1 ((isPerm_perm h).mem_iff.2 hi)

theorem isPerm_length {p : List Nat} {n : Nat} (h : isPerm p n = true) : p.length = n :=
  (isPerm_iff.1 h).1

theorem isPerm_mem {p : List Nat} {n : Nat} (h : isPerm p n = true) {i : Nat} (hi : i < n) : i ∈ p :=
  (isPerm_iff.1 h).2 i hi

variable {α β : Type}

theorem getElem?_permute (xs : List α) {p : List Nat} (h : ∀ i ∈ p, i < xs.length) (k : Nat) :
    (permute xs p)[k]? = p[k]?.bind (fun i => xs[i]?) := by
  induction p generalizing k with
  | nil => rfl
  | cons a p ih =>
    have ha : a < xs.length := h a List.mem_cons_self
    rw [permute, List.filterMap_cons, List.getElem?_eq_getElem ha]
    cases k with
    | zero => exact (List.getElem?_eq_getElem ha).symm
    | succ k => exact ih (fun i hi => h i (List.mem_cons_of_mem a hi)) k

/-- no row is dropped when every lookup succeeds -/
theorem permute_length_of_lt (xs : List α) {p : List Nat} (h : ∀ i ∈ p, i < xs.length) :
    (permute xs p).length = p.length :=
  List.filterMap_length_eq_length.2 fun i hi => (isSome_getElem? xs i).mpr (h i hi)

theorem permute_range (xs : List α) : permute xs (List.range xs.length) = xs := by
  apply List.ext_getElem?
  intro k
  rw [getElem?_permute _ (fun i hi => List.mem_range.1 hi)]
  by_cases hk : k < xs.length
  · simp [hk]
  · simp [hk]

theorem mem_of_mem_permute {xs : List α} {p : List Nat} {a : α} (h : a ∈ permute xs p) : a ∈ xs := by
  obtain ⟨i, _, hi⟩ := List.mem_filterMap.1 h
  exact List.mem_of_getElem? hi

theorem map_permute (f : α → β) (xs : List α) (p : List Nat) :
    (permute xs p).map f = permute (xs.map f) p := by
  simp only [permute, List.map_filterMap, List.getElem?_map]

theorem permute_range_left {n : Nat} {p : List Nat} (h : ∀ i ∈ p, i < n) :
    permute (List.range n) p = p :=
  (List.filterMap_congr fun i hi => List.getElem?_range (h i hi)).trans List.filterMap_some

theorem argsort_length (p : List Nat) : (argsort p).length = p.length := by simp [argsort]

theorem argsort_isPerm {p : List Nat} {n : Nat} (h : isPerm p n = true) : isPerm (argsort p) n = true := by
  have hl := isPerm_length h
  rw [isPerm_iff]
  refine ⟨(argsort_length p).trans hl, fun i hi => ?_⟩
  have hi' : i < p.length := hl ▸ hi
  have hlt := isPerm_lt h p[i] (List.getElem_mem hi')
  simp only [argsort, List.mem_map, List.mem_range]
  exact ⟨p[i], hl ▸ hlt, (isPerm_nodup h).idxOf_getElem i hi'⟩

/-- fancy indexing composes: `xs[p][q] = xs[p[q]]` -/
theorem permute_permute (xs : List α) {p : List Nat} (h : ∀ i ∈ p, i < xs.length) (q : List Nat) :
    permute (permute xs p) q = permute xs (permute p q) := by
  simp only [permute, List.filterMap_filterMap]
  exact List.filterMap_congr fun k _ => getElem?_permute xs h k

theorem permute_argsort {p : List Nat} {n : Nat} (h : isPerm p n = true) :
    permute p (argsort p) = List.range n := by
  rw [permute, argsort, List.filterMap_map, isPerm_length h]
  refine (List.filterMap_congr fun i hi => ?_).trans List.filterMap_some
  have hi' : p.idxOf i < p.length := List.idxOf_lt_length_iff.2 (isPerm_mem h (List.mem_range.1 hi))
  rw [Function.comp_apply, List.getElem?_eq_getElem hi', List.getElem_idxOf hi']

theorem perm_roundtrip (xs : List α) (p : List Nat) (h : isPerm p xs.length = true) :
    permute (permute xs p) (argsort p) = xs := by
  rw [permute_permute xs (isPerm_lt h), permute_argsort h, permute_range]

/-! ## 2. `Inv` as a proposition -/

/-- identities are row numbers -/
def IdsOk (L : List Pt) : Prop := ∀ (i : Nat) (p : Pt), L[i]? = some p → p.id = i

theorem idsOk_iff {L : List Pt} : L.zipIdx.all (fun (p, i) => p.id == i) = true ↔ IdsOk L := by
  simp only [List.all_eq_true, Prod.forall, List.mem_zipIdx_iff_getElem?, beq_iff_eq]
  exact ⟨fun h i p => h p i, fun h p i => h i p⟩

theorem idsOk_map_id {L : List Pt} (hL : IdsOk L) : L.map Pt.id = List.range L.length := by
  apply List.ext_getElem (by simp)
  intro i h1 h2
  rw [List.getElem_map, List.getElem_range]
  exact hL i _ (List.getElem?_eq_getElem _)

theorem idsOk_nodup {L : List Pt} (hL : IdsOk L) : L.Nodup :=
  List.Nodup.of_map Pt.id (idsOk_map_id hL ▸ List.nodup_range)

theorem mem_current {L : List Pt} (hL : IdsOk L) {q : Pt} (hq : q ∈ L) : L[q.id]? = some q := by
  obtain ⟨j, hj⟩ := List.mem_iff_getElem?.1 hq
  rw [hL j q hj]; exact hj

/-- for a logical dataset with distinct identities, the stored order is the caller order only for the
identity vertex order -/
theorem permute_eq_self_iff {L : List Pt} (hL : IdsOk L) {v : List Nat}
    (hp : isPerm v L.length = true) : permute L v = L ↔ v = List.range L.length := by
  refine ⟨fun h => ?_, fun h => h ▸ permute_range L⟩
  -- read the identities off both sides: they are `v` and `0 .. n-1`
  have := congrArg (List.map Pt.id) h
  rwa [map_permute, idsOk_map_id hL, permute_range_left (isPerm_lt hp)] at this

/-- graph row `row` belongs to point `p` of the dataset `L`: owned by it, and mentioning rows of `L` only -/
def RowOk (L : List Pt) (row : GRow) (p : Pt) : Prop := row.owner = p ∧ ∀ q ∈ row.nbrs, q ∈ L

/-- the graph part of the invariant: one good row per point, and no graph iff compressed.  Its users read
either case by unfolding (`GraphOk L c (some g)` is the conjunction, `GraphOk L c none` is `c = true`, by `rfl`). -/
def GraphOk (L : List Pt) (compressed : Bool) : Option (List GRow) → Prop
  | some g => compressed = false ∧ List.Forall₂ (RowOk L) g L
  | none => compressed = true

theorem graphOk_iff {L : List Pt} {c : Bool} {G : Option (List GRow)} :
    (match G with
     | some g => !c && g.length == L.length &&
         (g.zip L).all (fun (row, p) => row.owner == p && row.nbrs.all (fun q => L.contains q))
     | none => c) = true ↔ GraphOk L c G := by
  cases G with
  | none => rfl
  | some g =>
    simp only [GraphOk, RowOk, List.forall₂_iff_zip, Bool.and_eq_true, Bool.not_eq_true', beq_iff_eq,
      List.all_eq_true, List.contains_iff_mem, Prod.forall, and_assoc]

structure InvP (s : St) : Prop where
  ids : IdsOk s.logical
  raw_some : ∀ v, s.vo = some v → isPerm v s.logical.length = true ∧ s.raw = permute s.logical v
  raw_none : s.vo = none → s.raw = s.logical
  graph : GraphOk s.logical s.compressed s.graph
  search_some : ∀ r, s.searchRows = some r → r = s.raw ∧ s.vo.isSome = true
  search_none : s.searchRows = none → s.vo = none

theorem inv_iff (s : St) : Inv s = true ↔ InvP s := by
  simp only [Inv, Bool.and_eq_true, idsOk_iff]
  constructor
  · rintro ⟨⟨⟨h1, h2⟩, h3⟩, h4⟩
    refine ⟨h1, ?_, ?_, graphOk_iff.1 h3, ?_, ?_⟩
    · intro v hv; rw [hv] at h2; simpa only [Bool.and_eq_true, beq_iff_eq] using h2
    · intro hv; rw [hv] at h2; exact eq_of_beq h2
    · intro r hr; rw [hr] at h4; simpa only [Bool.and_eq_true, beq_iff_eq] using h4
    · intro hr; rw [hr] at h4; exact Option.isNone_iff_eq_none.1 h4
  · intro h
    refine ⟨⟨⟨h.ids, ?_⟩, graphOk_iff.2 h.graph⟩, ?_⟩
    · cases hv : s.vo with
      | none => exact beq_iff_eq.2 (h.raw_none hv)
      | some v => simpa only [Bool.and_eq_true, beq_iff_eq] using h.raw_some v hv
    · cases hr : s.searchRows with
      | none => exact Option.isNone_iff_eq_none.2 (h.search_none hr)
      | some r => simpa only [Bool.and_eq_true, beq_iff_eq] using h.search_some r hr

theorem InvP.graph_some {s : St} (h : InvP s) {g : List GRow} (hg : s.graph = some g) :
    s.compressed = false ∧ List.Forall₂ (RowOk s.logical) g s.logical := by
  have := h.graph
  rwa [hg] at this

/-! ## 3. `step` preserves `Inv`

`bumpPt` … `updState` below are the `let`s of the `update` branch of `step`, named so that lemmas can
speak of them; `step_update_ok` ties them to `step`: once the branch is selected, the two agree by `rfl`. -/

def bumpPt (p : Pt) : Pt := { p with ver := p.ver + 1 }

def updRestored (s : St) : List Pt :=
  match s.vo with
  | some v => permute s.raw (argsort v)
  | none => s.raw

def updFresh (n nFresh : Nat) : List Pt := (List.range nFresh).map (fun i => (⟨n + i, 0⟩ : Pt))

def updKept (replaced : List Nat) (g : List GRow) : List GRow :=
  (g.zipIdx).map (fun (row, i) =>
    if replaced.contains i then ⟨bumpPt row.owner, []⟩
    else ⟨row.owner, row.nbrs.filter (fun q => !replaced.contains q.id)⟩)

def updGraph (found : List (List Nat)) (data : List Pt) (seeded : List GRow) : List GRow :=
  (seeded.zipIdx).map (fun (row, i) =>
    ⟨row.owner, row.nbrs ++ ((found[i]?.getD []).filterMap (fun j => data[j]?))⟩)

def updState (s : St) (g : List GRow) (nFresh : Nat) (replaced : List Nat) (found : List (List Nat)) : St :=
  let restored := updRestored s
  let fresh := updFresh restored.length nFresh
  let data := bump replaced restored ++ fresh
  { s with logical := bump replaced s.logical ++ fresh, raw := data,
           graph := some (updGraph found data (updKept replaced g ++ fresh.map (fun p => ⟨p, []⟩))) }

theorem step_update_none {s : St} (hg : s.graph = none) (k : Nat) (r : List Nat)
    (found : List (List Nat)) (vo : List Nat) :
    step s (.update k r found vo) = (s, .err "ValueError:compressed") := by
  simp only [step, hg]

theorem step_update_oor {s : St} {g : List GRow} (hg : s.graph = some g) (k : Nat) {r : List Nat}
    (hr : r.any (fun i => i ≥ s.logical.length) = true)
    (found : List (List Nat)) (vo : List Nat) :
    step s (.update k r found vo) = (s, .err "ValueError:index-range") := by
  simp only [step, hg, hr, if_true]

theorem step_update_ok {s : St} {g : List GRow} (hg : s.graph = some g) (k : Nat) {r : List Nat}
    (hr : r.any (fun i => i ≥ s.logical.length) = false)
    (found : List (List Nat)) (vo : List Nat) :
    step s (.update k r found vo) =
      match s.searchRows with
      | some _ => (doPrepare { updState s g k r found with searchRows := none } vo, .ok)
      | none => (updState s g k r found, .ok) := by
  simp only [step, hg, hr]
  rfl

theorem getElem?_bump (r : List Nat) (L : List Pt) (i : Nat) :
    (bump r L)[i]? = L[i]?.map (fun p => if r.contains i then bumpPt p else p) := by
  rw [bump, List.getElem?_map, List.getElem?_zipIdx, Option.map_map, Nat.zero_add]
  rfl

theorem bump_length (r : List Nat) (L : List Pt) : (bump r L).length = L.length := by
  simp [bump]

theorem updFresh_length (n k : Nat) : (updFresh n k).length = k := by simp [updFresh]

theorem eq_of_getElem?_range_map {f : Nat → α} {k j : Nat} {a : α}
    (h : ((List.range k).map f)[j]? = some a) : a = f j := by
  obtain ⟨_, rfl⟩ := List.getElem?_eq_some_iff.1 h
  rw [List.getElem_map, List.getElem_range]

theorem updRestored_eq {s : St} (h : InvP s) : updRestored s = s.logical := by
  unfold updRestored
  cases hv : s.vo with
  | none => exact h.raw_none hv
  | some v =>
    obtain ⟨hp, hr⟩ := h.raw_some v hv
    simp only [hr]
    exact perm_roundtrip _ _ hp

theorem ids_update {L : List Pt} (hL : IdsOk L) (r : List Nat) (k : Nat) :
    IdsOk (bump r L ++ updFresh L.length k) := by
  intro i p hp
  by_cases hi : i < L.length
  · rw [List.getElem?_append_left (by rw [bump_length]; exact hi), getElem?_bump] at hp
    obtain ⟨p0, hp0, rfl⟩ := Option.map_eq_some_iff.1 hp
    have := hL i p0 hp0
    cases r.contains i <;> exact this
  · have hle := Nat.le_of_not_lt hi
    rw [List.getElem?_append_right (by rw [bump_length]; exact hle), bump_length] at hp
    exact (congrArg Pt.id (eq_of_getElem?_range_map hp)).trans (Nat.add_sub_cancel' hle)

theorem mem_update_of_mem {L : List Pt} (hL : IdsOk L) (r : List Nat) (fresh : List Pt) {q : Pt}
    (hq : q ∈ L) (hr : r.contains q.id = false) : q ∈ bump r L ++ fresh := by
  refine List.mem_append_left _ (List.mem_iff_getElem?.2 ⟨q.id, ?_⟩)
  rw [getElem?_bump, mem_current hL hq, hr]
  rfl

theorem forall₂_zipIdx {R : α → β → Prop} {l₁ : List α} {l₂ : List β}
    (h : List.Forall₂ R l₁ l₂) (k : Nat) :
    List.Forall₂ (fun x y => R x.1 y.1 ∧ x.2 = y.2) (l₁.zipIdx k) (l₂.zipIdx k) := by
  induction h generalizing k with
  | nil => exact .nil
  | cons hab _ ih => exact .cons ⟨hab, rfl⟩ (ih (k + 1))

/-- the neighbours NN-descent adds are rows of the current data -/
theorem forall₂_updGraph (found : List (List Nat)) {L L' : List Pt} {seeded : List GRow}
    (h : List.Forall₂ (RowOk L) seeded L') : List.Forall₂ (RowOk L) (updGraph found L seeded) L' := by
  rw [updGraph, List.forall₂_map_left_iff]
  rw [← List.zipIdx_map_fst 0 seeded, List.forall₂_map_left_iff] at h
  refine h.imp ?_
  rintro ⟨row, i⟩ p ⟨hown, hn⟩
  exact ⟨hown, fun q hq => (List.mem_append.1 hq).elim (hn q) mem_of_mem_permute⟩

/-- a replaced point's row is reset; the other rows lose their references to replaced points, and
what they keep is current -/
theorem forall₂_updKept {L : List Pt} {g : List GRow} (hL : IdsOk L) (r : List Nat) (fresh : List Pt)
    (h : List.Forall₂ (RowOk L) g L) :
    List.Forall₂ (RowOk (bump r L ++ fresh)) (updKept r g) (bump r L) := by
  rw [updKept, bump, List.forall₂_map_left_iff, List.forall₂_map_right_iff]
  refine (forall₂_zipIdx h 0).imp ?_
  rintro ⟨row, i⟩ ⟨p, _⟩ ⟨⟨hown, hn⟩, rfl⟩
  dsimp only at hown hn ⊢
  cases hri : r.contains i with
  | true => exact ⟨congrArg bumpPt hown, nofun⟩
  | false =>
    refine ⟨hown, fun q hq => ?_⟩
    obtain ⟨hq1, hq2⟩ := List.mem_filter.1 hq
    exact mem_update_of_mem hL r fresh (hn q hq1) (by simpa using hq2)

theorem graph_update {L : List Pt} {c : Bool} {g : List GRow} (hL : IdsOk L)
    (hG : GraphOk L c (some g)) (r : List Nat) (fresh : List Pt) (found : List (List Nat)) :
    GraphOk (bump r L ++ fresh) c
      (some (updGraph found (bump r L ++ fresh) (updKept r g ++ fresh.map (fun p => ⟨p, []⟩)))) :=
  ⟨hG.1, forall₂_updGraph found (List.rel_append (forall₂_updKept hL r fresh hG.2)
    (List.forall₂_map_left_iff.2 (List.forall₂_same.2 fun _ _ => ⟨rfl, nofun⟩)))⟩

theorem doPrepare_of_some {s : St} {r : List Pt} (hs : s.searchRows = some r) (vo : List Nat) :
    doPrepare s vo = s := by
  simp only [doPrepare, hs]

theorem doPrepare_of_none {s : St} (hs : s.searchRows = none) (vo : List Nat) :
    doPrepare s vo =
      { s with raw := permute s.raw vo, vo := some vo, searchRows := some (permute s.raw vo),
               graph := if s.compressed then none else s.graph } := by
  simp only [doPrepare, hs]

/-- under the invariant a (re)prepare finds no graph to delete: a compressed index has none already -/
theorem GraphOk.ite_eq {L : List Pt} {c : Bool} {G : Option (List GRow)} (h : GraphOk L c G) :
    (if c then none else G) = G := by
  cases G with
  | none => exact ite_self none
  | some g =>
    rw [h.1]
    rfl

/-- a prepare that really happens, on a state whose stored rows are in caller order -/
theorem doPrepare_fresh (t : St) (vo : List Nat) (hs : t.searchRows = none) (hraw : t.raw = t.logical)
    (hids : IdsOk t.logical) (hG : GraphOk t.logical t.compressed t.graph)
    (hp : isPerm vo t.logical.length = true) : InvP (doPrepare t vo) := by
  rw [doPrepare_of_none hs]
  exact
    { ids := hids
      raw_some := by intro v hv; cases hv; exact ⟨hp, by simp [hraw]⟩
      raw_none := by intro hv; cases hv
      graph := by rwa [hG.ite_eq]
      search_some := by intro r hr; cases hr; exact ⟨rfl, rfl⟩
      search_none := by intro hr; cases hr }

theorem doPrepare_inv {s : St} (h : InvP s) (vo : List Nat)
    (hp : s.searchRows = none → isPerm vo s.logical.length = true) : InvP (doPrepare s vo) := by
  cases hs : s.searchRows with
  | some r => rwa [doPrepare_of_some hs]
  | none => exact doPrepare_fresh s vo hs (h.raw_none (h.search_none hs)) h.ids h.graph (hp hs)

/-- The vertex order an operation *consults* is a permutation of the row numbers the (re)prepare sees.
`prepare` / `pickle` / `compress` consult `vo` only when no search structure exists yet; `update` consults
it only when it is not refused (graph present, replaced indices in range) and a search structure existed
(then the index is re-prepared over `logical.length + nFresh` rows).  Nothing is required of an order
that is never looked at, of `replaced` (out of range is the `ValueError:index-range` outcome) or of `found`. -/
def OpOk (s : St) : Op → Prop
  | .prepare vo | .pickle vo | .compress vo => s.searchRows = none → isPerm vo s.logical.length = true
  | .query => True
  | .update nFresh replaced _ vo =>
      s.graph ≠ none → (∀ i ∈ replaced, i < s.logical.length) → s.searchRows ≠ none →
        isPerm vo (s.logical.length + nFresh) = true

/-- the unconditional form: every supplied order is a permutation of the right size (the hypothesis of
`C04.opOk_of_perm`, its only use) -/
def OpPerm (s : St) : Op → Prop
  | .prepare vo | .pickle vo | .compress vo => isPerm vo s.logical.length = true
  | .query => True
  | .update nFresh _ _ vo => isPerm vo (s.logical.length + nFresh) = true

/-- the oracles of a whole history are OK, each at the state it is applied to -/
def OpsOk : St → List Op → Prop
  | _, [] => True
  | s, op :: ops => OpOk s op ∧ OpsOk (step s op).1 ops

instance instDecidableOpOk (s : St) (op : Op) : Decidable (OpOk s op) := by
  cases op <;> unfold OpOk <;> infer_instance

instance instDecidableOpsOk : (s : St) → (ops : List Op) → Decidable (OpsOk s ops)
  | _, [] => inferInstanceAs (Decidable True)
  | s, op :: ops =>
    have := instDecidableOpsOk (step s op).1 ops
    inferInstanceAs (Decidable (OpOk s op ∧ OpsOk (step s op).1 ops))

theorem any_ge_false_iff {replaced : List Nat} {n : Nat} :
    replaced.any (fun i => i ≥ n) = false ↔ ∀ i ∈ replaced, i < n := by
  simp [List.any_eq_false]

/-- the outcome of `update` is decided by its two guards alone -/
theorem step_update_out (s : St) (k : Nat) (r : List Nat) (found : List (List Nat)) (vo : List Nat) :
    (step s (.update k r found vo)).2 = .ok ↔ s.graph ≠ none ∧ ∀ i ∈ r, i < s.logical.length := by
  rw [← any_ge_false_iff]
  cases hg : s.graph with
  | none => simp [step_update_none hg]
  | some g =>
    cases hr : r.any (fun i => i ≥ s.logical.length) with
    | true => simp [step_update_oor hg k hr]
    | false => rw [step_update_ok hg k hr]; cases s.searchRows <;> simp

/-- Under `InvP` the restore step gives back `logical` (`updRestored_eq`), so after an update `raw = logical`
and the re-prepare is a fresh one: this is why `step_invP` can close with `doPrepare_fresh _ vo rfl rfl`. -/
theorem updState_eq {s : St} (h : InvP s) (g : List GRow) (k : Nat) (r : List Nat) (found : List (List Nat)) :
    updState s g k r found =
      { s with logical := bump r s.logical ++ updFresh s.logical.length k,
               raw := bump r s.logical ++ updFresh s.logical.length k,
               graph := some (updGraph found (bump r s.logical ++ updFresh s.logical.length k)
                  (updKept r g ++ (updFresh s.logical.length k).map (fun p => ⟨p, []⟩))) } := by
  simp only [updState, updRestored_eq h]

theorem step_invP {s : St} (h : InvP s) {op : Op} (hop : OpOk s op) : InvP (step s op).1 := by
  cases op with
  | prepare vo => exact doPrepare_inv h vo hop
  | query => exact h
  | pickle vo => exact doPrepare_inv h vo hop
  | compress vo =>
    exact { doPrepare_inv h vo hop with graph := rfl }
  | update k r found vo =>
    cases hg : s.graph with
    | none => rw [step_update_none hg]; exact h
    | some g =>
      cases hr : r.any (fun i => i ≥ s.logical.length) with
      | true => rw [step_update_oor hg k hr]; exact h
      | false =>
        rw [step_update_ok hg k hr, updState_eq h]
        have hG := graph_update h.ids (hg ▸ h.graph) r (updFresh s.logical.length k) found
        cases hs : s.searchRows with
        | none =>
          have hv := h.search_none hs
          exact
            { ids := ids_update h.ids r k
              raw_some := by intro v hv'; simp [hv] at hv'
              raw_none := fun _ => rfl
              graph := hG
              search_some := by intro r' hr'; simp at hr'
              search_none := fun _ => hv }
        | some sr =>
          dsimp only
          apply doPrepare_fresh _ vo rfl rfl (ids_update h.ids r k) hG
          have := hop (hg ▸ Option.some_ne_none g) (any_ge_false_iff.1 hr) (hs ▸ Option.some_ne_none sr)
          rwa [List.length_append, bump_length, updFresh_length]

theorem ids_range (n : Nat) : IdsOk ((List.range n).map (fun i => (⟨i, 0⟩ : Pt))) :=
  fun _ _ hp => congrArg Pt.id (eq_of_getElem?_range_map hp)

theorem buildGraph_ok (pts : List Pt) (found : List (List Nat)) :
    GraphOk pts false (some ((pts.zipIdx).map (fun (p, i) =>
      (⟨p, ((found[i]?.getD []).filterMap (fun j => pts[j]?))⟩ : GRow)))) := by
  refine ⟨rfl, List.forall₂_map_left_iff.2 ?_⟩
  have h : List.Forall₂ (fun x p => x.1 = p) pts.zipIdx pts :=
    List.forall₂_map_left_iff.1 ((List.zipIdx_map_fst 0 pts).symm ▸ List.forall₂_same.2 fun _ _ => rfl)
  refine h.imp ?_
  rintro ⟨p, i⟩ _ rfl
  exact ⟨rfl, fun q => mem_of_mem_permute⟩

theorem build_invP (n : Nat) (found : List (List Nat)) : InvP (build n found) := by
  unfold build
  exact
    { ids := ids_range n
      raw_some := by intro v hv; cases hv
      raw_none := fun _ => rfl
      graph := buildGraph_ok _ found
      search_some := by intro r hr; cases hr
      search_none := fun _ => rfl }

theorem run_nil (s : St) : run s [] = (s, []) := rfl

/-- the state component of `run` does not depend on the outputs accumulated so far -/
theorem run_fst (s : St) (ops : List Op) : (run s ops).1 = ops.foldl (fun s op => (step s op).1) s :=
  (List.foldl_hom Prod.fst fun _ _ => rfl).symm

theorem run_invP {s : St} (h : InvP s) {ops : List Op} (hops : OpsOk s ops) : InvP (run s ops).1 := by
  rw [run_fst]
  induction ops generalizing s with
  | nil => exact h
  | cons op ops ih => exact ih (step_invP h hops.1) hops.2

/-! ## 4. the logical dataset, specified independently of `step` -/

/-- a successful `update`: replaced rows get the next version *in place*, appended rows come last,
in the order given, with fresh identities -/
def specUpdate (nFresh : Nat) (replaced : List Nat) (pts : List Pt) : List Pt :=
  pts.mapIdx (fun i p => if i ∈ replaced then ⟨p.id, p.ver + 1⟩ else p) ++
  (List.range nFresh).map (fun j => ⟨pts.length + j, 0⟩)

/-- `compressed`: has `compress_index` been called earlier in the history?  Then every `update` fails
(`ValueError`); an `update` naming a row that does not exist fails too (`ValueError`); failed updates
change nothing; no other operation changes the logical dataset. -/
def specGo : Bool → List Op → List Pt → List Pt
  | _, [], pts => pts
  | _, .compress _ :: ops, pts => specGo true ops pts
  | c, .update nFresh replaced _ _ :: ops, pts =>
      if c = true ∨ ∃ i ∈ replaced, pts.length ≤ i then specGo c ops pts
      else specGo c ops (specUpdate nFresh replaced pts)
  | c, .prepare _ :: ops, pts => specGo c ops pts
  | c, .query :: ops, pts => specGo c ops pts
  | c, .pickle _ :: ops, pts => specGo c ops pts

/-- the logical dataset the property text prescribes after the history `ops`, starting from `pts` on
an index that is not compressed -/
def spec (ops : List Op) (pts : List Pt) : List Pt := specGo false ops pts

theorem specUpdate_eq (k : Nat) (r : List Nat) (L : List Pt) :
    specUpdate k r L = bump r L ++ updFresh L.length k := by
  simp only [specUpdate, bump, updFresh, List.mapIdx_eq_zipIdx_map]
  congr 1
  apply List.map_congr_left
  rintro ⟨p, i⟩ _
  by_cases hi : i ∈ r <;> simp [hi]

theorem doPrepare_logical (s : St) (vo : List Nat) : (doPrepare s vo).logical = s.logical := by
  cases hs : s.searchRows with
  | some r => rw [doPrepare_of_some hs]
  | none => rw [doPrepare_of_none hs]

theorem doPrepare_graph {s : St} (h : InvP s) (vo : List Nat) : (doPrepare s vo).graph = s.graph := by
  cases hs : s.searchRows with
  | some r => rw [doPrepare_of_some hs]
  | none =>
    rw [doPrepare_of_none hs]
    exact h.graph.ite_eq

/-- `specGo`'s flag ("`compress_index` was called earlier") is instantiated with `s.graph.isNone`: the two
agree by `InvP.graph`, and prepares keep the flag by `doPrepare_graph`. -/
theorem run_logical {s : St} (h : InvP s) {ops : List Op} (hops : OpsOk s ops) :
    (run s ops).1.logical = specGo s.graph.isNone ops s.logical := by
  rw [run_fst]
  induction ops generalizing s with
  | nil => rfl
  | cons op ops ih =>
    rw [List.foldl_cons, ih (step_invP h hops.1) hops.2]
    cases op with
    | prepare vo | pickle vo =>
      show specGo (doPrepare s vo).graph.isNone ops (doPrepare s vo).logical =
        specGo s.graph.isNone ops s.logical
      rw [doPrepare_logical, doPrepare_graph h]
    | query => rfl
    | compress vo => exact congrArg (specGo true ops) (doPrepare_logical s vo)
    | update k r found vo =>
      -- `specGo` decides its guard as `step` does
      rw [specGo]
      cases hg : s.graph with
      | none => rw [step_update_none hg, hg, Option.isNone_none, if_pos (Or.inl rfl)]
      | some g =>
        cases hr : r.any (fun i => i ≥ s.logical.length) with
        | true =>
          have hbad : ∃ i ∈ r, s.logical.length ≤ i :=
            (List.any_eq_true.1 hr).imp fun _ hi => ⟨hi.1, of_decide_eq_true hi.2⟩
          rw [step_update_oor hg k hr, hg, if_pos (Or.inr hbad)]
        | false =>
          have hok : ¬(false = true ∨ ∃ i ∈ r, s.logical.length ≤ i) := fun hc =>
            hc.elim Bool.noConfusion fun ⟨i, hi, hle⟩ => Nat.not_le_of_lt (any_ge_false_iff.1 hr i hi) hle
          rw [step_update_ok hg k hr, updState_eq h, Option.isNone_some, if_neg hok, specUpdate_eq]
          cases hs : s.searchRows with
          | none => rfl
          | some sr => simp only [doPrepare_of_none, (h.graph_some hg).1, Bool.false_eq_true, if_false,
              Option.isNone_some]

end Pynn.Idx
