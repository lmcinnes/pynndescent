import PynnVerif.Model.Heap

/-! # What the heap kernels do to a row whatever the order is

`sift`, `push` and `siftdownSwap` only *decide* `≤` and `<`: sizes, permutations, untouched positions and
the shape of a push hold for any decidable relations (the candidate heaps of NN-descent are keyed by a
type that is given no order laws, and the refinement proofs of the translated kernels use none).  No
Mathlib here. -/
namespace Pynn

section NoOrder
variable {P : Type}

/-- `φ` keeps priority and index of every entry (it may change the flag): what `clearFlags` does to
the entries of a row -/
def KeepsKey (φ : Entry P → Entry P) : Prop := ∀ e, (φ e).prio = e.prio ∧ (φ e).idx = e.idx

theorem map_keepsKey_filter_idx (φ : Entry P → Entry P) (hφ : KeepsKey φ) (l : List (Entry P)) :
    ((l.map φ).filter (fun e => 0 ≤ e.idx)).map (·.idx) = (l.filter (fun e => 0 ≤ e.idx)).map (·.idx) := by
  simp only [List.filter_map, List.map_map, Function.comp_def, (hφ _).2]

theorem mem_mkRow {top : P} {k : Nat} {e : Entry P} (h : e ∈ mkRow top k) : e = ⟨top, -1, false⟩ := by
  simp only [mkRow, Array.mem_replicate] at h
  exact h.2

/-! The index arithmetic of the implicit tree. -/

theorem parent_lt {j : Nat} (h : 0 < j) : (j - 1) / 2 < j := by omega

theorem parent_of_child {i c : Nat} (hc : c = 2*i+1 ∨ c = 2*i+2) : (c - 1) / 2 = i := by omega

theorem child_of_parent {i d : Nat} (h0 : 0 < d) (h : (d - 1) / 2 = i) : d = 2*i+1 ∨ d = 2*i+2 := by omega

theorem lt_of_child {i c : Nat} (hc : c = 2*i+1 ∨ c = 2*i+2) : i < c := by omega

theorem lt_of_parent_pos {c d : Nat} (h : (d - 1) / 2 = c) (hc : 0 < c) : c < d := by omega

/-- the priority stored at position `j`, and `d` outside the row -/
def prioAt (a : Row P) (d : P) (j : Nat) : P := (a[j]?.map Entry.prio).getD d

theorem prioAt_lt (a : Row P) (d : P) {j : Nat} (h : j < a.size) : prioAt a d j = a[j].prio := by
  simp [prioAt, h]

theorem prioAt_congr {a b : Row P} {j k : Nat} (d : P) (h : a[j]? = b[k]?) : prioAt a d j = prioAt b d k := by
  simp only [prioAt, h]

theorem prioAt_set_self (a : Row P) (d : P) {i : Nat} (x : Entry P) (h : i < a.size) :
    prioAt (a.setIfInBounds i x) d i = x.prio := by
  simp [prioAt, h]

theorem prioAt_set_ne (a : Row P) (d : P) {i j : Nat} (x : Entry P) (h : j ≠ i) :
    prioAt (a.setIfInBounds i x) d j = prioAt a d j := by
  simp [prioAt, Ne.symm h]

theorem prioAt_swap_left (a : Row P) (d : P) {i c : Nat} (hi : i < a.size) (hc : c < a.size) :
    prioAt (a.swap i c) d i = prioAt a d c := by
  simp [prioAt, hi, hc]

theorem prioAt_swap_right (a : Row P) (d : P) {i c : Nat} (hi : i < a.size) (hc : c < a.size) :
    prioAt (a.swap i c) d c = prioAt a d i := by
  simp [prioAt, hi, hc]

theorem prioAt_swap_ne (a : Row P) (d : P) {i c j : Nat} (hi : i < a.size) (hc : c < a.size) (hji : j ≠ i)
    (hjc : j ≠ c) : prioAt (a.swap i c) d j = prioAt a d j := by
  simp [prioAt, Array.getElem?_swap, Ne.symm hji, Ne.symm hjc]

end NoOrder

section Lawless
variable {P : Type} [LE P] [LT P] [DecidableLE P] [DecidableLT P]

@[simp] theorem sift_size (a : Row P) (e : Entry P) (i : Nat) :
    (sift a e i).size = a.size := by
  fun_induction sift a e i <;> simp_all

theorem swap_eq_set_set {α} (a : Array α) (i j : Nat) (hi : i < a.size) (hj : j < a.size) :
    (a.setIfInBounds i a[j]).setIfInBounds j a[i] = a.swap i j hi hj := by
  simp [Array.swap_def, Array.setIfInBounds, hi, hj]

theorem set_set_perm {α} (a : Array α) (i c : Nat) (e : α) (hi : i < a.size) (hc : c < a.size)
    (hne : i ≠ c) :
    ((a.setIfInBounds i a[c]).setIfInBounds c e).Perm (a.setIfInBounds i e) := by
  have h := swap_eq_set_set (a.setIfInBounds i e) i c (by simpa using hi) (by simpa using hc)
  simp only [Array.setIfInBounds_setIfInBounds, Array.getElem_setIfInBounds_self,
    Array.getElem_setIfInBounds_ne hc hne] at h
  rw [h]
  exact Array.swap_perm _ _

/-! The seven cases of `fun_induction sift a e i`, in the order of the definition (`h1`, `h2`: the left,
the right child exists; then the tests): two children, left is the larger one — (1) it is above `e` and
moves up, (2) `e` stays; right is the larger one — (3) moves up, (4) `e` stays; one child — (5) moves
up, (6) `e` stays; (7) no child.  `siftdownSwap` has the same seven with the nesting of its own tests:
two children and `elt` below the left one — (1) swap with the right, larger, one, (2) with the left
one; not below the left one — (3) swap with the right one, (4) stop; one child — (5) swap, (6) stop;
(7) out of range. -/

theorem sift_perm_gen (a : Row P) (e : Entry P) (i : Nat) (hi : i < a.size) :
    (sift a e i).Perm (a.setIfInBounds i e) := by
  fun_induction sift a e i
  case case1 a i h1 h2 h3 h4 ih =>
    exact (ih ((Array.size_setIfInBounds ..).symm ▸ h1)).trans (set_set_perm a i _ e hi h1 (Nat.ne_of_lt (lt_of_child (.inl rfl))))
  case case2 => exact Array.Perm.refl _
  case case3 a i h1 h2 h3 h4 ih =>
    exact (ih ((Array.size_setIfInBounds ..).symm ▸ h2)).trans (set_set_perm a i _ e hi h2 (Nat.ne_of_lt (lt_of_child (.inr rfl))))
  case case4 => exact Array.Perm.refl _
  case case5 a i h1 h2 h3 ih =>
    exact (ih ((Array.size_setIfInBounds ..).symm ▸ h1)).trans (set_set_perm a i _ e hi h1 (Nat.ne_of_lt (lt_of_child (.inl rfl))))
  case case6 => exact Array.Perm.refl _
  case case7 => exact Array.Perm.refl _

/-- a push either leaves the row alone and answers `false`, or sifts the new entry in from the root -/
theorem push_cases (c : Bool) (h : Row P) (p : P) (n : Int) (f : Bool) :
    push c h p n f = (h, false) ∨ ∃ _ : 0 < h.size, push c h p n f = (sift h ⟨p, n, f⟩ 0, true) := by
  unfold push
  -- `if_pos`/`if_neg` terms, not `split`: splitting the unfolded `push` three times is far dearer
  by_cases hk : 0 < h.size
  · rw [dif_pos hk]
    by_cases h1 : p ≥ h[0].prio
    · exact .inl (if_pos h1)
    · rw [if_neg h1]
      by_cases h2 : (c && h.any fun e => e.idx == n) = true
      · exact .inl (if_pos h2)
      · exact .inr ⟨hk, if_neg h2⟩
  · exact .inl (dif_neg hk)

@[simp] theorem push_size (c : Bool) (h : Row P) (p : P) (n : Int) (f : Bool) :
    (push c h p n f).1.size = h.size := by
  rcases push_cases c h p n f with e | ⟨_, e⟩ <;> simp [e]

theorem push_mem (c : Bool) (h : Row P) (p : P) (n : Int) (f : Bool) :
    ∀ x ∈ (push c h p n f).1, x = ⟨p, n, f⟩ ∨ x ∈ h := by
  intro x hx
  rcases push_cases c h p n f with e | ⟨hk, e⟩
  · rw [e] at hx
    exact Or.inr hx
  · rw [e] at hx
    exact (Array.mem_or_eq_of_mem_setIfInBounds ((sift_perm_gen h _ 0 hk).mem_iff.mp hx)).symm

end Lawless

/-! ## `siftdownSwap` (it only decides `<`) -/
section Swap
variable {P : Type} [LT P] [DecidableLT P]

/-- All that most facts need of `siftdownSwap`, whatever the order: its result comes from `a` by swapping pairs of
positions below `n`. -/
theorem sds_swaps (n : Nat) {motive : Row P → Row P → Prop} (refl : ∀ a, motive a a)
    (swap : ∀ (a : Row P) e c (he : e < a.size) (hc : c < a.size), e < c → c < n →
      ∀ b, motive (a.swap e c) b → motive a b)
    (a : Row P) (e : Nat) : motive a (siftdownSwap a n e) := by
  have child : ∀ (a : Row P) e c (hc : c = 2*e+1 ∨ c = 2*e+2) (hcn : c < n) (hn : n ≤ a.size) b,
      motive (a.swap e c (Nat.lt_trans (lt_of_child hc) (Nat.lt_of_lt_of_le hcn hn)) (Nat.lt_of_lt_of_le hcn hn)) b →
        motive a b :=
    fun a e c hc hcn hn => swap a e c _ _ (lt_of_child hc) hcn
  fun_induction siftdownSwap a n e
  case case1 a e h hr _ _ ih => exact child a e _ (.inr rfl) hr h.2 _ ih
  case case2 a e h hr _ _ ih => exact child a e _ (.inl rfl) h.1 h.2 _ ih
  case case3 a e h hr _ _ ih => exact child a e _ (.inr rfl) hr h.2 _ ih
  case case4 => exact refl _
  case case5 a e h hr _ ih => exact child a e _ (.inl rfl) h.1 h.2 _ ih
  case case6 => exact refl _
  case case7 => exact refl _

@[simp] theorem sds_size (a : Row P) (n e : Nat) : (siftdownSwap a n e).size = a.size :=
  sds_swaps n (motive := fun a b => b.size = a.size) (fun _ => rfl)
    (fun _ _ _ _ _ _ _ _ ih => ih.trans (Array.size_swap ..)) a e

theorem sds_perm (a : Row P) (n e : Nat) : (siftdownSwap a n e).Perm a :=
  sds_swaps n (motive := fun a b => b.Perm a) (fun _ => Array.Perm.refl _)
    (fun _ _ _ _ _ _ _ _ ih => ih.trans (Array.swap_perm ..)) a e

theorem sds_frame (a : Row P) (n e : Nat) (k : Nat) (hk : n ≤ k) :
    (siftdownSwap a n e)[k]? = a[k]? := by
  refine sds_swaps n (motive := fun a b => b[k]? = a[k]?) (fun _ => rfl) ?_ a e
  intro a e c _ _ hec hcn b ih
  have hck : c < k := Nat.lt_of_lt_of_le hcn hk
  rw [ih, Array.getElem?_swap, if_neg (Nat.ne_of_lt hck), if_neg (Nat.ne_of_lt (Nat.lt_trans hec hck))]

theorem swap_prefix {α} (a : Array α) (i j : Nat) (hi : i < a.size) (hj : j < a.size) (n : Nat)
    (hin : i < n) (hjn : j < n) (x : Nat) (hx : x < n) :
    ∃ x', x' < n ∧ (a.swap i j)[x]? = a[x']? := by
  simp only [Array.getElem?_swap]
  split
  · exact ⟨i, hin, (Array.getElem?_eq_getElem _).symm⟩
  · split
    · exact ⟨j, hjn, (Array.getElem?_eq_getElem _).symm⟩
    · exact ⟨x, hx, rfl⟩

/-- every prefix that reaches to `n` or beyond keeps its entries -/
theorem sds_prefix (a : Row P) (n e : Nat) (m : Nat) (hnm : n ≤ m) (x : Nat) (hx : x < m) :
    ∃ x', x' < m ∧ (siftdownSwap a n e)[x]? = a[x']? := by
  refine sds_swaps n (motive := fun a b => ∃ x', x' < m ∧ b[x]? = a[x']?) (fun _ => ⟨x, hx, rfl⟩) ?_ a e
  intro a e c hea hca hec hcn b ⟨x', hx', heq⟩
  have hcm : c < m := Nat.lt_of_lt_of_le hcn hnm
  rw [heq]
  exact swap_prefix a e c hea hca m (Nat.lt_trans hec hcm) hcm x' hx'

theorem deheapLoop_succ (a : Row P) (j : Nat) (h : j + 1 < a.size) :
    deheapLoop a (j+1) = deheapLoop (siftdownSwap (a.swap 0 (j+1) (Nat.zero_lt_of_lt h) h) (j+1) 0) j := by
  rw [deheapLoop, dif_pos h]

theorem deheapLoop_perm (a : Row P) (j : Nat) : (deheapLoop a j).Perm a := by
  induction j generalizing a with
  | zero => exact Array.Perm.refl _
  | succ j ih =>
    unfold deheapLoop
    split
    · exact (ih _).trans ((sds_perm _ _ _).trans (Array.swap_perm _ _))
    · exact Array.Perm.refl _

@[simp] theorem deheapLoop_size (a : Row P) (j : Nat) : (deheapLoop a j).size = a.size :=
  (deheapLoop_perm a j).size_eq

theorem deheapSort_perm (h : Row P) : (deheapSort h).Perm h := deheapLoop_perm h _

end Swap

/-! ## What the refinement of the translated kernels needs of the model

The kernels store the new entry in slot 0 before sifting, swap with three statements, run their duplicate scan on
the index array alone and sift prefix views `heap[:n]`; these are the corresponding facts about the model. -/
section Refinement
variable {P : Type}

theorem lt_size_append {α} {pre : Array α} (suf : Array α) {i : Nat} (h : i < pre.size) : i < (pre ++ suf).size := by
  rw [Array.size_append]; exact Nat.lt_add_right _ h

theorem swap_append_left {α} (pre suf : Array α) (i j : Nat) (hi : i < pre.size) (hj : j < pre.size) :
    (pre ++ suf).swap i j (lt_size_append suf hi) (lt_size_append suf hj) = pre.swap i j hi hj ++ suf := by
  rw [← swap_eq_set_set, ← swap_eq_set_set, Array.getElem_append_left hi, Array.getElem_append_left hj]
  simp [Array.setIfInBounds_append_left, hi, hj]

/-- the model's duplicate scan looks at the index column only -/
theorem any_idx_iff (r : Row P) (n : Int) : r.any (fun e => e.idx == n) = true ↔ n ∈ r.map (·.idx) := by
  rw [Array.any_eq_true', Array.mem_map]
  exact exists_congr fun e => and_congr_right fun _ => beq_iff_eq

variable [LT P] [DecidableLT P]

/-- `siftdown` on a prefix view: `siftdownSwap` bounded by `n` only looks at and only moves the first `n`
slots. -/
theorem siftdownSwap_append (pre suf : Row P) (n elt : Nat) (hn : n ≤ pre.size) :
    siftdownSwap (pre ++ suf) n elt = siftdownSwap pre n elt ++ suf := by
  -- below `n` the row `pre ++ suf` reads as `pre`, so both sides take the same branch of the same step
  have rdp : ∀ (a : Row P) (k : Nat) (hk : k < a.size), (a ++ suf)[k]'(lt_size_append suf hk) = a[k] :=
    fun a k hk => Array.getElem_append_left hk
  have le : ∀ {a : Row P} {k : Nat}, k < n ∧ n ≤ a.size → k < n ∧ n ≤ (a ++ suf).size :=
    fun h => ⟨h.1, Nat.le_trans h.2 (Array.size_append ▸ Nat.le_add_right ..)⟩
  have bd : ∀ {a : Row P} {e : Nat}, 2*e+1 < n ∧ n ≤ a.size → e < a.size ∧ 2*e+1 < a.size :=
    fun h => ⟨Nat.lt_trans (lt_of_child (.inl rfl)) (Nat.lt_of_lt_of_le h.1 h.2), Nat.lt_of_lt_of_le h.1 h.2⟩
  fun_induction siftdownSwap pre n elt with
  | case1 a elt h hr c1 c2 ih =>
    rw [siftdownSwap, dif_pos (le h), dif_pos hr]
    simp only [rdp a elt (bd h).1, rdp a (2*elt+1) (bd h).2, rdp a (2*elt+2) (Nat.lt_of_lt_of_le hr h.2), c1, c2, if_true]
    rw [← ih ((Array.size_swap ..).symm ▸ h.2), swap_append_left]
  | case2 a elt h hr c1 c2 ih | case3 a elt h hr c1 c2 ih =>
    rw [siftdownSwap, dif_pos (le h), dif_pos hr]
    simp only [rdp a elt (bd h).1, rdp a (2*elt+1) (bd h).2, rdp a (2*elt+2) (Nat.lt_of_lt_of_le hr h.2), c1, c2, if_true,
      if_false]
    rw [← ih ((Array.size_swap ..).symm ▸ h.2), swap_append_left]
  | case4 a elt h hr c1 c2 =>
    rw [siftdownSwap, dif_pos (le h), dif_pos hr]
    simp only [rdp a elt (bd h).1, rdp a (2*elt+1) (bd h).2, rdp a (2*elt+2) (Nat.lt_of_lt_of_le hr h.2), c1, c2, if_false]
  | case5 a elt h hr c1 ih =>
    rw [siftdownSwap, dif_pos (le h), dif_neg hr]
    simp only [rdp a elt (bd h).1, rdp a (2*elt+1) (bd h).2, c1, if_true]
    rw [← ih ((Array.size_swap ..).symm ▸ h.2), swap_append_left]
  | case6 a elt h hr c1 =>
    rw [siftdownSwap, dif_pos (le h), dif_neg hr]
    simp only [rdp a elt (bd h).1, rdp a (2*elt+1) (bd h).2, c1, if_false]
  | case7 a elt h =>
    rw [siftdownSwap, dif_neg fun hh => h ⟨hh.1, hn⟩]

variable [LE P] [DecidableLE P]

/-- `sift` never reads the hole: what is stored there before does not matter.  (The kernels write the
new entry into slot 0 *before* sifting; the model only writes the final position.) -/
theorem sift_set_hole (a : Row P) (e x : Entry P) (i : Nat) :
    sift (a.setIfInBounds i x) e i = sift a e i := by
  have g : ∀ (c : Nat) (hc : c < a.size), i < c →
      (a.setIfInBounds i x)[c]'((Array.size_setIfInBounds ..).symm ▸ hc) = a[c] :=
    fun c hc hic => Array.getElem_setIfInBounds_ne hc (Nat.ne_of_lt hic)
  rw [sift.eq_1 a, sift.eq_1 (a.setIfInBounds i x)]
  simp only [Array.size_setIfInBounds, Array.setIfInBounds_setIfInBounds]
  by_cases h1 : 2 * i + 1 < a.size
  · by_cases h2 : 2 * i + 2 < a.size
    · simp only [h1, h2, dite_true, g (2*i+1) h1 (lt_of_child (.inl rfl)), g (2*i+2) h2 (lt_of_child (.inr rfl))]
    · simp only [h1, h2, dite_true, dite_false, g (2*i+1) h1 (lt_of_child (.inl rfl))]
  · simp only [h1, dite_false]

/-- the checked push is the unchecked push behind the duplicate test -/
theorem push_true_eq (h : Row P) (p : P) (n : Int) (f : Bool) :
    push true h p n f = if h.any (fun e => e.idx == n) then (h, false) else push false h p n f := by
  unfold push
  by_cases hk : 0 < h.size
  · by_cases hd : h.any (fun e => e.idx == n) = true
    · simp only [hk, hd, ↓reduceDIte, ↓reduceIte, Bool.true_and, ite_self]
    · simp only [hk, hd, ↓reduceDIte, ↓reduceIte, Bool.true_and, Bool.false_and, Bool.false_eq_true]
  · simp only [hk, ↓reduceDIte, ite_self]

end Refinement

end Pynn
