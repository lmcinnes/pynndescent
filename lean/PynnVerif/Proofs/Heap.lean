import PynnVerif.Proofs.HeapBasic
import Mathlib.Order.Defs.LinearOrder

/-! # The heap order through the pushes (hole sift) -/
namespace Pynn

variable {P : Type} [LinearOrder P]

/-! ## Heap order on total functions

The order facts about both sift-downs (the hole-based `sift` of the pushes and the swap-based
`siftdownSwap` of `deheap_sort`) are proved once, about a total function `f : Nat → P` of priorities, so
that no index carries a bounds proof.  `prioAt a d` reads a row as such a function (its default `d` is never read below `a.size`, so any
value does; callers take whatever is at hand); `IsHeap`, `HoleInv` and, in `HeapSort.lean`, `HeapOn`
are `HeapF` / `HoleF` of it. -/

/-- heap order on positions `< n`; the parent of `j` is `(j-1)/2` -/
def HeapF (f : Nat → P) (n : Nat) : Prop := ∀ j, 0 < j → j < n → f j ≤ f ((j-1)/2)

/-- Heap order on positions `< n` except around a hole at `i` that is to receive priority `p`: `f i` itself
is never read; `p` and the children of `i` are below the parent of `i`. -/
structure HoleF (f : Nat → P) (n i : Nat) (p : P) : Prop where
  away : ∀ j, 0 < j → j < n → j ≠ i → (j-1)/2 ≠ i → f j ≤ f ((j-1)/2)
  par : 0 < i → p ≤ f ((i-1)/2)
  gp : 0 < i → ∀ c, c < n → (c-1)/2 = i → f c ≤ f ((i-1)/2)

theorem HeapF.root_max {f : Nat → P} {n : Nat} (h : HeapF f n) : ∀ j, j < n → f j ≤ f 0 := by
  intro j
  induction j using Nat.strongRecOn with
  | _ j ih =>
    intro hj
    rcases Nat.eq_zero_or_pos j with rfl | h0
    · exact le_refl _
    · exact le_trans (h j h0 hj) (ih _ (parent_lt h0) (Nat.lt_trans (parent_lt h0) hj))

/-- a heap with its root taken out -/
theorem HeapF.holeF_root {f g : Nat → P} {n : Nat} (h : HeapF f n) (p : P)
    (hg : ∀ j, 0 < j → j < n → g j = f j) : HoleF g n 0 p :=
  ⟨fun j hj0 hj _ hp => by
      rw [hg j hj0 hj, hg _ (Nat.pos_of_ne_zero hp) (Nat.lt_trans (parent_lt hj0) hj)]
      exact h j hj0 hj,
    fun h0 => absurd h0 (Nat.lt_irrefl 0), fun h0 => absurd h0 (Nat.lt_irrefl 0)⟩

/-- The hole moves down to its largest child `c`, whose value moves up (`g i = f c`); what `g` holds at
`c` does not matter, so this serves a store (`sift`) and a swap (`siftdownSwap`) alike. -/
theorem HoleF.move {f g : Nat → P} {n i c : Nat} {p : P} (h : HoleF f n i p)
    (hc : c = 2*i+1 ∨ c = 2*i+2) (hcn : c < n)
    (h1 : 2*i+1 < n → f (2*i+1) ≤ f c) (h2 : 2*i+2 < n → f (2*i+2) ≤ f c) (hp : p ≤ f c)
    (hg : ∀ j, j ≠ i → j ≠ c → g j = f j) (hgi : g i = f c) : HoleF g n c p := by
  have hmax : ∀ d, d < n → (d-1)/2 = i → 0 < d → f d ≤ f c := by
    intro d hd hdi hd0
    obtain rfl | rfl := child_of_parent hd0 hdi
    exacts [h1 hd, h2 hd]
  have hci : (c-1)/2 = i := parent_of_child hc
  refine ⟨fun j hj0 hj hjc hpc => ?_, fun _ => ?_, fun hc0 d hd hdc => ?_⟩
  · by_cases hji : j = i
    · subst hji
      rw [hgi, hg _ (Nat.ne_of_lt (parent_lt hj0)) hpc]
      exact h.gp hj0 c hcn hci
    · rw [hg j hji hjc]
      by_cases hpi : (j-1)/2 = i
      · rw [hpi, hgi]; exact hmax j hj hpi hj0
      · rw [hg _ hpi hpc]; exact h.away j hj0 hj hji hpi
  · rw [hci, hgi]; exact hp
  -- a child `d` of the new hole lies below both `c` and `i`
  · have hcd : c < d := lt_of_parent_pos hdc hc0
    have hid : i < d := Nat.lt_trans (lt_of_child hc) hcd
    rw [hci, hgi, hg d (Nat.ne_of_gt hid) (Nat.ne_of_gt hcd)]
    have := h.away d (Nat.zero_lt_of_lt hcd) hd (Nat.ne_of_gt hid) (hdc ▸ Nat.ne_of_gt (lt_of_child hc))
    rwa [hdc] at this

/-- `p` is at least both children of the hole: filling the hole with it gives a heap. -/
theorem HoleF.stop {f g : Nat → P} {n i : Nat} {p : P} (h : HoleF f n i p)
    (h1 : 2*i+1 < n → f (2*i+1) ≤ p) (h2 : 2*i+2 < n → f (2*i+2) ≤ p)
    (hg : ∀ j, j ≠ i → g j = f j) (hgi : g i = p) : HeapF g n := by
  intro j hj0 hj
  by_cases hji : j = i
  · subst hji
    rw [hgi, hg _ (Nat.ne_of_lt (parent_lt hj0))]
    exact h.par hj0
  · rw [hg j hji]
    by_cases hpi : (j-1)/2 = i
    · rw [hpi, hgi]
      obtain rfl | rfl := child_of_parent hj0 hpi
      exacts [h1 hj, h2 hj]
    · rw [hg _ hpi]; exact h.away j hj0 hj hji hpi

/-! ## The hole-based sift-down of the pushes -/

/-- The sift-down result is a permutation of "`a` with `e` written at the hole":
whole entries move, so a candidate stays paired with its own distance and flag. -/
theorem sift_perm (a : Row P) (e : Entry P) (i : Nat) (hi : i < a.size) :
    (sift a e i).Perm (a.setIfInBounds i e) := sift_perm_gen a e i hi

/-- Max-heap property of a row in array layout. -/
def IsHeap (a : Row P) : Prop :=
  ∀ j (hj : j < a.size), 0 < j → a[j].prio ≤ (a[(j-1)/2]'(by omega)).prio

/-- Heap everywhere except at hole `i`, where `e` is to be placed. -/
structure HoleInv (a : Row P) (e : Entry P) (i : Nat) : Prop where
  away : ∀ j (hj : j < a.size), 0 < j → j ≠ i → (j-1)/2 ≠ i →
            a[j].prio ≤ (a[(j-1)/2]'(by omega)).prio
  par  : ∀ (_ : 0 < i) (hi : i < a.size), e.prio ≤ (a[(i-1)/2]'(by omega)).prio
  gp   : ∀ (_ : 0 < i) (hi : i < a.size) c (hc : c < a.size), (c-1)/2 = i → 0 < c →
            a[c].prio ≤ (a[(i-1)/2]'(by omega)).prio

theorem isHeap_iff (a : Row P) (d : P) : IsHeap a ↔ HeapF (prioAt a d) a.size := by
  constructor
  · intro h j hj0 hj
    rw [prioAt_lt a d hj, prioAt_lt a d (Nat.lt_trans (parent_lt hj0) hj)]
    exact h j hj hj0
  · intro h j hj hj0
    have := h j hj0 hj
    rwa [prioAt_lt a d hj, prioAt_lt a d (Nat.lt_trans (parent_lt hj0) hj)] at this

theorem HoleInv.holeF {a : Row P} {e : Entry P} {i : Nat} (h : HoleInv a e i) (hi : i < a.size) (d : P) :
    HoleF (prioAt a d) a.size i e.prio := by
  refine ⟨fun j hj0 hj hji hpi => ?_, fun hi0 => ?_, fun hi0 c hc hci => ?_⟩
  · rw [prioAt_lt a d hj, prioAt_lt a d (Nat.lt_trans (parent_lt hj0) hj)]
    exact h.away j hj hj0 hji hpi
  · rw [prioAt_lt a d (Nat.lt_trans (parent_lt hi0) hi)]
    exact h.par hi0 hi
  · rw [prioAt_lt a d hc, prioAt_lt a d (Nat.lt_trans (parent_lt hi0) hi)]
    exact h.gp hi0 hi c hc hci (Nat.zero_lt_of_lt (lt_of_parent_pos hci hi0))

theorem sift_move {a : Row P} {e : Entry P} {i c : Nat} {d : P} (h : HoleF (prioAt a d) a.size i e.prio)
    (hi : i < a.size) (hc : c = 2*i+1 ∨ c = 2*i+2) (hcn : c < a.size)
    (h1 : ∀ h : 2*i+1 < a.size, a[2*i+1].prio ≤ a[c].prio)
    (h2 : ∀ h : 2*i+2 < a.size, a[2*i+2].prio ≤ a[c].prio) (hp : e.prio < a[c].prio) :
    HoleF (prioAt (a.setIfInBounds i a[c]) d) (a.setIfInBounds i a[c]).size c e.prio := by
  rw [Array.size_setIfInBounds]
  refine h.move hc hcn (fun h => ?_) (fun h => ?_) ?_ (fun j hji _ => prioAt_set_ne a d _ hji)
    ((prioAt_set_self a d _ hi).trans (prioAt_lt a d hcn).symm)
  · rw [prioAt_lt a d h, prioAt_lt a d hcn]; exact h1 h
  · rw [prioAt_lt a d h, prioAt_lt a d hcn]; exact h2 h
  · rw [prioAt_lt a d hcn]; exact le_of_lt hp

theorem sift_stop {a : Row P} {e : Entry P} {i : Nat} {d : P} (h : HoleF (prioAt a d) a.size i e.prio)
    (hi : i < a.size) (h1 : ∀ h : 2*i+1 < a.size, a[2*i+1].prio ≤ e.prio)
    (h2 : ∀ h : 2*i+2 < a.size, a[2*i+2].prio ≤ e.prio) :
    HeapF (prioAt (a.setIfInBounds i e) d) a.size := by
  refine h.stop (fun h => ?_) (fun h => ?_) (fun j hji => prioAt_set_ne a d _ hji) (prioAt_set_self a d _ hi)
  · rw [prioAt_lt a d h]; exact h1 h
  · rw [prioAt_lt a d h]; exact h2 h

theorem sift_heapF (a : Row P) (e : Entry P) (i : Nat) (d : P) (hi : i < a.size)
    (h : HoleF (prioAt a d) a.size i e.prio) : HeapF (prioAt (sift a e i) d) a.size := by
  fun_induction sift a e i
  case case1 a i h1 h2 h3 h4 ih =>
    rw [← Array.size_setIfInBounds]
    exact ih ((Array.size_setIfInBounds ..).symm ▸ h1) (sift_move h hi (.inl rfl) h1 (fun _ => le_refl _) (fun _ => h3) h4)
  case case2 a i h1 h2 h3 h4 =>
    exact sift_stop h hi (fun _ => not_lt.mp h4) (fun _ => le_trans h3 (not_lt.mp h4))
  case case3 a i h1 h2 h3 h4 ih =>
    rw [← Array.size_setIfInBounds]
    exact ih ((Array.size_setIfInBounds ..).symm ▸ h2)
      (sift_move h hi (.inr rfl) h2 (fun _ => le_of_lt (not_le.mp h3)) (fun _ => le_refl _) h4)
  case case4 a i h1 h2 h3 h4 =>
    exact sift_stop h hi (fun _ => le_trans (le_of_lt (not_le.mp h3)) (not_lt.mp h4)) (fun _ => not_lt.mp h4)
  case case5 a i h1 h2 h3 ih =>
    rw [← Array.size_setIfInBounds]
    exact ih ((Array.size_setIfInBounds ..).symm ▸ h1) (sift_move h hi (.inl rfl) h1 (fun _ => le_refl _) (fun h => absurd h h2) h3)
  case case6 a i h1 h2 h3 =>
    exact sift_stop h hi (fun _ => not_lt.mp h3) (fun h => absurd h h2)
  case case7 a i h1 =>
    exact sift_stop h hi (fun h => absurd h h1) (fun h => absurd (Nat.lt_of_succ_lt h) h1)

theorem sift_heap (a : Row P) (e : Entry P) (i : Nat) (hi : i < a.size)
    (h : HoleInv a e i) : IsHeap (sift a e i) := by
  rw [isHeap_iff _ e.prio, sift_size]
  exact sift_heapF a e i e.prio hi (h.holeF hi _)

theorem isHeap_root_max (a : Row P) (h : IsHeap a) :
    ∀ j (hj : j < a.size), a[j].prio ≤ (a[0]'(by omega)).prio := by
  intro j hj
  have := ((isHeap_iff a a[j].prio).mp h).root_max j hj
  rwa [prioAt_lt _ _ hj, prioAt_lt _ _ (Nat.zero_lt_of_lt hj)] at this

theorem isHeap_map_keepsKey (φ : Entry P → Entry P) (hφ : KeepsKey φ) {row : Row P}
    (h : IsHeap row) : IsHeap (row.map φ) := by
  intro j hj hj0
  simp only [Array.size_map] at hj
  simp only [Array.getElem_map, (hφ _).1]
  exact h j hj hj0

/-- accepted push: a permutation of the row with the root replaced (whole entries). -/
theorem push_perm (c : Bool) (h : Row P) (p : P) (n : Int) (f : Bool)
    (hacc : (push c h p n f).2 = true) :
    (push c h p n f).1.Perm (h.setIfInBounds 0 ⟨p, n, f⟩) := by
  rcases push_cases c h p n f with e | ⟨hk, e⟩
  · simp [e] at hacc
  · rw [e]; exact sift_perm h _ 0 hk

/-- rejected push: the row is unchanged. -/
theorem push_reject (c : Bool) (h : Row P) (p : P) (n : Int) (f : Bool)
    (hrej : (push c h p n f).2 = false) : (push c h p n f).1 = h := by
  rcases push_cases c h p n f with e | ⟨_, e⟩
  · rw [e]
  · simp [e] at hrej

theorem mkRow_isHeap (top : P) (k : Nat) : IsHeap (mkRow top k) := by
  intro j hj hj0
  simp [mkRow]

/-- the heap property is preserved by every push variant. -/
theorem push_heap (c : Bool) (h : Row P) (p : P) (n : Int) (f : Bool) (hh : IsHeap h) :
    IsHeap (push c h p n f).1 := by
  rcases push_cases c h p n f with e | ⟨hk, e⟩
  · rw [e]; exact hh
  · rw [e, isHeap_iff _ p, sift_size]
    exact sift_heapF h _ 0 p hk (((isHeap_iff h p).mp hh).holeF_root p fun _ _ _ => rfl)

/-- What acceptance means: room at the root, and (checked variants) not yet present. -/
theorem push_accept_iff (c : Bool) (h : Row P) (p : P) (n : Int) (f : Bool) :
    (push c h p n f).2 = true ↔
      ∃ hk : 0 < h.size, p < h[0].prio ∧ (c = true → ∀ e ∈ h, e.idx ≠ n) := by
  unfold push
  by_cases hk : 0 < h.size
  · rw [dif_pos hk]
    by_cases hge : p ≥ h[0].prio
    · rw [if_pos hge]
      exact ⟨fun h => absurd h Bool.false_ne_true, fun ⟨_, hlt, _⟩ => absurd hge (not_le.mpr hlt)⟩
    · rw [if_neg hge]
      by_cases hany : (c && h.any fun e => e.idx == n) = true
      · rw [if_pos hany]
        refine ⟨fun h => absurd h Bool.false_ne_true, fun ⟨_, _, hc⟩ => ?_⟩
        rw [Bool.and_eq_true] at hany
        obtain ⟨e, he, heq⟩ := Array.any_eq_true'.mp hany.2
        exact absurd (by simpa using heq) (hc hany.1 e he)
      · rw [if_neg hany]
        refine ⟨fun _ => ⟨hk, not_le.mp hge, fun hc e he heq => hany ?_⟩, fun _ => rfl⟩
        rw [Bool.and_eq_true]
        exact ⟨hc, Array.any_eq_true'.mpr ⟨e, he, by simpa using heq⟩⟩
  · rw [dif_neg hk]
    exact ⟨fun h => absurd h Bool.false_ne_true, fun ⟨hk', _⟩ => absurd hk' hk⟩

/-- The two outcomes of a push in one statement. -/
theorem push_spec (c : Bool) (h : Row P) (p : P) (n : Int) (f : Bool) :
    ((push c h p n f).2 = false ∧ (push c h p n f).1 = h) ∨
    ((push c h p n f).2 = true ∧ ∃ hk : 0 < h.size, p < h[0].prio ∧ (c = true → ∀ e ∈ h, e.idx ≠ n) ∧
      (push c h p n f).1.Perm (h.setIfInBounds 0 ⟨p, n, f⟩)) := by
  cases hacc : (push c h p n f).2
  · exact .inl ⟨rfl, push_reject c h p n f hacc⟩
  · obtain ⟨hk, hlt, hscan⟩ := (push_accept_iff c h p n f).mp hacc
    exact .inr ⟨rfl, hk, hlt, hscan, push_perm c h p n f hacc⟩

theorem push_far (c : Bool) (h : Row P) (p : P) (n : Int) (f : Bool)
    (hfar : ∀ hk : 0 < h.size, h[0].prio ≤ p) : push c h p n f = (h, false) := by
  rcases push_spec c h p n f with ⟨h2, h1⟩ | ⟨_, hk, hlt, _⟩
  · exact Prod.ext h1 h2
  · exact absurd (hfar hk) (not_le.mpr hlt)

/-- the root only comes down -/
theorem push_root_le (c : Bool) (h : Row P) (p : P) (n : Int) (f : Bool) (hh : IsHeap h)
    (hacc : (push c h p n f).2 = true) (hk : 0 < h.size) (hk' : 0 < (push c h p n f).1.size) :
    ((push c h p n f).1[0]).prio ≤ h[0].prio := by
  rcases push_mem c h p n f _ (Array.getElem_mem hk') with heq | hmem
  · rw [heq]
    exact le_of_lt ((push_accept_iff c h p n f).mp hacc).2.1
  · obtain ⟨j, hj, heq⟩ := Array.mem_iff_getElem.mp hmem
    rw [← heq]
    exact isHeap_root_max h hh j hj

theorem push_dup (h : Row P) (p : P) (n : Int) (f : Bool) (hheld : ∃ e ∈ h, e.idx = n) :
    push true h p n f = (h, false) := by
  rcases push_spec true h p n f with ⟨h2, h1⟩ | ⟨_, _, _, hscan, _⟩
  · exact Prod.ext h1 h2
  · obtain ⟨e, he, heq⟩ := hheld
    exact absurd heq (hscan rfl e he)

/-- an accepted push puts its entry into the row -/
theorem push_accept_mem (c : Bool) (h : Row P) (p : P) (n : Int) (f : Bool)
    (hacc : (push c h p n f).2 = true) : ⟨p, n, f⟩ ∈ (push c h p n f).1 := by
  obtain ⟨hk, _⟩ := (push_accept_iff c h p n f).mp hacc
  exact (push_perm c h p n f hacc).mem_iff.mpr (Array.mem_iff_getElem.mpr ⟨0, by simpa using hk, by simp⟩)

/-- The row accounts for candidate `n` at distance `p`: it holds `n`, or `p` is at least as far as the root
(what `RowInv.excl` says of every offer and `InGraphInv` of every recorded candidate). -/
def Covered (h : Row P) (n : Int) (p : P) : Prop :=
  (∃ e ∈ h, e.idx = n) ∨ ∀ hk : 0 < h.size, h[0].prio ≤ p

/-- a covered candidate is rejected: as a duplicate, or as too far -/
theorem Covered.push_eq {h : Row P} {n : Int} {p : P} (hc : Covered h n p) (f : Bool) :
    push true h p n f = (h, false) :=
  hc.elim (push_dup h p n f) (push_far true h p n f)

/-- whatever a push answers, its candidate is covered afterwards -/
theorem covered_push (c : Bool) (h : Row P) (p : P) (n : Int) (f : Bool) :
    Covered (push c h p n f).1 n p := by
  cases hacc : (push c h p n f).2
  · rw [push_reject c h p n f hacc]
    by_cases hheld : ∃ e ∈ h, e.idx = n
    · exact Or.inl hheld
    · refine Or.inr fun hk => le_of_not_gt fun hlt => Bool.false_ne_true (hacc.symm.trans ?_)
      exact (push_accept_iff c h p n f).mpr ⟨hk, hlt, fun _ e he heq => hheld ⟨e, he, heq⟩⟩
  · exact Or.inl ⟨_, push_accept_mem c h p n f hacc, rfl⟩

/-- A covered candidate stays covered under any push into a heap, provided the entry that holds it is
not farther than `p`: evicted, it was the root, and the root only comes down. -/
theorem Covered.push {h : Row P} {n : Int} {p : P} (hc : Covered h n p) (hh : IsHeap h)
    (hp : ∀ e ∈ h, e.idx = n → e.prio ≤ p) (c : Bool) (p' : P) (n' : Int) (f : Bool) :
    Covered (push c h p' n' f).1 n p := by
  rcases push_spec c h p' n' f with ⟨_, heq⟩ | ⟨hacc, hk, _, _, hperm⟩
  · rw [heq]; exact hc
  · have hroot := push_root_le c h p' n' f hh hacc hk
    rcases hc with ⟨e, he, heq⟩ | hfar
    · obtain ⟨i, hi, rfl⟩ := Array.mem_iff_getElem.mp he
      by_cases hi0 : i = 0
      · subst hi0
        exact Or.inr fun hk' => le_trans (hroot hk') (hp _ he heq)
      · exact Or.inl ⟨h[i], hperm.mem_iff.mpr (Array.mem_iff_getElem.mpr
          ⟨i, by simpa using hi, by simp [hi, Ne.symm hi0]⟩), heq⟩
    · exact Or.inr fun hk' => le_trans (hroot hk') (hfar hk)

/-- not held, a covered candidate is at least as far as every entry of a heap -/
theorem Covered.le_of_not_held {h : Row P} {n : Int} {p : P} (hc : Covered h n p) (hh : IsHeap h)
    (hn : ¬ ∃ e ∈ h, e.idx = n) : ∀ a ∈ h, a.prio ≤ p := by
  intro a ha
  obtain ⟨i, hi, rfl⟩ := Array.mem_iff_getElem.mp ha
  exact le_trans (isHeap_root_max h hh i hi) (hc.resolve_left hn (Nat.zero_lt_of_lt hi))

/-- pushing the same `(d, candidate)` a second time into the same row is a no-op: a duplicate
if the first push was accepted, rejected for the same reason otherwise -/
theorem push_twice (h : Row P) (p : P) (n : Int) (f f' : Bool) :
    push true (push true h p n f).1 p n f' = ((push true h p n f).1, false) :=
  (covered_push true h p n f).push_eq f'

end Pynn
