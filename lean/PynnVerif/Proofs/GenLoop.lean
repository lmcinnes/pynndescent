import PynnVerif.Proofs.RangeLoop
import PynnVerif.Gen.Kernels

/-!
# Translated `for` loops as folds

Two instances of `range_loop` at a state relation.  The translator inlines the recursive call at every leaf of a
loop body, so one pass of a loop `L` at cursor `j` is, branch by branch, `L` itself one fuel down at `j + 1` from a
new state; the hypotheses below ask for exactly that equation, and the loop theorems of the `Gen*` files supply it by
walking the branches once, without an induction of their own.
-/
namespace Pynn.GenK

/-- A loop that folds `f` over `xs`, run from cursor `0`.  `L fuel s j` is the loop with its carried variables packed
into `s`, `out s j` what it hands on when `j` reaches `n`, `R m s` says that `s` stands for the model value `m`, `b` is
what the fuel of one pass has to exceed for its callees. -/
theorem for_fold {S O ρ M α : Type} (L : Nat → S → Int → Option (LoopOut O ρ)) (out : S → Int → O)
    (xs : List α) (n : Nat) (hn : xs.length = n) (f : M → α → M) (R : M → S → Prop) (b : Nat)
    (hexit : ∀ fuel s (j : Int), ¬ j < (n : Int) → L (fuel + 1) s j = some (.next (out s j)))
    (hstep : ∀ fuel s m (j : Nat) (h : j < xs.length), R m s → b < fuel →
        ∃ s', R (f m xs[j]) s' ∧ L (fuel + 1) s j = L fuel s' ((j : Int) + 1))
    (fuel : Nat) (s : S) (m : M) (hR : R m s) (hf : n + b < fuel) :
    ∃ s', R (xs.foldl f m) s' ∧ L fuel s 0 = some (.next (out s' (n : Int))) := by
  subst hn
  refine range_loop (P := fun fuel j => ∀ s m, R m s →
    ∃ s', R ((xs.drop j).foldl f m) s' ∧ L fuel s j = some (.next (out s' (xs.length : Int))))
    ?_ ?_ fuel 0 (Nat.zero_le _) hf s m hR
  · intro fuel j hlt hb ih s m hR
    obtain ⟨s', hR', e⟩ := hstep fuel s m j hlt hR hb
    rw [e, List.drop_eq_getElem_cons hlt, List.foldl_cons]
    exact ih s' _ hR'
  · intro fuel s m hR
    rw [List.drop_length, List.foldl_nil, hexit fuel s _ (Int.lt_irrefl _)]
    exact ⟨s, hR, rfl⟩

/-- A scan loop that only appends.  `emit s e` is the state after the entries `e` have been appended (`Inv s` says
they can be), `G l` what the model emits for the rest `l` of the row: one pass at `j` either appends some `e` with
`G (x :: l) = e ++ G l` and goes on at `j + 1`, or leaves the loop (`break`) where the model emits nothing more.
Wherever it is entered, it asks for the fuel of the whole range. -/
theorem for_emit {S ρ τ α : Type} (L : Nat → S → Int → Option (LoopOut (S × Int) ρ))
    (emit : S → List τ → S) (Inv : S → Prop)
    (emit_nil : ∀ s, Inv s → emit s [] = s)
    (emit_emit : ∀ s a b, Inv s → Inv (emit s a) ∧ emit (emit s a) b = emit s (a ++ b))
    (xs : List α) (n : Nat) (hn : xs.length = n) (G : List α → List τ) (hG : G [] = []) (b : Nat)
    (hexit : ∀ fuel s (j : Int), ¬ j < (n : Int) → L (fuel + 1) s j = some (.next (s, j)))
    (hstep : ∀ fuel s (j : Nat), j < xs.length → Inv s → b < fuel →
        (∃ e, G (xs.drop j) = e ++ G (xs.drop (j + 1)) ∧ L (fuel + 1) s j = L fuel (emit s e) ((j : Int) + 1)) ∨
        (G (xs.drop j) = [] ∧ ∃ j', L (fuel + 1) s j = some (.next (s, j'))))
    (fuel : Nat) (s : S) (j : Nat) (hI : Inv s) (hj : j ≤ n) (hf : n + b < fuel) :
    ∃ j', L fuel s j = some (.next (emit s (G (xs.drop j)), j')) := by
  subst hn
  refine range_loop (P := fun fuel j => ∀ s, Inv s →
    ∃ j', L fuel s j = some (.next (emit s (G (xs.drop j)), j'))) ?_ ?_ fuel j hj
    (Nat.lt_of_le_of_lt (Nat.add_le_add_right (Nat.sub_le _ j) b) hf) s hI
  · intro fuel j hlt hb ih s hI
    rcases hstep fuel s j hlt hI hb with ⟨e, hGe, hL⟩ | ⟨hGe, j', hL⟩
    · obtain ⟨j', h⟩ := ih (emit s e) (emit_emit s e [] hI).1
      exact ⟨j', by rw [hL, hGe, ← (emit_emit s e _ hI).2]; exact h⟩
    · exact ⟨j', by rw [hL, hGe, emit_nil s hI]⟩
  · intro fuel s hI
    rw [List.drop_length, hG, emit_nil s hI, hexit fuel s _ (Int.lt_irrefl _)]
    exact ⟨_, rfl⟩

end Pynn.GenK
