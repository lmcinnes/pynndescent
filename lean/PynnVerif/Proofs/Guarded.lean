import PynnVerif.Model.Metrics2

/-!
# Guardedness under rounding: helpers for `Props/C07bGuarded.lean`

Everything here is about an arbitrary `RArith` carrier and needs no real numbers (no Mathlib):

* when each partial operation (`safeSqrt`, `safeDiv`, …) is defined, and what it then returns;
* `≠ none` through `>>=` and `if` (`bind_ne_none`, `ite_ne_none`, `foldlM_ne_none`): a guardedness proof
  is the list of sign facts the kernel needs, in the kernel's order;
* `Agrees o v` — a guarded computation returns `v` whenever it succeeds — through the same
  constructs: the guarded kernels agree with the plain kernels the driver executes;
* sign lemmas for the accumulation loops;
* a cooked-up `RArithNU` carrier on which the PRE-repair kernels fail.

The suffix `G` means two things: on a definition of `Model/Metrics2.lean` (`sumByG`, `cosineG`, …) it is
the guarded, `Option`-valued kernel; on a lemma (`sumBy_nonnegG`, `clampCos_memG`, …) it says that the
lemma is about the plain kernel or accumulator (`sumBy`, `clampCos`) over a generic `RArith` carrier.
`sumBy_nonneg`, `sum1_nonneg`, `normSq_nonneg`, `l1_nonneg` of `Proofs/Metrics.lean` are the same facts
over `ℝ`, proved there through `List.sum` (that file does not import this one); `clampCos_memG` and
`min_one_memG` have no `ℝ` twin and are used at `ℝ` as they stand.
-/
namespace Pynn.Metrics

section Option
variable {α β γ : Type}

theorem ne_none_of_eq_some {o : Option β} {v : β} (h : o = some v) : o ≠ none := h ▸ nofun

theorem bind_ne_none {o : Option β} {v : β} {f : β → Option γ} (h : o = some v)
    (hf : f v ≠ none) : o >>= f ≠ none := by
  rw [h]; exact hf

theorem ite_ne_none {c : Prop} [Decidable c] {a b : Option β} (h : c → a ≠ none)
    (h' : ¬ c → b ≠ none) : (if c then a else b) ≠ none := by
  split
  · exact h ‹_›
  · exact h' ‹_›

/-- the same when what follows is defined whatever the value is (a clamp) -/
theorem bind_ne_none' {o : Option β} {f : β → Option γ} (h : o ≠ none) (hf : ∀ v, f v ≠ none) :
    o >>= f ≠ none :=
  have ⟨v, hv⟩ := Option.ne_none_iff_exists'.1 h
  bind_ne_none hv (hf v)

theorem map_ne_none {o : Option β} {v : β} (h : o = some v) (f : β → γ) : o.map f ≠ none :=
  ne_none_of_eq_some (congrArg (Option.map f) h)

theorem foldlM_ne_none {g : α → β → Option α} (l : List β) (hg : ∀ r, ∀ p ∈ l, g r p ≠ none) (a : α) :
    l.foldlM g a ≠ none := by
  induction l generalizing a with
  | nil => nofun
  | cons b t ih =>
    rw [List.foldlM_cons]
    exact bind_ne_none' (hg a b List.mem_cons_self) (ih fun r p hp => hg r p (List.mem_cons_of_mem _ hp))

/-- a guarded computation that, whenever it succeeds, returns `v` -/
def Agrees (o : Option β) (v : β) : Prop := ∀ w, o = some w → w = v

theorem Agrees.some (v : β) : Agrees (some v) v := fun _ h => (Option.some.inj h).symm

theorem Agrees.none {v : β} : Agrees none v := nofun

theorem Agrees.guard {c : Prop} [Decidable c] (v : β) :
    Agrees (if c then Option.some v else Option.none) v := by
  split
  · exact .some v
  · exact .none

theorem Agrees.bind {o : Option β} {v : β} {f : β → Option γ} {u : γ}
    (ho : Agrees o v) (hf : Agrees (f v) u) : Agrees (o >>= f) u := by
  intro w hw
  obtain ⟨a, ha, hfa⟩ := Option.bind_eq_some_iff.1 hw
  exact hf w (ho a ha ▸ hfa)

theorem Agrees.map {o : Option β} {v : β} (ho : Agrees o v) (f : β → γ) :
    Agrees (o.map f) (f v) := by
  intro w hw
  obtain ⟨a, ha, rfl⟩ := Option.map_eq_some_iff.1 hw
  rw [ho a ha]

theorem Agrees.ite {c : Prop} [Decidable c] {o o' : Option β} {v v' : β}
    (h : Agrees o v) (h' : Agrees o' v') : Agrees (if c then o else o') (if c then v else v') := by
  split
  · exact h
  · exact h'

theorem Agrees.foldlM {g : α → β → Option α} {g' : α → β → α}
    (hg : ∀ r p, Agrees (g r p) (g' r p)) (l : List β) (a : α) :
    Agrees (l.foldlM g a) (l.foldl g' a) := by
  induction l generalizing a with
  | nil => exact .some a
  | cons b t ih =>
    rw [List.foldlM_cons, List.foldl_cons]
    exact (hg a b).bind (ih _)

end Option

section Generic
variable {α : Type} [RArith α]
open RArith

theorem safeSqrt_some {a : α} (h : 0 ≤ a) : safeSqrt a = some (Arith.sqrt a) := if_pos h

theorem safeDiv_some (a : α) {b : α} (h : (b == 0) = false) : safeDiv a b = some (a / b) :=
  if_neg (ne_true_of_eq_false h)

theorem safeLog_some {a : α} (h : 0 < a) : safeLog a = some (Arith.log a) := if_pos h

theorem safeArccos_some {a : α} (h : -1 ≤ a ∧ a ≤ 1) : safeArccos a = some (Arith.arccos a) :=
  if_pos h

theorem safeArcsin_some {a : α} (h : -1 ≤ a ∧ a ≤ 1) : safeArcsin a = some (Trig.arcsin a) :=
  if_pos h

theorem agrees_safeSqrt (a : α) : Agrees (safeSqrt a) (Arith.sqrt a) := .guard _

theorem agrees_safeDiv (a b : α) : Agrees (safeDiv a b) (a / b) := by
  unfold safeDiv; split
  · exact .none
  · exact .some _

theorem agrees_safeLog (a : α) : Agrees (safeLog a) (Arith.log a) := .guard _

theorem agrees_safeArccos (a : α) : Agrees (safeArccos a) (Arith.arccos a) := .guard _

theorem agrees_safeArcsin (a : α) : Agrees (safeArcsin a) (Trig.arcsin a) := .guard _

theorem neg_one_le_one : (-1 : α) ≤ 1 := le_trans neg_one_le_zero zero_le_one

theorem foldl_nonnegG {β : Type} (g : β → α) (l : List β) (a : α) (ha : 0 ≤ a)
    (hg : ∀ p ∈ l, 0 ≤ g p) : 0 ≤ l.foldl (fun r p => r + g p) a := by
  induction l generalizing a with
  | nil => exact ha
  | cons b t ih =>
    rw [List.foldl_cons]
    exact ih _ (add_nonneg ha (hg b (List.mem_cons_self))) (fun p hp => hg p (List.mem_cons_of_mem _ hp))

theorem sum1_nonnegG (f : α → α) (x : List α) (hf : ∀ v ∈ x, 0 ≤ f v) : 0 ≤ sum1 f x :=
  foldl_nonnegG f x 0 (le_refl 0) hf

theorem sumBy_nonnegG (f : α → α → α) (x y : List α) (hf : ∀ p ∈ x.zip y, 0 ≤ f p.1 p.2) :
    0 ≤ sumBy f x y :=
  foldl_nonnegG (fun p : α × α => f p.1 p.2) (x.zip y) 0 (le_refl 0) hf

theorem normSq_nonnegG (x : List α) : 0 ≤ normSq x := sum1_nonnegG _ x (fun v _ => mul_self_nonneg v)

theorem l1_nonnegG {x : List α} (hx : ∀ a ∈ x, 0 ≤ a) : 0 ≤ l1 x := sum1_nonnegG _ x hx

theorem sumByG_ne_none {f : α → α → Option α} {x y : List α}
    (hf : ∀ p ∈ x.zip y, f p.1 p.2 ≠ none) : sumByG f x y ≠ none :=
  foldlM_ne_none _ (fun _ p hp =>
    have ⟨_, hv⟩ := Option.ne_none_iff_exists'.1 (hf p hp)
    map_ne_none hv _) 0

/-- `min(max(c, -1.0), 1.0)` is in `[-1, 1]` for every `c`, by the order axioms alone -/
theorem clampCos_memG (c : α) : (-1 : α) ≤ clampCos c ∧ clampCos c ≤ 1 :=
  ⟨le_min (le_max_right _ _) neg_one_le_one, min_le_right _ _⟩

theorem min_one_memG {r : α} (h : 0 ≤ r) : (-1 : α) ≤ Arith.min r 1 ∧ Arith.min r 1 ≤ 1 :=
  ⟨le_min (le_trans neg_one_le_zero h) neg_one_le_one, min_le_right _ _⟩

/-- guard on the factors, division by `sqrt` of the product: positive when nothing underflows -/
theorem mul_nonneg_sqrt_pos {α : Type} [RArithNU α] {a b : α} (ha0 : 0 ≤ a) (hb0 : 0 ≤ b)
    (ha : (a == 0) = false) (hb : (b == 0) = false) :
    0 ≤ a * b ∧ 0 < Arith.sqrt (a * b) := by
  have h := RArithNU.mul_pos (pos_of_nonneg_of_ne ha0 ha) (pos_of_nonneg_of_ne hb0 hb)
  exact ⟨le_of_lt h, sqrt_pos h⟩

/-- the same behind the kernels' own test `a == 0 || b == 0` -/
theorem mul_nonneg_sqrt_pos_of_guard {α : Type} [RArithNU α] {a b : α} (ha0 : 0 ≤ a) (hb0 : 0 ≤ b)
    (h : ¬ ((a == 0 || b == 0) = true)) : 0 ≤ a * b ∧ 0 < Arith.sqrt (a * b) :=
  mul_nonneg_sqrt_pos ha0 hb0 (Bool.eq_false_iff.2 fun ha => h (by rw [ha, Bool.true_or]))
    (Bool.eq_false_iff.2 fun hb => h (by rw [hb, Bool.or_true]))

end Generic

/-! ### the guarded kernels compute the same value as the plain ones -/
section Agree
variable {α : Type} [RArith α]

theorem agrees_sumByG {f : α → α → Option α} {f' : α → α → α} (hf : ∀ a b, Agrees (f a b) (f' a b))
    (x y : List α) : Agrees (sumByG f x y) (sumBy f' x y) :=
  .foldlM (g' := fun r (p : α × α) => r + f' p.1 p.2) (fun r p => (hf p.1 p.2).map (r + ·)) (x.zip y) 0

theorem agrees_hellingerG (x y : List α) : Agrees (hellingerG x y) (hellinger x y) :=
  (agrees_sumByG (fun _ _ => agrees_safeSqrt _) x y).bind (.ite (.some _) (.ite (.some _)
    ((agrees_safeSqrt _).bind ((agrees_safeDiv _ _).bind (agrees_safeSqrt _)))))

theorem agrees_correctAlternativeHellingerG (d : α) :
    Agrees (correctAlternativeHellingerG d) (correctAlternativeHellinger d) := agrees_safeSqrt _

theorem agrees_cosineG (x y : List α) : Agrees (cosineG x y) (cosine x y) :=
  .ite (.some _) (.ite (.some _) ((agrees_safeSqrt _).bind ((agrees_safeDiv _ _).bind (.some _))))

theorem agrees_trueAngularG (x y : List α) : Agrees (trueAngularG x y) (trueAngular x y) :=
  .ite (.some _) (.ite (.some _) (.ite (.some _) ((agrees_safeSqrt _).bind ((agrees_safeDiv _ _).bind
    ((agrees_safeArccos _).bind ((agrees_safeDiv _ _).bind (.some _)))))))

theorem agrees_correlationG (x y : List α) : Agrees (correlationG x y) (correlation x y) :=
  (agrees_safeDiv _ _).bind ((agrees_safeDiv _ _).bind
    (.ite (.some _) (.ite (.some _) ((agrees_safeSqrt _).bind ((agrees_safeDiv _ _).bind (.some _))))))

theorem agrees_tsssG (x y : List α) : Agrees (tsssG x y) (tsss x y) :=
  (agrees_safeSqrt _).bind ((agrees_safeSqrt _).bind ((agrees_safeDiv _ _).bind
    ((agrees_safeArccos _).bind ((agrees_safeSqrt _).bind ((agrees_safeDiv _ _).bind (.some _))))))

theorem agrees_haversineG (x0 x1 y0 y1 : α) : Agrees (haversineG x0 x1 y0 y1) (haversineCore x0 x1 y0 y1) :=
  (agrees_safeSqrt _).bind ((agrees_safeArcsin _).bind (.some _))

theorem agrees_canberraG (x y : List α) : Agrees (canberraG x y) (canberra x y) :=
  .foldlM (fun _ _ => .ite ((agrees_safeDiv _ _).map _) (.some _)) _ _

theorem agrees_brayCurtisG (x y : List α) : Agrees (brayCurtisG x y) (brayCurtis x y) :=
  .ite (agrees_safeDiv _ _) (.some _)

theorem agrees_bitJaccardOfCountsG (r d : α) : Agrees (bitJaccardOfCountsG r d) (bitJaccardOfCounts r d) :=
  .ite (.some _) ((agrees_safeDiv _ _).bind ((agrees_safeLog _).bind (.some _)))

end Agree

/-! ### a cooked-up `RArithNU` carrier

Why `div := ediv + 1`, `sqrt := id`, `sin = cos = 1` is said at the examples of
`Props/C07bGuarded.lean`, which evaluate the kernels without their clamps on `cookedRArith`;
`cookedRArithNU` records that the carrier satisfies the no-underflow axioms as well.  They are
`@[reducible] def`s, not instances: `Int` gets no global `Arith` instance, the examples name the carrier
explicitly, and `decide` has to unfold it. -/

@[reducible] def cookedArith : Arith Int where
  zero := 0
  one := 1
  add := Int.add
  sub := Int.sub
  mul := Int.mul
  div := fun a b => Int.ediv a b + 1
  neg := Int.neg
  lt := Int.lt
  le := Int.le
  beq := fun a b => decide (a = b)
  decLt := fun a b => inferInstanceAs (Decidable (a < b))
  decLe := fun a b => inferInstanceAs (Decidable (a ≤ b))
  abs := fun a => (Int.natAbs a : Int)
  max := max
  min := min
  ofNat := fun n => (n : Int)
  sqrt := fun a => a
  log2 := fun _ => 0
  log := fun _ => 0
  pow := fun _ _ => 1
  arccos := fun _ => 0
  pi := 3
  f32max := 340282346638528859811704183484516925440

@[reducible] def cookedTrig : Trig Int where
  sin := fun _ => 1
  cos := fun _ => 1
  arcsin := fun _ => 0

@[reducible] def cookedRArith : RArith Int where
  toArith := cookedArith
  toTrig := cookedTrig
  le_refl := Int.le_refl
  le_trans := Int.le_trans
  lt_of_not_le := Int.not_le.1
  le_of_lt := Int.le_of_lt
  pos_ne_zero := fun h => decide_eq_false (Int.ne_of_gt h)
  pos_of_nonneg_of_ne := fun h0 h => Int.lt_iff_le_and_ne.2 ⟨h0, Ne.symm (of_decide_eq_false h)⟩
  zero_le_one := by decide
  neg_one_le_zero := by decide
  pi_pos := by decide
  ofNat_pos := Int.natCast_pos.2
  add_nonneg := Int.add_nonneg
  mul_nonneg := Int.mul_nonneg
  mul_self_nonneg := fun a => (Int.le_total 0 a).elim (fun h => Int.mul_nonneg h h)
    fun h => Int.mul_nonneg_of_nonpos_of_nonpos h h
  div_nonneg := fun h1 h2 => Int.add_nonneg (Int.ediv_nonneg h1 (Int.le_of_lt h2)) (by decide)
  abs_nonneg := fun a => Int.natCast_nonneg a.natAbs
  sqrt_nonneg := fun h => h
  sqrt_pos := fun h => h
  le_max_left := Int.le_max_left
  le_max_right := Int.le_max_right
  min_le_left := Int.min_le_left
  min_le_right := Int.min_le_right
  le_min := fun h1 h2 => Int.le_min.2 ⟨h1, h2⟩

-- the `have h1' : (0 : Int) < a := h1` lines restate a hypothesis about the cooked `<` as one about `Int`'s
@[reducible] def cookedRArithNU : RArithNU Int where
  toRArith := cookedRArith
  mul_pos := fun {a b} h1 h2 => Int.mul_pos h1 h2
  div_pos := fun {a b} h1 h2 => by
    have h1' : (0 : Int) < a := h1
    have h2' : (0 : Int) < b := h2
    have := Int.ediv_nonneg (Int.le_of_lt h1') (Int.le_of_lt h2')
    show (0 : Int) < a / b + 1
    omega

end Pynn.Metrics
