import PynnVerif.Proofs.Sparse

/-! # Index-array kernels: `fast_intersection_size`, `arr_union`, `arr_intersect`, and the counts
the binary metrics take from the index arrays of two encodings (helpers for C08) -/
namespace Pynn.Sparse

/-- strictly increasing, first element at least `lo`.  (`SortedFrom` of the model, on an index
list: the lower bound is what the induction along a two-pointer loop moves; the sort-based
kernels have no such bound and are stated with `List.Pairwise (· < ·)`, see `IncFrom.pairwise`.) -/
def IncFrom (lo : Nat) : List Nat → Prop
  | [] => True
  | i :: t => lo ≤ i ∧ IncFrom (i + 1) t

theorem IncFrom.mono {lo lo' : Nat} {l : List Nat} (h : IncFrom lo l) (hl : lo' ≤ lo) : IncFrom lo' l := by
  cases l with
  | nil => trivial
  | cons i t => exact ⟨Nat.le_trans hl h.1, h.2⟩

theorem IncFrom.lb {lo : Nat} {l : List Nat} (h : IncFrom lo l) : ∀ x ∈ l, lo ≤ x := by
  induction l generalizing lo with
  | nil => intro x hx; cases hx
  | cons i t ih =>
    intro x hx
    rcases List.mem_cons.1 hx with rfl | hx
    · exact h.1
    · exact Nat.le_trans h.1 (Nat.le_of_succ_le (ih h.2 x hx))

theorem IncFrom.pairwise {lo : Nat} {l : List Nat} (h : IncFrom lo l) : l.Pairwise (· < ·) := by
  induction l generalizing lo with
  | nil => exact List.Pairwise.nil
  | cons i t ih =>
    exact List.Pairwise.cons (fun x hx => h.2.lb x hx) (ih h.2)

theorem incFrom_of_pairwise {lo : Nat} {l : List Nat} (hp : l.Pairwise (· < ·)) (hl : ∀ x ∈ l, lo ≤ x) :
    IncFrom lo l := by
  induction l generalizing lo with
  | nil => trivial
  | cons i t ih =>
    rw [List.pairwise_cons] at hp
    exact ⟨hl i (List.mem_cons_self ..), ih hp.2 (fun x hx => hp.1 x hx)⟩

theorem IncFrom.nodup {lo : Nat} {l : List Nat} (h : IncFrom lo l) : l.Nodup :=
  h.pairwise.imp (fun hlt => Nat.ne_of_lt hlt)

theorem sortedFrom_iff_incFrom {α : Type} {lo : Nat} {a : SVec α} :
    SortedFrom lo a ↔ IncFrom lo (inds a) := by
  induction a generalizing lo with
  | nil => exact Iff.rfl
  | cons p t ih => exact and_congr Iff.rfl ih

theorem incFrom_inds {α : Type} {lo : Nat} {a : SVec α} (h : SortedFrom lo a) : IncFrom lo (inds a) :=
  sortedFrom_iff_incFrom.1 h

/-- `Sorted` says: the index array is strictly increasing -/
theorem sorted_iff_pairwise {α : Type} (a : SVec α) : Sorted a ↔ (inds a).Pairwise (· < ·) :=
  ⟨fun h => (incFrom_inds h).pairwise,
   fun h => sortedFrom_iff_incFrom.2 (incFrom_of_pairwise h (fun _ _ => Nat.zero_le _))⟩

theorem filter_mem_nil (a : List Nat) : a.filter (· ∈ ([] : List Nat)) = [] :=
  List.filter_eq_nil_iff.2 (by simp)

theorem filter_mem_cons_self (j : Nat) (a b : List Nat) :
    (j :: a).filter (· ∈ j :: b) = j :: a.filter (· ∈ j :: b) :=
  List.filter_cons_of_pos (decide_eq_true (List.mem_cons_self ..))

theorem filter_mem_cons_of_not_mem {j : Nat} (a : List Nat) {b : List Nat} (h : j ∉ b) :
    (j :: a).filter (· ∈ b) = a.filter (· ∈ b) :=
  List.filter_cons_of_neg (fun hd => h (of_decide_eq_true hd))

/-- an element below everything in `a` does not matter to which of `a` occur in `j :: b` -/
theorem filter_mem_cons_of_lt {j : Nat} {a : List Nat} (b : List Nat) (h : ∀ x ∈ a, j < x) :
    a.filter (· ∈ j :: b) = a.filter (· ∈ b) := by
  apply List.filter_congr
  intro x hx
  simp only [List.mem_cons, Nat.ne_of_gt (h x hx), false_or]

theorem not_mem_of_lt {j : Nat} {b : List Nat} {lo : Nat} (hb : IncFrom lo b) (h : j < lo) : j ∉ b :=
  fun hm => Nat.lt_irrefl _ (Nat.lt_of_lt_of_le h (hb.lb j hm))

theorem isectLoop_eq (r : Nat) (a b : List Nat) :
    ∀ lo, IncFrom lo a → IncFrom lo b → isectLoop r a b = r + (a.filter (· ∈ b)).length := by
  fun_induction isectLoop r a b with
  | case1 r a j b r1 hA =>
    intro lo _ _
    obtain rfl : a = [] := List.isEmpty_iff.1 hA
    rw [filter_mem_cons_self]; rfl
  | case2 r a j b r1 hA hB =>
    intro lo ha _
    obtain rfl : b = [] := List.isEmpty_iff.1 hB
    rw [filter_mem_cons_self, filter_mem_cons_of_lt [] ha.2.lb, filter_mem_nil]; rfl
  | case3 r a j b r1 hA hB ih =>
    intro lo ha hb
    rw [ih (j + 1) ha.2 hb.2, filter_mem_cons_self, filter_mem_cons_of_lt b ha.2.lb,
      List.length_cons, Nat.add_assoc, Nat.add_comm 1]
  | case4 r j1 a j2 b hne hlt ih =>
    intro lo ha hb
    have hb' : IncFrom (j1 + 1) (j2 :: b) := ⟨hlt.1, hb.2⟩
    rw [ih (j1 + 1) ha.2 hb', filter_mem_cons_of_not_mem a (not_mem_of_lt hb' (Nat.lt_succ_self _))]
  | case5 r j1 a j2 b hne h1 h2 ih =>
    intro lo ha hb
    have ha' : IncFrom (j2 + 1) (j1 :: a) := ⟨h2.1, ha.2⟩
    rw [ih (j2 + 1) ha' hb.2, filter_mem_cons_of_lt b ha'.lb]
  | case6 r j1 a j2 b hne h1 h2 =>
    intro lo ha hb
    -- the loop stops: the smaller head is the last element of its array, so nothing is common
    rcases Nat.lt_or_gt_of_ne hne with hlt | hgt
    · obtain rfl : a = [] := by
        cases a with
        | nil => rfl
        | cons _ _ => exact (h1 ⟨hlt, by simp⟩).elim
      have hb' : IncFrom (j1 + 1) (j2 :: b) := ⟨hlt, hb.2⟩
      rw [filter_mem_cons_of_not_mem [] (not_mem_of_lt hb' (Nat.lt_succ_self _))]; rfl
    · obtain rfl : b = [] := by
        cases b with
        | nil => rfl
        | cons _ _ => exact (h2 ⟨hgt, by simp⟩).elim
      have ha' : IncFrom (j2 + 1) (j1 :: a) := ⟨hgt, ha.2⟩
      rw [filter_mem_cons_of_lt [] ha'.lb, filter_mem_nil]; rfl
  | case7 r a b hx =>
    intro lo _ _
    cases a with
    | nil => simp
    | cons p a =>
      cases b with
      | nil => simp
      | cons q b => exact (hx _ _ _ _ rfl rfl).elim

/-- `fast_intersection_size` on strictly increasing arrays counts the common elements -/
theorem intersectionSize_eq {lo : Nat} {a b : List Nat} (ha : IncFrom lo a) (hb : IncFrom lo b) :
    intersectionSize a b = (a.filter (· ∈ b)).length := by
  unfold intersectionSize
  split
  · rename_i h
    rcases h with h | h
    · rw [List.isEmpty_iff.1 h]; rfl
    · rw [List.isEmpty_iff.1 h, filter_mem_nil]; rfl
  · rw [isectLoop_eq 0 a b lo ha hb, Nat.zero_add]

theorem insertSorted_perm (x : Nat) (l : List Nat) : (insertSorted x l).Perm (x :: l) := by
  induction l with
  | nil => exact List.Perm.refl _
  | cons y t ih =>
    unfold insertSorted; split
    · exact List.Perm.refl _
    · exact (List.Perm.cons y ih).trans (List.Perm.swap x y t)

theorem sortNat_perm (l : List Nat) : (sortNat l).Perm l := by
  induction l with
  | nil => exact List.Perm.refl _
  | cons x t ih => exact (insertSorted_perm x _).trans (List.Perm.cons x ih)

theorem insertSorted_sorted (x : Nat) (l : List Nat) (h : l.Pairwise (· ≤ ·)) :
    (insertSorted x l).Pairwise (· ≤ ·) := by
  induction l with
  | nil => exact List.pairwise_singleton _ _
  | cons y t ih =>
    obtain ⟨h1, h2⟩ := List.pairwise_cons.1 h
    unfold insertSorted; split
    · rename_i hxy
      refine List.Pairwise.cons (fun w hw => ?_) h
      rcases List.mem_cons.1 hw with rfl | hw
      · exact hxy
      · exact Nat.le_trans hxy (h1 w hw)
    · rename_i hxy
      refine List.Pairwise.cons (fun w hw => ?_) (ih h2)
      rcases List.mem_cons.1 ((insertSorted_perm x t).mem_iff.1 hw) with rfl | hw
      · exact Nat.le_of_not_le hxy
      · exact h1 w hw

theorem sortNat_sorted (l : List Nat) : (sortNat l).Pairwise (· ≤ ·) := by
  induction l with
  | nil => exact List.Pairwise.nil
  | cons x t ih => exact insertSorted_sorted x _ ih

theorem mem_uniqAdj (l : List Nat) (x : Nat) : x ∈ uniqAdj l ↔ x ∈ l := by
  fun_induction uniqAdj l with
  | case1 => rfl
  | case2 y => rfl
  | case3 y t ih => rw [ih]; simp
  | case4 y z t hne ih => rw [List.mem_cons, ih, List.mem_cons (a := x) (b := y)]

theorem uniqAdj_inc (l : List Nat) : l.Pairwise (· ≤ ·) → (uniqAdj l).Pairwise (· < ·) := by
  fun_induction uniqAdj l with
  | case1 => intro _; exact List.Pairwise.nil
  | case2 y => intro _; exact List.pairwise_singleton _ _
  | case3 y t ih => intro h; exact ih (List.pairwise_cons.1 h).2
  | case4 y z t hne ih =>
    intro h
    obtain ⟨h1, h2⟩ := List.pairwise_cons.1 h
    refine List.Pairwise.cons (fun w hw => ?_) (ih h2)
    rw [mem_uniqAdj] at hw
    have hyz : y ≤ z := h1 z (List.mem_cons_self ..)
    have hzw : z ≤ w := by
      rcases List.mem_cons.1 hw with rfl | hw
      · exact Nat.le_refl _
      · exact (List.pairwise_cons.1 h2).1 w hw
    exact Nat.lt_of_lt_of_le (Nat.lt_of_le_of_ne hyz hne) hzw

/-- `arr_unique` returns the distinct elements in increasing order -/
theorem arrUnique_spec (l : List Nat) :
    (arrUnique l).Pairwise (· < ·) ∧ ∀ x, x ∈ arrUnique l ↔ x ∈ l := by
  refine ⟨uniqAdj_inc _ (sortNat_sorted l), fun x => ?_⟩
  unfold arrUnique
  rw [mem_uniqAdj, (sortNat_perm l).mem_iff]

/-- `arr_union` of two strictly increasing arrays: strictly increasing, and exactly the union -/
theorem arrUnion_spec {a b : List Nat} (ha : a.Pairwise (· < ·)) (hb : b.Pairwise (· < ·)) :
    (arrUnion a b).Pairwise (· < ·) ∧ ∀ x, x ∈ arrUnion a b ↔ x ∈ a ∨ x ∈ b := by
  unfold arrUnion
  split
  · rename_i h; rw [List.isEmpty_iff.1 h]; exact ⟨hb, by simp⟩
  · split
    · rename_i h; rw [List.isEmpty_iff.1 h]; exact ⟨ha, by simp⟩
    · exact ⟨(arrUnique_spec _).1, fun x => by rw [(arrUnique_spec _).2, List.mem_append]⟩

/-- the two neighbour masks split the array: an element equal to its successor goes to `dupAdj`,
any other to `uniqAdj` -/
theorem uniqAdj_append_dupAdj_perm (l : List Nat) : (uniqAdj l ++ dupAdj l).Perm l := by
  fun_induction uniqAdj l with
  | case1 => exact List.Perm.refl _
  | case2 x => exact List.Perm.refl _
  | case3 x t ih =>
    rw [dupAdj, if_pos rfl]
    exact List.perm_middle.trans (ih.cons x)
  | case4 x y t hne ih =>
    rw [dupAdj, if_neg (fun e => hne e.symm)]
    exact ih.cons x

theorem length_uniqAdj_add_dupAdj (l : List Nat) :
    (uniqAdj l).length + (dupAdj l).length = l.length := by
  rw [← List.length_append, (uniqAdj_append_dupAdj_perm l).length_eq]

/-- in a sorted list, an element occurs among the "equal to the successor" ones one time less
than in the list -/
theorem count_dupAdj (l : List Nat) (x : Nat) (h : l.Pairwise (· ≤ ·)) :
    (dupAdj l).count x = l.count x - 1 := by
  have hp := (uniqAdj_append_dupAdj_perm l).count_eq x
  rw [List.count_append] at hp
  -- `x` occurs in `uniqAdj l` once if it occurs in `l`, else not at all
  have h1 := List.nodup_iff_count.1 ((uniqAdj_inc l h).imp Nat.ne_of_lt) x
  have h2 := List.count_pos_iff.trans (mem_uniqAdj l x) |>.trans List.count_pos_iff.symm
  omega

theorem dupAdj_sublist (l : List Nat) : (dupAdj l).Sublist l := by
  fun_induction dupAdj l with
  | case1 z t ih => exact ih.cons_cons _
  | case2 y z t hne ih => exact ih.cons _
  | case3 l hl => exact List.nil_sublist _

/-- `arr_intersect` of two strictly increasing arrays: strictly increasing, and exactly the
common elements -/
theorem arrIntersect_spec {a b : List Nat} (ha : a.Pairwise (· < ·)) (hb : b.Pairwise (· < ·)) :
    (arrIntersect a b).Pairwise (· < ·) ∧ ∀ x, x ∈ arrIntersect a b ↔ x ∈ a ∧ x ∈ b := by
  have hna : a.Nodup := ha.imp (fun h => Nat.ne_of_lt h)
  have hnb : b.Nodup := hb.imp (fun h => Nat.ne_of_lt h)
  have hs := sortNat_sorted (a ++ b)
  have hcount : ∀ x, (arrIntersect a b).count x = a.count x + b.count x - 1 := by
    intro x
    unfold arrIntersect
    rw [count_dupAdj _ x hs, (sortNat_perm _).count_eq, List.count_append]
  have hle : ∀ x, a.count x ≤ 1 ∧ b.count x ≤ 1 := fun x =>
    ⟨List.nodup_iff_count.1 hna x, List.nodup_iff_count.1 hnb x⟩
  have hmem : ∀ x, x ∈ arrIntersect a b ↔ x ∈ a ∧ x ∈ b := by
    intro x
    rw [← List.count_pos_iff, hcount, ← List.count_pos_iff, ← List.count_pos_iff]
    have := hle x; omega
  refine ⟨?_, hmem⟩
  -- sorted (sublist of a sorted list) and without repetition
  have hsub : (arrIntersect a b).Pairwise (· ≤ ·) := hs.sublist (dupAdj_sublist _)
  have hnd : (arrIntersect a b).Nodup := by
    rw [List.nodup_iff_count]
    intro x; rw [hcount]; have := hle x; omega
  have := hsub.and hnd
  exact this.imp (fun ⟨h1, h2⟩ => Nat.lt_of_le_of_ne h1 h2)

/-- `|arr_union| + |common| = nnz1 + nnz2` on strictly increasing index arrays -/
theorem arrUnion_length {a b : List Nat} (ha : a.Pairwise (· < ·)) (hb : b.Pairwise (· < ·)) :
    (arrUnion a b).length + (a.filter (· ∈ b)).length = a.length + b.length := by
  -- the common elements, counted in `a` or as `arr_intersect` finds them
  have hI := arrIntersect_spec ha hb
  have hc : (a.filter (· ∈ b)).length = (arrIntersect a b).length :=
    ((List.perm_ext_iff_of_nodup ((ha.imp Nat.ne_of_lt).filter _) (hI.1.imp Nat.ne_of_lt)).2
      (fun i => by rw [hI.2, List.mem_filter, decide_eq_true_eq])).length_eq
  unfold arrUnion
  split
  · rename_i h; rw [List.isEmpty_iff.1 h]; exact (Nat.zero_add _).symm
  · split
    · rename_i h; rw [List.isEmpty_iff.1 h, filter_mem_nil]
    · rw [hc, arrUnique, arrIntersect, length_uniqAdj_add_dupAdj, (sortNat_perm _).length_eq,
        List.length_append]

/-! ### the counts of the binary metrics, through the index arrays of two encodings -/
section Counts
variable {α : Type}
variable [DecidableEq α] [Zero α]

/-- one coordinate of two encodings: `k` is a common index iff both values are stored -/
theorem isect_keep_keep {k : Nat} (u v : α) {A B : SVec α} (hA : SortedFrom (k + 1) A)
    (hB : SortedFrom (k + 1) B) :
    ((inds (keep k u A)).filter (· ∈ inds (keep k v B))).length
      = ((inds A).filter (· ∈ inds B)).length + if u ≠ 0 ∧ v ≠ 0 then 1 else 0 := by
  have hkA : ∀ i ∈ inds A, k < i := (incFrom_inds hA).lb
  have hkB : k ∉ inds B := not_mem_of_lt (incFrom_inds hB) (Nat.lt_succ_self k)
  unfold keep
  by_cases hu : u = 0
  · rw [if_pos hu, if_neg (show ¬(u ≠ 0 ∧ v ≠ 0) from fun h => h.1 hu)]
    by_cases hv : v = 0
    · rw [if_pos hv]; rfl
    · rw [if_neg hv]; exact congrArg _ (filter_mem_cons_of_lt _ hkA)
  · rw [if_neg hu]
    by_cases hv : v = 0
    · rw [if_pos hv, if_neg (show ¬(u ≠ 0 ∧ v ≠ 0) from fun h => h.2 hv)]
      exact congrArg _ (filter_mem_cons_of_not_mem _ hkB)
    · rw [if_neg hv, if_pos ⟨hu, hv⟩]
      exact congrArg _ ((filter_mem_cons_self k _ _).trans (congrArg _ (filter_mem_cons_of_lt _ hkA)))

theorem isect_count_encFrom (k : Nat) (x y : List α) (h : x.length = y.length) :
    ((inds (encFrom k x)).filter (· ∈ inds (encFrom k y))).length
      = (x.zip y).countP (fun p => p.1 ≠ 0 ∧ p.2 ≠ 0) := by
  induction x generalizing y k with
  | nil => rfl
  | cons u s ih =>
    cases y with
    | nil => cases h
    | cons v t =>
      rw [encFrom, encFrom, isect_keep_keep u v (sortedFrom_encFrom _ s) (sortedFrom_encFrom _ t),
        ih (k + 1) t (Nat.succ.inj h), List.zip_cons_cons, List.countP_cons]
      simp only [decide_eq_true_eq]

/-- `nnz₁ + nnz₂` counts the coordinates stored in at least one row, and once more those stored
in both -/
theorem countP_ne_zero_add (x y : List α) (h : x.length = y.length) :
    x.countP (· ≠ 0) + y.countP (· ≠ 0)
      = (x.zip y).countP (fun p => p.1 ≠ 0 ∨ p.2 ≠ 0)
        + (x.zip y).countP (fun p => p.1 ≠ 0 ∧ p.2 ≠ 0) := by
  simp only [Bool.decide_or, Bool.decide_and]
  rw [countP_or_add_and (fun p : α × α => decide (p.1 ≠ 0)) (fun p => decide (p.2 ≠ 0)),
    countP_zip_fst (fun u => decide (u ≠ 0)) x y h, countP_zip_snd (fun u => decide (u ≠ 0)) x y h]

/-- the coordinates stored in exactly one row and those stored in both make up those stored in at
least one -/
theorem countP_ne_zero_xor_add_and (l : List (α × α)) :
    l.countP (fun p => decide (p.1 ≠ 0) != decide (p.2 ≠ 0)) + l.countP (fun p => p.1 ≠ 0 ∧ p.2 ≠ 0)
      = l.countP (fun p => p.1 ≠ 0 ∨ p.2 ≠ 0) := by
  simp only [Bool.decide_or, Bool.decide_and]
  exact countP_xor_add_and (fun p : α × α => decide (p.1 ≠ 0)) (fun p => decide (p.2 ≠ 0)) l

theorem numTrueTrue_enc (x y : List α) (h : x.length = y.length) :
    numTrueTrue (enc x) (enc y) = Dense.numTrueTrue x y := by
  unfold numTrueTrue Dense.numTrueTrue
  rw [intersectionSize_eq (incFrom_inds (sortedFrom_enc x)) (incFrom_inds (sortedFrom_enc y))]
  exact congrArg _ (isect_count_encFrom 0 x y h)

theorem numNonZero_enc (x y : List α) (h : x.length = y.length) :
    numNonZero (enc x) (enc y) = Dense.numNonZero x y := by
  unfold numNonZero
  rw [numTrueTrue_enc x y h]
  unfold Dense.numTrueTrue Dense.numNonZero
  rw [length_enc, length_enc]
  have := countP_ne_zero_add x y h
  omega

theorem numNotEqual_enc (x y : List α) (h : x.length = y.length) :
    numNotEqual (enc x) (enc y) = Dense.numNotEqual x y := by
  unfold numNotEqual
  rw [numNonZero_enc x y h, numTrueTrue_enc x y h]
  unfold Dense.numTrueTrue Dense.numNonZero Dense.numNotEqual
  have := countP_ne_zero_xor_add_and (x.zip y)
  omega

theorem countP_vals_enc (x : List α) : ((vals (enc x)).countP (· ≠ 0)) = x.countP (· ≠ 0) := by
  have hz := noZero_enc x
  have : (vals (enc x)).countP (· ≠ 0) = (vals (enc x)).length := by
    rw [List.countP_eq_length]
    intro v hv
    obtain ⟨p, hp, rfl⟩ := List.mem_map.1 hv
    simpa using hz p hp
  rw [this, vals, List.length_map, length_enc]

end Counts

end Pynn.Sparse
