import PynnVerif.Model.RPTree
/-!
# Lemmas about the random-projection tree model (`Model/RPTree.lean`)

Core Lean only (no Mathlib).  This file also holds the definitions that the statements of
`Props/C14.lean` use beside the model's: `Tiles`, `flatRows`, `postChildren`, `postIndices`, `leafRowsOf`.
`Laid` (the layout predicate that routing is proved over), `padRow` and `fillRow` serve the proofs only.
-/
namespace Pynn.RP

/-! ### trees -/
theorem Tree.numNodes_pos (t : Tree) : 0 < t.numNodes := by cases t <;> simp [Tree.numNodes]

/-- the rows of a node: its own, those of the left subtree, those of the right subtree -/
theorem Tree.add_numNodes_node (k : Nat) (l r : Tree) :
    k + (Tree.node l r).numNodes = k + 1 + l.numNodes + r.numNodes := by
  rw [Tree.numNodes, Nat.add_assoc k 1, Nat.add_assoc k, Nat.add_comm 1, Nat.add_right_comm]

theorem Tree.length_flatten_leaves (t : Tree) : t.leaves.flatten.length = t.size := by
  induction t with
  | leaf idx => simp [Tree.leaves, Tree.size]
  | node l r ihl ihr => simp [Tree.leaves, Tree.size, ihl, ihr]

theorem Tree.depth_lt_numNodes (t : Tree) : t.depth < t.numNodes := by
  induction t with
  | leaf idx => exact Nat.one_pos
  | node l r ihl ihr => exact Nat.succ_lt_succ (Nat.max_lt.mpr ⟨Nat.lt_add_right _ ihl, Nat.lt_add_left _ ihr⟩)

theorem Tree.numNodes_le_pow (t : Tree) : t.numNodes + 1 ≤ 2 ^ (t.depth + 1) := by
  induction t with
  | leaf idx => exact Nat.le_refl 2
  | node l r ihl ihr =>
    have h1 := Nat.le_trans ihl (Nat.pow_le_pow_right Nat.two_pos (Nat.succ_le_succ (Nat.le_max_left l.depth r.depth)))
    have h2 := Nat.le_trans ihr (Nat.pow_le_pow_right Nat.two_pos (Nat.succ_le_succ (Nat.le_max_right l.depth r.depth)))
    rw [Tree.numNodes, Tree.depth, Nat.pow_succ, Nat.mul_two, Nat.add_assoc, Nat.add_add_add_comm]
    exact Nat.add_le_add h1 h2

theorem Tree.map_snd_leavesAt (t : Tree) (k : Nat) : (t.leavesAt k).map Prod.snd = t.leaves := by
  induction t generalizing k with
  | leaf idx => rfl
  | node l r ihl ihr => simp [Tree.leavesAt, Tree.leaves, ihl, ihr]

/-! ### construction -/
theorem splitBy_perm (s : Nat → Bool) (idx : List Int) :
    ((splitBy s idx).1 ++ (splitBy s idx).2).Perm idx := by
  unfold splitBy
  simp only [← List.map_append]
  have h := (List.perm_append_comm.trans
    (List.filter_append_perm (fun p : Int × Nat => s p.2) idx.zipIdx)).map Prod.fst
  simpa using h

theorem buildTree_leaves_perm (o : Oracle) (leafSize : Nat) (d : Nat) (path : List Bool) (idx : List Int) :
    (buildTree o leafSize d path idx).leaves.flatten.Perm idx := by
  fun_induction buildTree o leafSize d path idx with
  | case1 => simp [Tree.leaves]
  | case2 d path idx h sp ih1 ih2 =>
    simp only [Tree.leaves, List.flatten_append]
    exact (ih1.append ih2).trans (splitBy_perm _ _)
  | case3 => simp [Tree.leaves]

theorem buildTree_leavesAt (o : Oracle) (leafSize d : Nat) (path : List Bool) (idx : List Int) (k : Nat) :
    ∀ p ∈ (buildTree o leafSize d path idx).leavesAt k, p.2.length ≤ leafSize ∨ p.1 = k + d := by
  fun_induction buildTree o leafSize d path idx generalizing k with
  | case1 => simp [Tree.leavesAt]
  | case2 d path idx h sp ih1 ih2 =>
    intro p hp
    -- a child at depth `k + 1` has `d` levels of fuel left
    rcases List.mem_append.mp hp with hp | hp
    · exact (ih1 (k + 1) p hp).imp_right fun h => h.trans (Nat.add_right_comm k 1 d)
    · exact (ih2 (k + 1) p hp).imp_right fun h => h.trans (Nat.add_right_comm k 1 d)
  | case3 d path idx h =>
    intro p hp
    cases List.mem_singleton.mp hp
    exact Or.inl (Nat.le_of_not_lt h)

theorem buildTree_depth (o : Oracle) (leafSize d : Nat) (path : List Bool) (idx : List Int) :
    (buildTree o leafSize d path idx).depth ≤ d := by
  fun_induction buildTree o leafSize d path idx with
  | case1 => exact Nat.le_refl 0
  | case2 d path idx h sp ih1 ih2 => exact Nat.succ_le_succ (Nat.max_le.mpr ⟨ih1, ih2⟩)
  | case3 => exact Nat.zero_le _

/-! ### block ranges -/
theorem ranges_append (a b : List (List Int)) (s : Nat) :
    ranges (a ++ b) s = ranges a s ++ ranges b (s + a.flatten.length) := by
  induction a generalizing s with
  | nil => simp [ranges]
  | cons x xs ih => simp [ranges, ih, Nat.add_assoc]

theorem length_ranges (ls : List (List Int)) (s : Nat) : (ranges ls s).length = ls.length := by
  induction ls generalizing s with
  | nil => rfl
  | cons x xs ih => simp [ranges, ih]

/-- consecutive blocks from `a` to `b` -/
def Tiles : List (Nat × Nat) → Nat → Nat → Prop
  | [], a, b => a = b
  | r :: rs, a, b => r.1 = a ∧ r.1 ≤ r.2 ∧ Tiles rs r.2 b

theorem tiles_ranges (ls : List (List Int)) (s : Nat) : Tiles (ranges ls s) s (s + ls.flatten.length) := by
  induction ls generalizing s with
  | nil => simp [ranges, Tiles]
  | cons x xs ih =>
    simp only [ranges, Tiles, List.flatten_cons, List.length_append]
    refine ⟨trivial, Nat.le_add_right .., ?_⟩
    have := ih (s + x.length)
    rwa [Nat.add_assoc] at this

theorem getElem?_ranges {ls : List (List Int)} {s i a b : Nat} (h : (ranges ls s)[i]? = some (a, b)) :
    s ≤ a ∧ a ≤ b ∧ b ≤ s + ls.flatten.length ∧ ls[i]? = some ((ls.flatten.drop (a - s)).take (b - a)) := by
  induction ls generalizing s i with
  | nil => cases h
  | cons x xs ih =>
    rw [List.flatten_cons, List.length_append]
    cases i with
    | zero =>
      cases h
      refine ⟨Nat.le_refl _, Nat.le_add_right .., Nat.add_le_add_left (Nat.le_add_right ..) _, ?_⟩
      rw [Nat.sub_self, Nat.add_sub_cancel_left, List.drop_zero, List.take_left' rfl]
      rfl
    | succ i =>
      obtain ⟨h1, h2, h3, h4⟩ := ih (s := s + x.length) (i := i) h
      refine ⟨Nat.le_trans (Nat.le_add_right ..) h1, h2, Nat.add_assoc .. ▸ h3, ?_⟩
      rw [List.getElem?_cons_succ, List.drop_append, List.drop_eq_nil_of_le (Nat.le_sub_of_add_le' h1),
        List.nil_append, Nat.sub_sub, h4]

theorem mem_ranges {ls : List (List Int)} {s a b : Nat} (h : (a, b) ∈ ranges ls s) :
    s ≤ a ∧ a ≤ b ∧ b ≤ s + ls.flatten.length ∧ (ls.flatten.drop (a - s)).take (b - a) ∈ ls := by
  obtain ⟨i, hi⟩ := List.mem_iff_getElem?.mp h
  obtain ⟨h1, h2, h3, h4⟩ := getElem?_ranges hi
  exact ⟨h1, h2, h3, List.mem_of_getElem? h4⟩

theorem pyNorm_natCast {n a : Nat} (h : a ≤ n) : pyNorm n (a : Int) = a := by
  rw [pyNorm, if_neg (Int.not_lt.mpr (Int.natCast_nonneg a)), Int.toNat_natCast, Nat.min_eq_left h]

theorem pySlice_nat {arr : Array Int} {a b : Nat} (hab : a ≤ b) (hb : b ≤ arr.size) :
    pySlice arr (a : Int) (b : Int) = (arr.toList.drop a).take (b - a) := by
  rw [pySlice, pyNorm_natCast (Nat.le_trans hab hb), pyNorm_natCast hb]

/-- `a - 0` is written out so that the right side is the one in `getElem?_ranges` and `mem_ranges` at `s = 0` -/
theorem pySlice_range {arr : Array Int} {ls : List (List Int)} (harr : arr.toList = ls.flatten) {a b : Nat}
    (hab : a ≤ b) (hb : b ≤ ls.flatten.length) : pySlice arr a b = (ls.flatten.drop (a - 0)).take (b - a) := by
  rw [pySlice_nat hab (by rw [← Array.length_toList, harr]; exact hb), harr, Nat.sub_zero]

/-! ### layout of a subtree in the flat `children` array -/
/-- The subtree `t` is laid out in the two `children` columns the way `recursive_convert` writes it: its root in
row `k`, the left subtree from row `k + 1` on, then the right one; `s` is the offset in `indices` of its first leaf. -/
def Laid (ch0 ch1 : Array Int) : Tree → Nat → Nat → Prop
  | .leaf idx, k, s => ch0[k]? = some (-(s:Int)) ∧ ch1[k]? = some (-((s + idx.length : Nat) : Int))
  | .node l r, k, s => ch0[k]? = some ((k:Int) + 1) ∧ ch1[k]? = some ((k + 1 + l.numNodes : Nat) : Int) ∧
      Laid ch0 ch1 l (k+1) s ∧ Laid ch0 ch1 r (k + 1 + l.numNodes) (s + l.size)

/-- inner rows (`children[i, 0] > 0`) point to later rows of the same subtree: routing cannot loop -/
theorem Laid.inner_row {ch0 ch1 : Array Int} {t : Tree} {k s : Nat} (h : Laid ch0 ch1 t k s) {i : Nat} {c0 c1 : Int}
    (h1 : k ≤ i) (h2 : i < k + t.numNodes) (e0 : ch0[i]? = some c0) (e1 : ch1[i]? = some c1) (hp : 0 < c0) :
    c0 = (i:Int) + 1 ∧ (i:Int) + 1 < c1 ∧ c1 < ((k + t.numNodes : Nat) : Int) := by
  induction t generalizing k s with
  | leaf idx =>
    -- a leaf row holds `-s ≤ 0`
    obtain rfl : i = k := Nat.le_antisymm (Nat.le_of_lt_succ h2) h1
    cases Option.some.inj (h.1.symm.trans e0)
    exact absurd hp (Int.not_lt.mpr (Int.neg_nonpos_of_nonneg (Int.natCast_nonneg s)))
  | node l r ihl ihr =>
    obtain ⟨g0, g1, gl, gr⟩ := h
    rw [Tree.add_numNodes_node] at h2 ⊢
    rcases Nat.eq_or_lt_of_le h1 with rfl | hik
    · cases Option.some.inj (g0.symm.trans e0)
      cases Option.some.inj (g1.symm.trans e1)
      exact ⟨rfl, Int.ofNat_lt.mpr (Nat.lt_add_of_pos_right l.numNodes_pos),
        Int.ofNat_lt.mpr (Nat.lt_add_of_pos_right r.numNodes_pos)⟩
    · by_cases hil : i < k + 1 + l.numNodes
      · obtain ⟨a, b, c⟩ := ihl gl hik hil
        exact ⟨a, b, Int.lt_of_lt_of_le c (Int.ofNat_le.mpr (Nat.le_add_right ..))⟩
      · exact ihr gr (Nat.le_of_not_lt hil) h2

theorem Laid.bound {ch0 ch1 : Array Int} {t : Tree} {k s : Nat} (h : Laid ch0 ch1 t k s) :
    k + t.numNodes ≤ ch0.size ∧ k + t.numNodes ≤ ch1.size := by
  induction t generalizing k s with
  | leaf idx => exact ⟨(Array.getElem?_eq_some_iff.mp h.1).1, (Array.getElem?_eq_some_iff.mp h.2).1⟩
  | node l r _ ihr =>
    -- the rows of the right subtree come last
    rw [Tree.add_numNodes_node]
    exact ihr h.2.2.2

/-- The rows `recursive_convert` writes for subtree `t` rooted at row `k` with its first leaf at offset `s`
(pure specification of the `children` array). -/
def flatRows : Tree → Nat → Nat → List (Int × Int)
  | .leaf idx, _, s => [(-(s:Int), -((s + idx.length : Nat) : Int))]
  | .node l r, k, s => ((k:Int) + 1, ((k + 1 + l.numNodes : Nat) : Int)) ::
      (flatRows l (k + 1) s ++ flatRows r (k + 1 + l.numNodes) (s + l.size))

theorem length_flatRows (t : Tree) (k s : Nat) : (flatRows t k s).length = t.numNodes := by
  induction t generalizing k s with
  | leaf idx => rfl
  | node l r ihl ihr => simp [flatRows, Tree.numNodes, ihl, ihr]

/-- `Laid` says that the two columns hold the rows `flatRows t k s` from row `k` on -/
theorem laid_iff_rows {ch0 ch1 : Array Int} {t : Tree} {k s : Nat} :
    Laid ch0 ch1 t k s ↔ ∀ p ∈ (flatRows t k s).zipIdx k, ch0[p.2]? = some p.1.1 ∧ ch1[p.2]? = some p.1.2 := by
  induction t generalizing k s with
  | leaf idx => simp only [Laid, flatRows, List.zipIdx_singleton, List.forall_mem_singleton]
  | node l r ihl ihr =>
    simp only [Laid, flatRows, ihl, ihr, List.zipIdx_cons, List.zipIdx_append, List.forall_mem_cons,
      List.forall_mem_append, length_flatRows, and_assoc]

/-- the flat form's leaf rows (`children[node, 0] ≤ 0`, the model's `leafRows`), not the linked form's `leafRowsOf` -/
theorem leafRows_flatRows (t : Tree) (k s : Nat) :
    ((flatRows t k s).filter (fun p => p.1 ≤ 0)).map (fun p => (-p.1, -p.2)) =
      (ranges t.leaves s).map (fun r => ((r.1 : Int), (r.2 : Int))) := by
  induction t generalizing k s with
  | leaf idx =>
    have : (-(s:Int) ≤ 0) := Int.neg_nonpos_of_nonneg (Int.natCast_nonneg s)
    simp [flatRows, Tree.leaves, ranges, this]
  | node l r ihl ihr =>
    have : ¬ ((k:Int) + 1 ≤ 0) := Int.not_le.mpr (Int.lt_add_one_of_le (Int.natCast_nonneg k))
    simp only [flatRows, Tree.leaves, ranges_append, List.filter_cons, this, decide_false, Bool.false_eq_true,
      if_false, List.filter_append, List.map_append, ihl, ihr, l.length_flatten_leaves]

/-! ### `recursive_convert` -/
@[simp] theorem size_writeSlice (a : Array Int) (st : Nat) (xs : List Int) : (writeSlice a st xs).size = a.size := by
  induction xs generalizing a st with
  | nil => rfl
  | cons x xs ih => rw [writeSlice, ih, Array.size_setIfInBounds]

theorem getElem?_writeSlice_outside {a : Array Int} {st i : Nat} {xs : List Int}
    (h : i < st ∨ st + xs.length ≤ i) : (writeSlice a st xs)[i]? = a[i]? := by
  induction xs generalizing a st with
  | nil => rfl
  | cons x xs ih =>
    rw [List.length_cons, ← Nat.add_assoc, Nat.add_right_comm] at h
    rw [writeSlice, ih (h.imp_left Nat.lt_succ_of_lt),
      Array.getElem?_setIfInBounds_ne (h.elim Nat.ne_of_gt fun h =>
        Nat.ne_of_lt (Nat.lt_of_lt_of_le (Nat.lt_succ_self st) (Nat.le_trans (Nat.le_add_right ..) h)))]

theorem getElem?_writeSlice_add {a : Array Int} {st : Nat} {xs : List Int} (h : st + xs.length ≤ a.size) {j : Nat} :
    j < xs.length → (writeSlice a st xs)[st + j]? = xs[j]? := by
  induction xs generalizing a st j with
  | nil => intro hj; cases hj
  | cons x xs ih =>
    rw [List.length_cons] at h
    cases j with
    | zero =>
      intro _
      show (writeSlice (a.setIfInBounds st x) (st + 1) xs)[st]? = some x
      rw [getElem?_writeSlice_outside (.inl (Nat.lt_add_one st)),
        Array.getElem?_setIfInBounds_self_of_lt (Nat.lt_of_lt_of_le (Nat.lt_add_of_pos_right (Nat.succ_pos _)) h)]
    | succ j =>
      intro hj
      rw [writeSlice, ← Nat.add_assoc, Nat.add_right_comm,
        ih (by rw [Array.size_setIfInBounds, Nat.add_assoc, Nat.add_comm 1]; exact h) (Nat.lt_of_succ_lt_succ hj)]
      rfl

theorem toList_writeSlice_zero {a : Array Int} {xs : List Int} (h : xs.length ≤ a.size) :
    (writeSlice a 0 xs).toList = xs ++ a.toList.drop xs.length := by
  apply List.ext_getElem?
  intro i
  rw [Array.getElem?_toList]
  by_cases hi : i < xs.length
  · rw [← Nat.zero_add i, getElem?_writeSlice_add ((Nat.zero_add _).symm ▸ h) hi, Nat.zero_add,
      List.getElem?_append_left hi]
  · have hi := Nat.le_of_not_lt hi
    rw [getElem?_writeSlice_outside (.inr ((Nat.zero_add _).symm ▸ hi)), List.getElem?_append_right hi,
      List.getElem?_drop, Nat.add_sub_cancel' hi, Array.getElem?_toList]

theorem writeSlice_full {a : Array Int} {xs : List Int} (h : xs.length = a.size) : writeSlice a 0 xs = xs.toArray := by
  apply Array.ext'
  rw [toList_writeSlice_zero (Nat.le_of_eq h), List.drop_eq_nil_of_le (by simp; omega), List.append_nil]

theorem writeSlice_append (a : Array Int) (st : Nat) (xs ys : List Int) :
    writeSlice a st (xs ++ ys) = writeSlice (writeSlice a st xs) (st + xs.length) ys := by
  induction xs generalizing a st with
  | nil => rfl
  | cons x xs ih => simp only [List.cons_append, writeSlice, ih, List.length_cons]; congr 1; omega

theorem setIfInBounds_writeSlice {a : Array Int} {k st : Nat} {v : Int} {xs : List Int} (h : k < st) :
    (writeSlice a st xs).setIfInBounds k v = writeSlice (a.setIfInBounds k v) st xs := by
  induction xs generalizing a st with
  | nil => rfl
  | cons x xs ih =>
    simp only [writeSlice]
    rw [ih (Nat.lt_succ_of_lt h), Array.setIfInBounds_comm _ _ (Nat.ne_of_lt h)]

/-- No hypothesis on the arrays: a write outside an array is skipped on both sides of the equation. -/
theorem recursiveConvert_eq (t : Tree) (F : Flat) (k s : Nat) :
    recursiveConvert t F k s =
      (⟨writeSlice F.ch0 k ((flatRows t k s).map Prod.fst), writeSlice F.ch1 k ((flatRows t k s).map Prod.snd),
        writeSlice F.indices s t.leaves.flatten⟩, k + t.numNodes - 1, s + t.size) := by
  induction t generalizing F k s with
  | leaf idx =>
    rw [recursiveConvert, Tree.leaves, List.flatten_singleton]
    rfl
  | node l r ihl ihr =>
    -- the left call returns its last used row `k + 1 + |l| - 1`; the right call starts one row below it
    have e : k + 1 + l.numNodes - 1 + 1 = k + 1 + l.numNodes :=
      Nat.sub_add_cancel (Nat.le_trans (Nat.le_add_left 1 k) (Nat.le_add_right _ _))
    have eI : ((k + 1 + l.numNodes - 1 : Nat) : Int) + 1 = ((k + 1 + l.numNodes : Nat) : Int) :=
      (Int.natCast_succ _).symm.trans (congrArg _ e)
    have eN : k + 1 + l.numNodes + r.numNodes - 1 = k + (l.numNodes + r.numNodes + 1) - 1 :=
      congrArg (· - 1) (Tree.add_numNodes_node k l r).symm
    simp only [recursiveConvert, ihl, ihr, e, eI, eN]
    -- `children[k, 1]` is written after the rows of the left subtree, which all lie above `k`
    rw [setIfInBounds_writeSlice (Nat.lt_succ_self k)]
    simp only [flatRows, Tree.leaves, Tree.numNodes, Tree.size, List.map_cons, List.map_append, List.flatten_append,
      writeSlice, writeSlice_append, List.length_map, length_flatRows, l.length_flatten_leaves, Nat.add_assoc s]

theorem convertTreeFormat_eq (t : Tree) :
    convertTreeFormat t t.size = ⟨((flatRows t 0 0).map Prod.fst).toArray, ((flatRows t 0 0).map Prod.snd).toArray,
      t.leaves.flatten.toArray⟩ := by
  simp only [convertTreeFormat, recursiveConvert_eq]
  rw [writeSlice_full (by simp [length_flatRows]), writeSlice_full (by simp [length_flatRows]),
    writeSlice_full (by simp [t.length_flatten_leaves])]

theorem indices_convert (t : Tree) : (convertTreeFormat t t.size).indices.toList = t.leaves.flatten := by
  rw [convertTreeFormat_eq]

theorem laid_convert (t : Tree) : Laid (convertTreeFormat t t.size).ch0 (convertTreeFormat t t.size).ch1 t 0 0 := by
  rw [convertTreeFormat_eq]
  refine laid_iff_rows.mpr fun p hp => ?_
  simp [List.mem_zipIdx_iff_getElem?.mp hp]

theorem zip_convert (t : Tree) :
    (convertTreeFormat t t.size).ch0.toList.zip (convertTreeFormat t t.size).ch1.toList = flatRows t 0 0 := by
  rw [convertTreeFormat_eq]
  have := List.zip_unzip (flatRows t 0 0)
  rwa [List.unzip_eq_map] at this

/-! ### routing -/
theorem route_leaf_step {ch0 ch1 : Array Int} {side : Nat → Nat → Bool} {fuel step node : Nat} {c0 c1 : Int}
    (h0 : ch0[node]? = some c0) (h1 : ch1[node]? = some c1) (hc : ¬ c0 > 0) :
    route ch0 ch1 side (fuel + 1) step node = some (node, -c0, -c1) := by
  simp [route, h0, h1, hc]

theorem route_inner_step {ch0 ch1 : Array Int} {side : Nat → Nat → Bool} {fuel step node : Nat} {c0 c1 : Int}
    (h0 : ch0[node]? = some c0) (h1 : ch1[node]? = some c1) (hc : c0 > 0)
    (hn : ¬ (if side step node then c1 else c0) < 0) :
    route ch0 ch1 side (fuel + 1) step node =
      route ch0 ch1 side fuel (step + 1) (if side step node then c1 else c0).toNat := by
  simp only [route, h0, h1, hc, if_true, hn, if_false]

/-- Routing from the root row of a laid-out subtree, whatever the side function answers: any fuel above the depth
suffices, and the walk ends in a row of the subtree that holds one of its leaf ranges, negated. -/
theorem route_laid (side : Nat → Nat → Bool) {ch0 ch1 : Array Int} {t : Tree} {k s : Nat}
    (h : Laid ch0 ch1 t k s) (fuel step : Nat) (hf : t.depth < fuel) :
    ∃ node a b : Nat, route ch0 ch1 side fuel step k = some (node, (a:Int), (b:Int)) ∧
      (a, b) ∈ ranges t.leaves s ∧ node < k + t.numNodes ∧
      ch0[node]? = some (-(a:Int)) ∧ ch1[node]? = some (-(b:Int)) := by
  induction t generalizing k s fuel step with
  | leaf idx =>
    obtain ⟨f, rfl⟩ := Nat.exists_eq_add_one_of_ne_zero (Nat.ne_zero_of_lt hf)
    refine ⟨k, s, s + idx.length, ?_, List.mem_singleton.mpr rfl, Nat.lt_add_one k, h.1, h.2⟩
    rw [route_leaf_step h.1 h.2 (Int.not_lt.mpr (Int.neg_nonpos_of_nonneg (Int.natCast_nonneg s))),
      Int.neg_neg, Int.neg_neg]
  | node l r ihl ihr =>
    obtain ⟨f, rfl⟩ := Nat.exists_eq_add_one_of_ne_zero (Nat.ne_zero_of_lt hf)
    obtain ⟨g0, g1, gl, gr⟩ := h
    have hf' : max l.depth r.depth < f := Nat.lt_of_succ_lt_succ hf
    have hpos : (k : Int) + 1 > 0 := Int.lt_add_one_of_le (Int.natCast_nonneg k)
    have hn : ¬ (if side step k then ((k + 1 + l.numNodes : Nat) : Int) else (k : Int) + 1) < 0 := by
      split
      · exact Int.not_lt.mpr (Int.natCast_nonneg _)
      · exact Int.not_lt.mpr (Int.le_of_lt hpos)
    have hstep := route_inner_step (side := side) (fuel := f) (step := step) g0 g1 hpos hn
    simp only [Tree.leaves, ranges_append, l.length_flatten_leaves, List.mem_append]
    rw [Tree.add_numNodes_node]
    cases hs : side step k with
    | false =>
      obtain ⟨node, a, b, hr, hm, hlt, hch⟩ :=
        ihl gl f (step + 1) (Nat.lt_of_le_of_lt (Nat.le_max_left ..) hf')
      rw [hs, if_neg Bool.false_ne_true, Int.toNat_natCast_add_one] at hstep
      exact ⟨node, a, b, hstep.trans hr, Or.inl hm, Nat.lt_of_lt_of_le hlt (Nat.le_add_right ..), hch⟩
    | true =>
      obtain ⟨node, a, b, hr, hm, hlt, hch⟩ :=
        ihr gr f (step + 1) (Nat.lt_of_le_of_lt (Nat.le_max_right ..) hf')
      rw [hs, if_pos rfl, Int.toNat_natCast] at hstep
      exact ⟨node, a, b, hstep.trans hr, Or.inr hm, hlt, hch⟩

/-! ### linked form -/

/-- the `children` entries `make_*_tree` appends for `t` when `b` nodes are already in the lists -/
def postChildren : Tree → Nat → List (Int × Int)
  | .leaf _, _ => [(-1, -1)]
  | .node l r, b => postChildren l b ++ postChildren r (b + l.numNodes) ++
      [(((b + l.numNodes : Nat) : Int) - 1, ((b + l.numNodes + r.numNodes : Nat) : Int) - 1)]

/-- the `point_indices` entries appended for `t` -/
def postIndices : Tree → List (List Int)
  | .leaf idx => [idx]
  | .node l r => postIndices l ++ postIndices r ++ [[-1]]

theorem length_postIndices (t : Tree) : (postIndices t).length = t.numNodes := by
  induction t with
  | leaf idx => rfl
  | node l r ihl ihr =>
    rw [postIndices, List.length_append, List.length_append, ihl, ihr]
    rfl

theorem length_postChildren (t : Tree) (b : Nat) : (postChildren t b).length = t.numNodes := by
  induction t generalizing b with
  | leaf idx => rfl
  | node l r ihl ihr =>
    rw [postChildren, List.length_append, List.length_append, ihl, ihr]
    rfl

theorem mem_postIndices {t : Tree} {p : List Int} (h : p ∈ postIndices t) : p ∈ t.leaves ∨ p = [-1] := by
  induction t with
  | leaf idx => exact Or.inl h
  | node l r ihl ihr =>
    rw [Tree.leaves, List.mem_append]
    rcases List.mem_append.mp h with h | h
    · rcases List.mem_append.mp h with h | h
      · exact (ihl h).imp_left Or.inl
      · exact (ihr h).imp_left Or.inr
    · exact Or.inr (List.mem_singleton.mp h)

theorem leaves_sub_postIndices {t : Tree} {p : List Int} (h : p ∈ t.leaves) : p ∈ postIndices t := by
  induction t with
  | leaf idx => exact h
  | node l r ihl ihr =>
    refine List.mem_append_left _ (List.mem_append.mpr ?_)
    exact (List.mem_append.mp h).imp ihl ihr

theorem size_linearize (t : Tree) (L : Linked) :
    (linearize t L).children.size = L.children.size + t.numNodes ∧
    (linearize t L).indices.size = L.indices.size + t.numNodes := by
  induction t generalizing L with
  | leaf idx => exact ⟨Array.size_push .., Array.size_push ..⟩
  | node l r ihl ihr =>
    -- one entry after those of `r`, which come after those of `l`
    constructor
    · rw [linearize, Array.size_push, (ihr _).1, (ihl L).1, Nat.add_assoc, Nat.add_assoc]; rfl
    · rw [linearize, Array.size_push, (ihr _).2, (ihl L).2, Nat.add_assoc, Nat.add_assoc]; rfl

theorem linearize_toList (t : Tree) (L : Linked) :
    (linearize t L).children.toList = L.children.toList ++ postChildren t L.indices.size ∧
    (linearize t L).indices.toList = L.indices.toList ++ postIndices t := by
  induction t generalizing L with
  | leaf idx => exact ⟨Array.toList_push .., Array.toList_push ..⟩
  | node l r ihl ihr =>
    constructor
    · rw [linearize, Array.toList_push, (ihr _).1, (ihl L).1, (size_linearize r _).2, (size_linearize l L).2,
        postChildren, List.append_assoc, List.append_assoc, List.append_assoc]
    · rw [linearize, Array.toList_push, (ihr _).2, (ihl L).2, postIndices, List.append_assoc, List.append_assoc,
        List.append_assoc]

theorem linearize_nil (t : Tree) :
    (linearize t {}).children.toList = postChildren t 0 ∧ (linearize t {}).indices.toList = postIndices t := by
  simpa using linearize_toList t {}

/-- the rows `get_leaves_from_tree` copies: `point_indices[i]` of every entry whose children test `== -1 or == -1` -/
def leafRowsOf (L : Linked) : List (List Int) :=
  ((L.children.toList.zip L.indices.toList).filter (fun p => p.1.1 == -1 || p.1.2 == -1)).map Prod.snd

theorem leafRowsOf_post (t : Tree) (b : Nat) :
    (((postChildren t b).zip (postIndices t)).filter (fun p => p.1.1 == -1 || p.1.2 == -1)).map Prod.snd = t.leaves := by
  induction t generalizing b with
  | leaf idx => rfl
  | node l r ihl ihr =>
    -- the node's own entry is not the leaf mark: both subtrees have at least one node
    have hroot : ((((b + l.numNodes : Nat) : Int) - 1 == -1 ||
        ((b + l.numNodes + r.numNodes : Nat) : Int) - 1 == -1) = false) := by
      have pl := l.numNodes_pos
      rw [Bool.or_eq_false_iff, beq_eq_false_iff_ne, beq_eq_false_iff_ne]
      omega
    rw [postChildren, postIndices,
      List.zip_append (by rw [List.length_append, List.length_append, length_postChildren, length_postChildren,
        length_postIndices, length_postIndices]),
      List.zip_append (by rw [length_postChildren, length_postIndices]),
      List.filter_append, List.filter_append, List.map_append, List.map_append, ihl, ihr, Tree.leaves]
    simp only [List.zip_cons_cons, List.zip_nil_right, List.filter_cons, hroot, Bool.false_eq_true, if_false,
      List.filter_nil, List.map_nil, List.append_nil]

theorem leafRowsOf_linearize (t : Tree) : leafRowsOf (linearize t {}) = t.leaves := by
  rw [leafRowsOf, (linearize_nil t).1, (linearize_nil t).2]
  exact leafRowsOf_post t 0

/-- every `children` entry of the linked form is the leaf mark `(-1, -1)` or a pair of earlier node
numbers `left < right` (so the three leaf tests the code uses — `[0] == -1 and [1] == -1`,
`[0] == -1 or [1] == -1`, `[0] < 0` — agree) -/
theorem postChildren_shape (t : Tree) (b : Nat) :
    ∀ c ∈ postChildren t b, c = (-1, -1) ∨
      ((b : Int) ≤ c.1 ∧ c.1 < c.2 ∧ c.2 + 1 < ((b + t.numNodes : Nat) : Int)) := by
  induction t generalizing b with
  | leaf idx => exact fun c hc => Or.inl (List.mem_singleton.mp hc)
  | node l r ihl ihr =>
    intro c hc
    rw [Tree.numNodes, ← Nat.add_assoc, ← Nat.add_assoc]
    rcases List.mem_append.mp hc with hc | hc
    · rcases List.mem_append.mp hc with hc | hc
      · -- an entry of the left subtree: its bounds hold a fortiori
        exact (ihl b c hc).imp_right fun ⟨h1, h2, h3⟩ =>
          ⟨h1, h2, Int.lt_trans h3 (Int.ofNat_lt.mpr (Nat.lt_succ_of_le (Nat.le_add_right ..)))⟩
      · exact (ihr _ c hc).imp_right fun ⟨h1, h2, h3⟩ =>
          ⟨Int.le_trans (Int.ofNat_le.mpr (Nat.le_add_right ..)) h1, h2,
            Int.lt_trans h3 (Int.ofNat_lt.mpr (Nat.lt_succ_self _))⟩
    · -- the node's own entry `(b + |l| - 1, b + |l| + |r| - 1)`
      cases List.mem_singleton.mp hc
      have pl := l.numNodes_pos
      have pr := r.numNodes_pos
      right
      simp only
      omega

/-! ### `max_leaf_size` -/
theorem foldl_maxLen {l : List (List Int)} {init r : Nat}
    (h : l.foldl (fun m p => if p.length > m then p.length else m) init = r) :
    init ≤ r ∧ (∀ p ∈ l, p.length ≤ r) ∧ (r = init ∨ ∃ p ∈ l, r = p.length) := by
  induction l generalizing init with
  | nil => exact ⟨Nat.le_of_eq h, fun _ hp => (List.not_mem_nil hp).elim, Or.inl h.symm⟩
  | cons x xs ih =>
    rw [List.foldl_cons] at h
    by_cases hx : x.length > init
    · -- `x` is longer than all before it: the rest of the fold starts from `x.length`
      obtain ⟨h1, h2, h3⟩ := ih (if_pos hx ▸ h)
      exact ⟨Nat.le_trans (Nat.le_of_lt hx) h1, List.forall_mem_cons.mpr ⟨h1, h2⟩,
        Or.inr (h3.elim (fun e => ⟨x, List.mem_cons_self .., e⟩) fun ⟨p, hp, e⟩ => ⟨p, List.mem_cons_of_mem _ hp, e⟩)⟩
    · obtain ⟨h1, h2, h3⟩ := ih (if_neg hx ▸ h)
      exact ⟨h1, List.forall_mem_cons.mpr ⟨Nat.le_trans (Nat.le_of_not_lt hx) h1, h2⟩,
        h3.imp_right fun ⟨p, hp, e⟩ => ⟨p, List.mem_cons_of_mem _ hp, e⟩⟩

/-- the `[-1]` that `make_*_tree` appends for an inner node also enters `max_leaf_size`: hence the case `1` -/
theorem treeLeafSize_linearize (t : Tree) (leafSize : Nat) :
    leafSize ≤ treeLeafSize (linearize t {}) leafSize ∧
    (∀ leaf ∈ t.leaves, leaf.length ≤ treeLeafSize (linearize t {}) leafSize) ∧
    (treeLeafSize (linearize t {}) leafSize = leafSize ∨ treeLeafSize (linearize t {}) leafSize = 1 ∨
      ∃ leaf ∈ t.leaves, treeLeafSize (linearize t {}) leafSize = leaf.length) := by
  obtain ⟨f1, f2, f3⟩ := foldl_maxLen (l := postIndices t) (init := leafSize) rfl
  rw [treeLeafSize, ← Array.foldl_toList, (linearize_nil t).2]
  refine ⟨f1, fun leaf h => f2 leaf (leaves_sub_postIndices h), ?_⟩
  rcases f3 with h | ⟨p, hp, h⟩
  · exact Or.inl h
  · rcases mem_postIndices hp with h' | rfl
    · exact Or.inr (Or.inr ⟨p, h', h⟩)
    · exact Or.inr (Or.inl h)

/-! ### the leaf array (`get_leaves_from_tree`) -/

/-- a leaf padded with `-1` to width `w` -/
def padRow (w : Nat) (row : List Int) : List Int := row ++ List.replicate (w - row.length) (-1)

theorem writeSlice_blank (w : Nat) (row : List Int) (h : row.length ≤ w) :
    (writeSlice (Array.replicate w (-1 : Int)) 0 row) = (padRow w row).toArray := by
  apply Array.ext'
  rw [toList_writeSlice_zero (by rw [Array.size_replicate]; exact h), Array.toList_replicate, List.drop_replicate]
  rfl

/-- one copy of the fill loop of `get_leaves_from_tree`: `result[leaf_index, :len(row)] = row; leaf_index += 1` -/
def fillRow (acc : Array (Array Int) × Nat) (row : List Int) : Array (Array Int) × Nat :=
  (acc.1.modify acc.2 (fun r => writeSlice r 0 row), acc.2 + 1)

/-- invariant of the fill loop: the rows `pre` are filled, one blank row for each of `rows` follows -/
theorem foldl_fillRow (w : Nat) (rows : List (List Int)) (pre : List (Array Int))
    (hw : ∀ row ∈ rows, row.length ≤ w) :
    (rows.foldl fillRow ((pre ++ rows.map fun _ => Array.replicate w (-1 : Int)).toArray, pre.length)).1 =
      (pre ++ rows.map fun row => (padRow w row).toArray).toArray := by
  induction rows generalizing pre with
  | nil => rfl
  | cons row rows ih =>
    -- `fillRow` turns the first blank row into the padded `row`, which from then on counts among the filled ones
    have := ih (pre ++ [(padRow w row).toArray]) fun row h => hw row (List.mem_cons_of_mem _ h)
    rw [List.append_assoc, List.append_assoc, List.length_append] at this
    rw [List.foldl_cons, fillRow, List.map_cons, List.modify_toArray, List.modify_eq_take_drop, List.take_left' rfl,
      List.drop_left' rfl, List.modifyHead_cons, writeSlice_blank w row (hw row (List.mem_cons_self ..))]
    exact this

theorem toList_eq_map_getD {α} (a : Array α) (d : α) {n : Nat} (h : a.size = n) :
    a.toList = (List.range n).map (fun i => a.getD i d) := by
  subst h
  apply List.ext_getElem
  · simp
  · intro i h1 _
    have : i < a.size := by simpa using h1
    simp [Array.getD, this]

/-- `getLeaves`' step over `range size`, with its `getD` reads, is `fillRow` over the filtered zip -/
theorem getLeaves_eq_fold (L : Linked) (w : Nat) (hlen : L.children.size = L.indices.size) :
    getLeaves L w = ((leafRowsOf L).foldl fillRow
      (Array.replicate (L.children.toList.filter (fun c => c.1 == -1 && c.2 == -1)).length
        (Array.replicate w (-1 : Int)), 0)).1 := by
  rw [leafRowsOf, List.foldl_map, List.foldl_filter, toList_eq_map_getD L.children (0, 0) hlen,
    toList_eq_map_getD L.indices [] rfl, List.zip_map', List.foldl_map, ← toList_eq_map_getD L.children (0, 0) hlen]
  rfl

theorem getLeaves_spec (L : Linked) (w : Nat) (hlen : L.children.size = L.indices.size)
    (hH : ∀ c ∈ L.children.toList, (c.1 == -1 && c.2 == -1) = (c.1 == -1 || c.2 == -1))
    (hw : ∀ row ∈ leafRowsOf L, row.length ≤ w) :
    (getLeaves L w).toList = (leafRowsOf L).map (fun row => (padRow w row).toArray) := by
  -- the count (`and`) and the fill (`or`) select the same entries, so there is one blank row for each leaf row
  have hN : (L.children.toList.filter (fun c => c.1 == -1 && c.2 == -1)).length = (leafRowsOf L).length := by
    have hz : (L.children.toList.zip L.indices.toList).map Prod.fst = L.children.toList :=
      List.map_fst_zip (by rw [Array.length_toList, Array.length_toList, hlen]; exact Nat.le_refl _)
    rw [List.filter_congr hH, ← hz, List.filter_map, List.length_map, leafRowsOf, List.length_map]
    rfl
  rw [getLeaves_eq_fold L w hlen, hN, ← List.toArray_replicate, ← List.map_const']
  exact congrArg Array.toList (foldl_fillRow w (leafRowsOf L) [] hw)

theorem leafArray_toList (t : Tree) (leafSize : Nat) :
    (leafArray t leafSize).toList =
      t.leaves.map (fun row => (padRow (treeLeafSize (linearize t {}) leafSize) row).toArray) := by
  rw [← leafRowsOf_linearize t]
  refine getLeaves_spec (linearize t {}) _ ((size_linearize t {}).1.trans (size_linearize t {}).2.symm) ?_ ?_
  · -- an entry is the leaf mark, or holds no `-1` at all (`postChildren_shape`)
    rw [(linearize_nil t).1]
    intro c hc
    rcases postChildren_shape t 0 c hc with rfl | h
    · rfl
    · rw [beq_eq_false_iff_ne.mpr (by omega), beq_eq_false_iff_ne.mpr (by omega)]
      rfl
  · rw [leafRowsOf_linearize]
    exact (treeLeafSize_linearize t leafSize).2.1

end Pynn.RP
