import PynnVerif.Proofs.Search

/-!
# Everything a search touches is reachable from its seeds through the search graph

`Reach indptr indices S v`: `v` is one of the seed vertices `S` (leaf candidates and random
candidates) or can be reached from one by following CSR edges `c ∈ indices[indptr[u] : indptr[u+1]]`
(reachability from a set along `nbrs`; `Connect.Reachable` of C20 is the closure of an arbitrary edge relation).
Invariant of `search`: every marked vertex and every vertex in the seed set is reachable.  It is not an
invariant of `Step` — `Step.offer` does not record where its vertex came from — but `Reach …` is a vertex set that
holds the candidates and is closed under the edges, and a search never leaves such a set (`search_stays`).  With
`C02.search_sound` (every filled slot of the result is a marked vertex) the answers of a search are
reachable from its seeds — for the restricted search of `graph_utils.create_component_search`
(leaf = `candidate_indices`, no random samples) they lie in the connected component of the
candidates.
-/
namespace Pynn

variable {P : Type}

inductive Reach (indptr indices : Array Nat) (S : List Nat) : Nat → Prop
  | seed {v : Nat} : v ∈ S → Reach indptr indices S v
  | edge {u c : Nat} : Reach indptr indices S u → c ∈ nbrs indptr indices u → Reach indptr indices S c

variable [LinearOrder P]

theorem stepInv_visited (dq : Nat → P) (A : Nat → Prop) :
    StepInv dq A fun s => ∀ v, visited s.vis v = true → A v where
  offer _ _ _ hc _ hs v hv := (visited_mark_imp hv).elim (· ▸ hc) (hs v)
  skip _ _ hc hs v hv := (visited_mark_imp hv).elim (· ▸ hc) (hs v)
  pop _ _ _ _ hs := hs
  rebound _ _ hs := hs

/-- **A search never leaves a vertex set that holds its candidates and is closed under the edges of the search
graph**: whatever the fuel, every marked vertex and every remaining seed lies in it.  `Reach` is the least such set. -/
theorem search_stays (top : P) (scale : P → P) (n k nNeighbors : Nat) (indptr indices : Array Nat)
    (dq : Nat → P) (leaf draws : List Nat) (hleaf : leaf.Nodup) (fuel : Nat) (A : Nat → Prop)
    (hcand : ∀ c ∈ leaf ++ draws.take (min k nNeighbors - leaf.length), A c)
    (hedge : ∀ v c, A v → c ∈ nbrs indptr indices v → A c) :
    let s := (search top scale n k nNeighbors indptr indices dq leaf draws fuel).1
    (∀ v, visited s.vis v = true → A v) ∧ ∀ x ∈ s.seeds, A x.2 :=
  (stepInv_visited dq A).keeps_search top scale n k nNeighbors leaf draws hleaf hcand indptr indices hedge
    (fun v hv => by rw [visited_empty] at hv; exact Bool.noConfusion hv) fuel

end Pynn
