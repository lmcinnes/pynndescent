import PynnVerif.Model.Transformer

/-!
# Lemmas about the `transform` model (C18)

Membership in `coo` is read off its `flatMap` form (`mem_coo`); distinctness and the counts go row by
row through `cooFrom` (the same assembly by recursion on the rows, numbered from `k`;
`coo_eq_cooFrom`); `tocsr` is read as `es.reverse.foldr insertSum []`, so that each of its properties is one
structural induction over a property of `insertSum`.  Core Lean only (no Mathlib).
-/
namespace Pynn.Xf
variable {D : Type}

/-- the coordinates `(row, col)` of a triple list -/
abbrev keys (es : List (Nat × Nat × D)) : List (Nat × Nat) := es.map (fun e => (e.1, e.2.1))

/-- the triples one row contributes -/
abbrev rowTriples (i : Nat) (ir : List Int) (dr : List D) : List (Nat × Nat × D) :=
  (ir.zip dr).filterMap (fun cd => if 0 ≤ cd.1 then some (i, cd.1.toNat, cd.2) else none)

/-- `coo` row by row, with the row numbering started at `k` -/
def cooFrom (k : Nat) : List (List Int) → List (List D) → List (Nat × Nat × D)
  | [], _ => []
  | _ :: _, [] => []
  | ir :: inds, dr :: dists => rowTriples k ir dr ++ cooFrom (k + 1) inds dists

theorem flatMap_eq_cooFrom (k : Nat) (inds : List (List Int)) (dists : List (List D)) :
    ((inds.zip dists).zipIdx k).flatMap (fun rowi => rowTriples rowi.2 rowi.1.1 rowi.1.2) =
      cooFrom k inds dists := by
  fun_induction cooFrom k inds dists with
  | case3 k ir inds dr dists ih => rw [List.zip_cons_cons, List.zipIdx_cons, List.flatMap_cons, ih]
  | case1 => rfl
  | case2 => rfl

theorem coo_eq_cooFrom (inds : List (List Int)) (dists : List (List D)) :
    coo inds dists = cooFrom 0 inds dists :=
  flatMap_eq_cooFrom 0 inds dists

theorem mem_rowTriples {i : Nat} {ir : List Int} {dr : List D} {e : Nat × Nat × D} :
    e ∈ rowTriples i ir dr ↔
      e.1 = i ∧ ∃ j : Nat, ir[j]? = some (e.2.1 : Int) ∧ dr[j]? = some e.2.2 := by
  obtain ⟨r, c, d⟩ := e
  rw [List.mem_filterMap]
  constructor
  · rintro ⟨⟨c', d'⟩, hmem, h⟩
    obtain ⟨j, hj⟩ := List.mem_iff_getElem?.mp hmem
    obtain ⟨hj1, hj2⟩ := List.getElem?_zip_eq_some.mp hj
    simp only at hj1 hj2 h
    split at h
    · rename_i hc
      simp only [Option.some.injEq, Prod.mk.injEq] at h
      obtain ⟨rfl, rfl, rfl⟩ := h
      refine ⟨rfl, j, ?_, hj2⟩
      rw [hj1, Int.toNat_of_nonneg hc]
    · cases h
  · rintro ⟨rfl, j, hj1, hj2⟩
    refine ⟨((c : Int), d), ?_, ?_⟩
    · exact List.mem_iff_getElem?.mpr ⟨j, List.getElem?_zip_eq_some.mpr ⟨hj1, hj2⟩⟩
    · simp

theorem mem_coo (inds : List (List Int)) (dists : List (List D)) (i c : Nat) (d : D) :
    (i, c, d) ∈ coo inds dists ↔
      ∃ (ir : List Int) (dr : List D) (j : Nat), inds[i]? = some ir ∧ dists[i]? = some dr ∧
        ir[j]? = some (c : Int) ∧ dr[j]? = some d := by
  unfold coo
  rw [List.mem_flatMap]
  constructor
  · rintro ⟨⟨⟨ir, dr⟩, r⟩, hmem, he⟩
    obtain ⟨h1, h2⟩ := List.getElem?_zip_eq_some.mp (List.mem_zipIdx_iff_getElem?.mp hmem)
    obtain ⟨rfl, j, hj⟩ := mem_rowTriples.mp he
    exact ⟨ir, dr, j, h1, h2, hj⟩
  · rintro ⟨ir, dr, j, h1, h2, hj⟩
    exact ⟨((ir, dr), i), List.mem_zipIdx_iff_getElem?.mpr (List.getElem?_zip_eq_some.mpr ⟨h1, h2⟩),
      mem_rowTriples.mpr ⟨rfl, j, hj⟩⟩

theorem keyLt_iff {a b : Nat × Nat} : keyLt a b = true ↔ a.1 < b.1 ∨ a.1 = b.1 ∧ a.2 < b.2 := by
  rw [keyLt, Bool.or_eq_true, Bool.and_eq_true, decide_eq_true_eq, decide_eq_true_eq, beq_iff_eq]

theorem keyLt_trans {a b c : Nat × Nat} (h1 : keyLt a b = true) (h2 : keyLt b c = true) :
    keyLt a c = true := by
  rw [keyLt_iff] at *
  rcases h1 with h1 | ⟨e1, h1⟩ <;> rcases h2 with h2 | ⟨e2, h2⟩
  · exact Or.inl (Nat.lt_trans h1 h2)
  · exact Or.inl (e2 ▸ h1)
  · exact Or.inl (e1 ▸ h2)
  · exact Or.inr ⟨e1.trans e2, Nat.lt_trans h1 h2⟩

theorem keyLt_irrefl (a : Nat × Nat) : keyLt a a = false :=
  Bool.eq_false_iff.2 fun h => (keyLt_iff.1 h).elim (Nat.lt_irrefl _) fun h => Nat.lt_irrefl _ h.2

theorem keyLt_total {a b : Nat × Nat} (hne : a ≠ b) (h : keyLt a b = false) : keyLt b a = true := by
  have hn := mt keyLt_iff.2 (Bool.eq_false_iff.1 h)
  rcases Nat.lt_trichotomy a.1 b.1 with h1 | h1 | h1
  · exact absurd (Or.inl h1) hn
  · rcases Nat.lt_trichotomy a.2 b.2 with h2 | h2 | h2
    · exact absurd (Or.inr ⟨h1, h2⟩) hn
    · exact absurd (Prod.ext h1 h2) hne
    · exact keyLt_iff.2 (Or.inr ⟨h1.symm, h2⟩)
  · exact keyLt_iff.2 (Or.inl h1)

section InsertSum
variable [Add D]

section Equations
variable {e h : Nat × Nat × D} (t : List (Nat × Nat × D))

theorem insertSum_cons_of_eq (heq : (e.1, e.2.1) = (h.1, h.2.1)) :
    insertSum e (h :: t) = (h.1, h.2.1, h.2.2 + e.2.2) :: t := by
  rw [insertSum, if_pos (beq_iff_eq.2 heq)]

theorem insertSum_cons_of_lt (hne : (e.1, e.2.1) ≠ (h.1, h.2.1))
    (hlt : keyLt (e.1, e.2.1) (h.1, h.2.1) = true) : insertSum e (h :: t) = e :: h :: t := by
  rw [insertSum, if_neg (mt beq_iff_eq.1 hne), if_pos hlt]

theorem insertSum_cons_of_not_lt (hne : (e.1, e.2.1) ≠ (h.1, h.2.1))
    (hnlt : keyLt (e.1, e.2.1) (h.1, h.2.1) = false) : insertSum e (h :: t) = h :: insertSum e t := by
  rw [insertSum, if_neg (mt beq_iff_eq.1 hne), if_neg (Bool.eq_false_iff.1 hnlt)]

end Equations

theorem mem_keys_insertSum (e : Nat × Nat × D) (l : List (Nat × Nat × D)) (k : Nat × Nat) :
    k ∈ keys (insertSum e l) ↔ k = (e.1, e.2.1) ∨ k ∈ keys l := by
  induction l with
  | nil => exact List.mem_singleton.trans (or_iff_left List.not_mem_nil).symm
  | cons h t ih =>
    by_cases heq : (e.1, e.2.1) = (h.1, h.2.1)
    · rw [insertSum_cons_of_eq t heq]
      simp only [keys, List.map_cons, List.mem_cons, heq, or_self_left]
    · cases hlt : keyLt (e.1, e.2.1) (h.1, h.2.1) with
      | true => rw [insertSum_cons_of_lt t heq hlt]; exact List.mem_cons
      | false =>
        rw [insertSum_cons_of_not_lt t heq hlt]
        simp only [keys, List.map_cons, List.mem_cons] at ih ⊢
        rw [ih, or_left_comm]

theorem insertSum_sorted (e : Nat × Nat × D) (l : List (Nat × Nat × D))
    (hl : (keys l).Pairwise (fun a b => keyLt a b = true)) :
    (keys (insertSum e l)).Pairwise (fun a b => keyLt a b = true) := by
  induction l with
  | nil => exact List.pairwise_singleton _ _
  | cons h t ih =>
    obtain ⟨hh, ht⟩ := List.pairwise_cons.1 hl
    by_cases heq : (e.1, e.2.1) = (h.1, h.2.1)
    · rw [insertSum_cons_of_eq t heq]
      exact hl
    · cases hlt : keyLt (e.1, e.2.1) (h.1, h.2.1) with
      | true =>
        rw [insertSum_cons_of_lt t heq hlt]
        refine List.pairwise_cons.2 ⟨fun b hb => ?_, hl⟩
        rcases List.mem_cons.1 hb with rfl | hb
        · exact hlt
        · exact keyLt_trans hlt (hh b hb)
      | false =>
        rw [insertSum_cons_of_not_lt t heq hlt]
        refine List.pairwise_cons.2 ⟨fun b hb => ?_, ih ht⟩
        rcases (mem_keys_insertSum e t b).mp hb with rfl | hb
        · exact keyLt_total heq hlt
        · exact hh b hb

theorem insertSum_perm (e : Nat × Nat × D) (l : List (Nat × Nat × D))
    (hnew : (e.1, e.2.1) ∉ keys l) : (insertSum e l).Perm (e :: l) := by
  induction l with
  | nil => exact List.Perm.refl _
  | cons h t ih =>
    obtain ⟨hne, ht⟩ := not_or.1 (mt List.mem_cons.2 hnew)
    cases hlt : keyLt (e.1, e.2.1) (h.1, h.2.1) with
    | true => rw [insertSum_cons_of_lt t hne hlt]
    | false =>
      rw [insertSum_cons_of_not_lt t hne hlt]
      exact ((ih ht).cons h).trans (List.Perm.swap e h t)

/-- `tocsr` inserts the triples one after the other, the first one innermost -/
theorem tocsr_eq_foldr (es : List (Nat × Nat × D)) : tocsr es = es.reverse.foldr insertSum [] := by
  rw [List.foldr_reverse]; rfl

theorem foldr_insertSum_sorted (l : List (Nat × Nat × D)) :
    (keys (l.foldr insertSum [])).Pairwise (fun a b => keyLt a b = true) := by
  induction l with
  | nil => exact List.Pairwise.nil
  | cons e l ih => exact insertSum_sorted e _ ih

theorem mem_keys_foldr_insertSum (l : List (Nat × Nat × D)) (k : Nat × Nat) :
    k ∈ keys (l.foldr insertSum []) ↔ k ∈ keys l := by
  induction l with
  | nil => rfl
  | cons e l ih => rw [List.foldr_cons, mem_keys_insertSum, ih]; exact List.mem_cons.symm

theorem foldr_insertSum_perm (l : List (Nat × Nat × D)) (hnd : (keys l).Nodup) :
    (l.foldr insertSum []).Perm l := by
  induction l with
  | nil => rfl
  | cons e l ih =>
    obtain ⟨hnew, hnd⟩ := List.nodup_cons.mp hnd
    exact (insertSum_perm e _ (mt (mem_keys_foldr_insertSum l _).mp hnew)).trans ((ih hnd).cons e)

/-- the coordinates of `tocsr es` are strictly increasing in (row, col) lexicographic order -/
theorem tocsr_sorted (es : List (Nat × Nat × D)) :
    (keys (tocsr es)).Pairwise (fun a b => keyLt a b = true) :=
  tocsr_eq_foldr es ▸ foldr_insertSum_sorted _

theorem tocsr_keys_nodup (es : List (Nat × Nat × D)) : (keys (tocsr es)).Nodup :=
  (tocsr_sorted es).imp fun hab heq => by simp [heq, keyLt_irrefl] at hab

theorem mem_keys_tocsr (es : List (Nat × Nat × D)) (k : Nat × Nat) :
    k ∈ keys (tocsr es) ↔ k ∈ keys es := by
  rw [tocsr_eq_foldr, mem_keys_foldr_insertSum, keys, List.map_reverse, List.mem_reverse]

/-- when no coordinate occurs twice, `tocsr` only reorders: no value is altered, lost or invented -/
theorem tocsr_perm_of_nodup (es : List (Nat × Nat × D)) (hnd : (keys es).Nodup) :
    (tocsr es).Perm es := by
  rw [tocsr_eq_foldr]
  exact (foldr_insertSum_perm _ (((List.reverse_perm es).map _).nodup_iff.mpr hnd)).trans
    (List.reverse_perm es)

end InsertSum

/-- the non-negative entries of every row are pairwise distinct (what C02 guarantees for a query
answer; several `-1` markers in one row are allowed); `Props/C18.lean` writes this hypothesis out -/
def RowsDistinct (inds : List (List Int)) : Prop :=
  ∀ r ∈ inds, (r.filter (fun c => decide (0 ≤ c))).Nodup

instance (inds : List (List Int)) : Decidable (RowsDistinct inds) := by
  unfold RowsDistinct; infer_instance

theorem map_fst_zip_eq_take {α β : Type} (l₁ : List α) (l₂ : List β) :
    (l₁.zip l₂).map Prod.fst = l₁.take l₂.length := by
  induction l₁ generalizing l₂ with
  | nil => rw [List.zip_nil_left, List.take_nil, List.map_nil]
  | cons a l₁ ih => cases l₂ with
    | nil => rfl
    | cons b l₂ => rw [List.zip_cons_cons, List.map_cons, ih, List.length_cons, List.take_succ_cons]

/-- the coordinates one row contributes: its non-negative entries, as far as `dr` reaches -/
theorem keys_rowTriples (i : Nat) (ir : List Int) (dr : List D) :
    keys (rowTriples i ir dr) =
      ((ir.take dr.length).filter (fun c => decide (0 ≤ c))).map (fun c => (i, c.toNat)) := by
  rw [← map_fst_zip_eq_take, keys, rowTriples, List.map_filterMap, List.filter_map, List.map_map,
    ← List.filterMap_eq_filter, List.map_filterMap]
  congr 1
  funext cd
  by_cases h : 0 ≤ cd.1
  · simp only [h, if_true, Option.map_some, Function.comp_apply, Option.guard, decide_true]
  · simp only [h, if_false, Option.map_none, Function.comp_apply, Option.guard, decide_false,
      Bool.false_eq_true]

theorem rowTriples_keys_nodup (i : Nat) (ir : List Int) (dr : List D)
    (h : (ir.filter (fun c => decide (0 ≤ c))).Nodup) : (keys (rowTriples i ir dr)).Nodup := by
  rw [keys_rowTriples]
  -- `toNat` is injective on the non-negative entries
  refine List.pairwise_map.mpr ((h.sublist ((List.take_sublist _ _).filter _)).imp_of_mem ?_)
  intro a b ha hb hne heq
  have ha := (List.mem_filter.mp ha).2
  have hb := (List.mem_filter.mp hb).2
  simp only [decide_eq_true_eq, Prod.mk.injEq, true_and] at ha hb heq
  exact hne (by rw [← Int.toNat_of_nonneg ha, ← Int.toNat_of_nonneg hb, heq])

theorem cooFrom_row_ge {k : Nat} {inds : List (List Int)} {dists : List (List D)}
    {e : Nat × Nat × D} (he : e ∈ cooFrom k inds dists) : k ≤ e.1 := by
  fun_induction cooFrom k inds dists with
  | case3 k ir inds dr dists ih =>
    rcases List.mem_append.mp he with h | h
    · exact Nat.le_of_eq (mem_rowTriples.mp h).1.symm
    · exact Nat.le_of_succ_le (ih h)
  | case1 => cases he
  | case2 => cases he

theorem cooFrom_keys_nodup (k : Nat) (inds : List (List Int)) (dists : List (List D))
    (h : RowsDistinct inds) : (keys (cooFrom k inds dists)).Nodup := by
  fun_induction cooFrom k inds dists with
  | case1 => exact List.nodup_nil
  | case2 => exact List.nodup_nil
  | case3 k ir inds dr dists ih =>
    rw [keys, List.map_append, List.nodup_append]
    refine ⟨rowTriples_keys_nodup k ir dr (h ir List.mem_cons_self),
      ih fun r hr => h r (List.mem_cons_of_mem _ hr), ?_⟩
    -- a coordinate of row `k` is none of a later row
    rintro a ha _ hb rfl
    obtain ⟨e1, he1, rfl⟩ := List.mem_map.mp ha
    obtain ⟨e2, he2, hk⟩ := List.mem_map.mp hb
    have h1 := (mem_rowTriples.mp he1).1
    have h2 := cooFrom_row_ge he2
    rw [Prod.mk.injEq] at hk
    exact absurd h2 (by rw [hk.1, h1]; exact Nat.not_succ_le_self k)

theorem coo_keys_nodup (inds : List (List Int)) (dists : List (List D)) (h : RowsDistinct inds) :
    (keys (coo inds dists)).Nodup :=
  coo_eq_cooFrom inds dists ▸ cooFrom_keys_nodup 0 inds dists h

theorem rowTriples_length (i : Nat) (ir : List Int) (dr : List D) (h : ir.length = dr.length) :
    (rowTriples i ir dr).length = ir.countP (fun c => decide (0 ≤ c)) := by
  rw [← List.length_map (f := fun e => (e.1, e.2.1)), ← keys, keys_rowTriples, List.length_map, ← h,
    List.take_length, List.countP_eq_length_filter]

theorem cooFrom_length (k : Nat) (inds : List (List Int)) (dists : List (List D))
    (hs : inds.map List.length = dists.map List.length) :
    (cooFrom k inds dists).length = inds.flatten.countP (fun c => decide (0 ≤ c)) := by
  fun_induction cooFrom k inds dists with
  | case3 k ir inds dr dists ih =>
    rw [List.map_cons, List.map_cons, List.cons.injEq] at hs
    rw [List.length_append, rowTriples_length k ir dr hs.1, ih hs.2, List.flatten_cons, List.countP_append]
  | case1 => rfl
  | case2 => cases hs

theorem coo_length (inds : List (List Int)) (dists : List (List D)) (hs : inds.map List.length = dists.map List.length) :
    (coo inds dists).length = inds.flatten.countP (fun c => decide (0 ≤ c)) :=
  coo_eq_cooFrom inds dists ▸ cooFrom_length 0 inds dists hs

theorem cooFrom_countP_row (k i : Nat) (inds : List (List Int)) (dists : List (List D))
    (hs : inds.map List.length = dists.map List.length) (ir : List Int) (hi : inds[i]? = some ir) :
    (cooFrom k inds dists).countP (fun e => e.1 == k + i) = ir.countP (fun c => decide (0 ≤ c)) := by
  fun_induction cooFrom k inds dists generalizing i with
  | case3 k ir0 inds dr0 dists ih =>
    rw [List.map_cons, List.map_cons, List.cons.injEq] at hs
    rw [List.countP_append]
    cases i with
    | zero =>
      cases hi
      -- all of row `k`, nothing of the later rows
      rw [Nat.add_zero, List.countP_eq_length.mpr fun e he => beq_iff_eq.mpr (mem_rowTriples.mp he).1,
        List.countP_eq_zero.mpr fun e he h => Nat.ne_of_gt (cooFrom_row_ge he) (beq_iff_eq.mp h),
        rowTriples_length k _ dr0 hs.1]
      rfl
    | succ i =>
      -- nothing of row `k`; the later rows by induction, numbered from `k + 1`
      rw [List.countP_eq_zero.mpr fun e he h => Nat.ne_of_lt (Nat.lt_add_of_pos_right (Nat.succ_pos i))
          ((mem_rowTriples.mp he).1.symm.trans (beq_iff_eq.mp h)),
        Nat.zero_add, ← ih i hs.2 hi, Nat.add_right_comm, Nat.add_assoc]
  | case1 => cases hi
  | case2 => cases hs

theorem coo_countP_row (i : Nat) (inds : List (List Int)) (dists : List (List D))
    (hs : inds.map List.length = dists.map List.length) (ir : List Int) (hi : inds[i]? = some ir) :
    (coo inds dists).countP (fun e => e.1 == i) = ir.countP (fun c => decide (0 ≤ c)) := by
  have := cooFrom_countP_row 0 i inds dists hs ir hi
  rwa [Nat.zero_add, ← coo_eq_cooFrom] at this

end Pynn.Xf
