import PynnVerif.Model.Metrics2
import PynnVerif.Proofs.Metrics

/-!
# Helpers for `Props/C07b.lean`: the remaining dense kernels over `ℝ`, and definitions its statements use

* the `ℝ` instance of `Trig` (its operations and the literals of `Model/Metrics2.lean` join the simp
  set `real_arith`);
* `sumBy3` as a `List.sum`, the quadratic form of `mahalanobis`, the haversine formula, the smoothed
  divergences, the running sum of `wasserstein_1d`, `popcnt` as a count of set bits;
* definitions that statements of `Props/C07b.lean` mention: `quadFormSpec`, `PosSemidef` (mahalanobis),
  `cdf` (wasserstein_1d);
* `instance : RArithNU ℝ`.
-/
namespace Pynn.Metrics

noncomputable instance instTrigReal : Trig ℝ where
  sin := Real.sin
  cos := Real.cos
  arcsin := Real.arcsin

theorem sin_real (a : ℝ) : Trig.sin a = Real.sin a := rfl
theorem cos_real (a : ℝ) : Trig.cos a = Real.cos a := rfl
theorem arcsin_real (a : ℝ) : Trig.arcsin a = Real.arcsin a := rfl

theorem half_real : (half : ℝ) = 1 / 2 := rfl

theorem f32eps_real : (f32eps : ℝ) = 1 / 8388608 := rfl

theorem f32eps_pos : (0 : ℝ) < (f32eps : ℝ) := by rw [f32eps_real]; norm_num

theorem radians10_real : (radians10 : ℝ) = 10 * (Real.pi / 180) := rfl

attribute [real_arith] half_real f32eps_real radians10_real sin_real cos_real arcsin_real

theorem sumBy3_real (f : ℝ → ℝ → ℝ → ℝ) (x y s : List ℝ) :
    sumBy3 f x y s = (((x.zip y).zip s).map (fun p => f p.1.1 p.1.2 p.2)).sum := by
  unfold sumBy3
  rw [foldl_add_eq (fun p : (ℝ × ℝ) × ℝ => f p.1.1 p.1.2 p.2)]
  exact zero_add _

theorem sumBy3_comm (f : ℝ → ℝ → ℝ → ℝ) (hf : ∀ a b c, f a b c = f b a c) (x y s : List ℝ) :
    sumBy3 f x y s = sumBy3 f y x s := by
  rw [sumBy3_real, sumBy3_real, zip_zip_swap x y s, List.map_map]
  exact congrArg List.sum (List.map_congr_left fun _ _ => hf _ _ _)

theorem sumBy3_self_zero (f : ℝ → ℝ → ℝ → ℝ) (hf : ∀ a c, f a a c = 0) (x s : List ℝ) :
    sumBy3 f x x s = 0 := by
  rw [sumBy3_real, zip_zip_self, List.map_map]
  exact List.sum_eq_zero (List.forall_mem_map.2 fun _ _ => hf _ _)

theorem sumBy3_nonneg (f : ℝ → ℝ → ℝ → ℝ) (x y s : List ℝ)
    (hf : ∀ p ∈ (x.zip y).zip s, 0 ≤ f p.1.1 p.1.2 p.2) : 0 ≤ sumBy3 f x y s := by
  rw [sumBy3_real]
  exact List.sum_nonneg (List.forall_mem_map.2 hf)

theorem vecDiff_real (x y : List ℝ) : vecDiff x y = List.zipWith (fun a b => a - b) x y := rfl

/-- the quadratic form the double loop evaluates: `Σᵢ (Σⱼ Vᵢⱼ dⱼ) dᵢ` (`V` as the list of its rows) -/
noncomputable def quadFormSpec (V : List (List ℝ)) (d : List ℝ) : ℝ :=
  ((V.zip d).map (fun r => (List.zipWith (fun a b => a * b) r.1 d).sum * r.2)).sum

/-- positive semi-definiteness, in the form the kernel evaluates -/
def PosSemidef (V : List (List ℝ)) : Prop :=
  ∀ d : List ℝ, d.length = V.length → 0 ≤ quadFormSpec V d

theorem quadForm_real (V : List (List ℝ)) (d : List ℝ) : quadForm V d = quadFormSpec V d := by
  unfold quadForm quadFormSpec
  rw [foldl_add_eq (fun p : List ℝ × ℝ => dotProd p.1 d * p.2)]
  exact (zero_add _).trans (congrArg List.sum (List.map_congr_left fun p _ =>
    congrArg (· * p.2) (sumBy_real _ p.1 d)))

theorem vecDiff_swap (x y : List ℝ) : vecDiff y x = (vecDiff x y).map (fun v => -v) := by
  rw [vecDiff_real, vecDiff_real, List.zipWith_comm, List.map_zipWith]
  congr 1
  funext a b
  ring

theorem sum_zipWith_mul_neg (r d : List ℝ) :
    (List.zipWith (fun a b => a * b) r (d.map (fun v => -v))).sum =
      -(List.zipWith (fun a b => a * b) r d).sum := by
  rw [List.zipWith_map_right, List.sum_neg, List.map_zipWith]
  simp only [mul_neg]

theorem quadForm_neg (V : List (List ℝ)) (d : List ℝ) :
    quadForm V (d.map (fun v => -v)) = quadForm V d := by
  rw [quadForm_real, quadForm_real, quadFormSpec, quadFormSpec, List.zip_map_right, List.map_map]
  congr 1
  apply List.map_congr_left
  intro p _
  simp only [Function.comp, Prod.map, id]
  rw [sum_zipWith_mul_neg]
  ring

theorem vecDiff_self (x : List ℝ) : ∀ v ∈ vecDiff x x, v = 0 := by
  rw [vecDiff_real, List.zipWith_self]
  exact List.forall_mem_map.2 fun a _ => sub_self a

theorem quadForm_zero (V : List (List ℝ)) (d : List ℝ) (hd : ∀ v ∈ d, v = 0) : quadForm V d = 0 := by
  rw [quadForm_real, quadFormSpec]
  exact List.sum_eq_zero (List.forall_mem_map.2 fun p hp => by
    rw [hd p.2 (List.of_mem_zip hp).2, mul_zero])

theorem haversineRadicand_real (x0 x1 y0 y1 : ℝ) :
    haversineRadicand x0 x1 y0 y1 =
      Real.sin (1 / 2 * (x0 - y0)) * Real.sin (1 / 2 * (x0 - y0)) +
        Real.cos x0 * Real.cos y0 * (Real.sin (1 / 2 * (x1 - y1)) * Real.sin (1 / 2 * (x1 - y1))) := rfl

theorem haversineCore_real (x0 x1 y0 y1 : ℝ) :
    haversineCore x0 x1 y0 y1 =
      2 * Real.arcsin (min (Real.sqrt (haversineRadicand x0 x1 y0 y1)) 1) := rfl

theorem sin_half_mul_self (t : ℝ) :
    Real.sin (1 / 2 * t) * Real.sin (1 / 2 * t) = 1 / 2 - Real.cos t / 2 := by
  rw [← sq, Real.sin_sq_eq_half_sub]
  congr 3
  ring

/-- the haversine formula: the radicand is `(1 − ⟨u, v⟩)/2` for the unit vectors `u`, `v` of the two
points, `⟨u, v⟩ = sin φ₁ sin φ₂ + cos φ₁ cos φ₂ cos(λ₁ − λ₂)` -/
theorem haversineRadicand_eq (x0 x1 y0 y1 : ℝ) :
    haversineRadicand x0 x1 y0 y1 =
      (1 - (Real.sin x0 * Real.sin y0 + Real.cos x0 * Real.cos y0 * Real.cos (x1 - y1))) / 2 := by
  rw [haversineRadicand_real, sin_half_mul_self, sin_half_mul_self, Real.cos_sub x0 y0]
  ring

open Real in
/-- `⟨u, v⟩ ∈ [-1, 1]` for the unit vectors of two points given by latitude and longitude (ALL real
arguments, not only latitudes in `[-π/2, π/2]`): it is the convex combination of `cos (a - b)` and
`-cos (a + b)` with weights `(1 ± cos l)/2`. -/
theorem sphere_inner_mem (a b l : ℝ) :
    -1 ≤ sin a * sin b + cos a * cos b * cos l ∧ sin a * sin b + cos a * cos b * cos l ≤ 1 := by
  have h := convex_Icc (-1 : ℝ) 1 (cos_mem_Icc (a - b))
    ⟨neg_le_neg (cos_le_one (a + b)), neg_le.2 (neg_one_le_cos (a + b))⟩
    (a := (1 + cos l) / 2) (b := (1 - cos l) / 2)
    (div_nonneg (neg_le_iff_add_nonneg'.1 (neg_one_le_cos l)) zero_le_two)
    (div_nonneg (sub_nonneg.2 (cos_le_one l)) zero_le_two)
    (by rw [← add_div, add_add_sub_cancel, one_add_one_eq_two, div_self two_ne_zero])
  rw [smul_eq_mul, smul_eq_mul, cos_sub, cos_add] at h
  have e : sin a * sin b + cos a * cos b * cos l =
      (1 + cos l) / 2 * (cos a * cos b + sin a * sin b) +
        (1 - cos l) / 2 * -(cos a * cos b - sin a * sin b) := by ring
  exact e ▸ h

theorem haversineRadicand_range (x0 x1 y0 y1 : ℝ) :
    0 ≤ haversineRadicand x0 x1 y0 y1 ∧ haversineRadicand x0 x1 y0 y1 ≤ 1 := by
  rw [haversineRadicand_eq]
  obtain ⟨h1, h2⟩ := sphere_inner_mem x0 y0 (x1 - y1)
  exact div_mem_unit (one_sub_mem h1 h2).1 (one_sub_mem h1 h2).2 two_pos

/-- the half-angle formula `sin (θ/2) = √((1 − cos θ)/2)` at `θ = arccos t`: this is what makes `haversine`
the great-circle angle -/
theorem two_arcsin_sqrt_eq_arccos {t : ℝ} (h1 : -1 ≤ t) (h2 : t ≤ 1) :
    2 * Real.arcsin (Real.sqrt ((1 - t) / 2)) = Real.arccos t := by
  have hθ0 := Real.arccos_nonneg t
  have hθπ := Real.arccos_le_pi t
  have hπ := Real.pi_pos.le
  have hs : Real.sin (Real.arccos t / 2) = Real.sqrt ((1 - t) / 2) := by
    rw [Real.sin_half_eq_sqrt hθ0 (hθπ.trans (le_mul_of_one_le_left hπ one_le_two)),
      Real.cos_arccos h1 h2]
  rw [← hs, Real.arcsin_sin
    ((neg_nonpos.2 (div_nonneg hπ zero_le_two)).trans (div_nonneg hθ0 zero_le_two))
    (div_le_div_of_nonneg_right hθπ zero_le_two), two_mul, add_halves]

theorem smoothedPdf_real (x : List ℝ) (n : ℕ) :
    smoothedPdf x n = x.map (fun v => (v + 1 / 8388608) / (l1 x + 1 / 8388608 * (n : ℝ))) := rfl

theorem smoothedPdf_length (x : List ℝ) (n : ℕ) : (smoothedPdf x n).length = x.length := by
  rw [smoothedPdf_real, List.length_map]

/-- `Σ xᵢ + ε·dim = Σ (xᵢ + ε)`: the normaliser is the mass of the smoothed vector -/
theorem smoothed_mass (x : List ℝ) (e : ℝ) :
    l1 x + e * (x.length : ℝ) = (x.map (fun v => v + e)).sum := by
  rw [l1_real, List.sum_map_add, List.map_id', List.map_const', List.sum_replicate, nsmul_eq_mul,
    mul_comm]

theorem smoothed_mass_pos {x : List ℝ} (hx : ∀ a ∈ x, 0 ≤ a) {n : ℕ} (hn : 0 < n) :
    0 < l1 x + 1 / 8388608 * (n : ℝ) :=
  add_pos_of_nonneg_of_pos (l1_nonneg hx) (mul_pos (by norm_num) (Nat.cast_pos.2 hn))

theorem smoothedPdf_pos {x : List ℝ} (hx : ∀ a ∈ x, 0 ≤ a) {n : ℕ} (hn : 0 < n) :
    ∀ p ∈ smoothedPdf x n, 0 < p := by
  rw [smoothedPdf_real]
  exact List.forall_mem_map.2 fun a ha =>
    div_pos (add_pos_of_nonneg_of_pos (hx a ha) (by norm_num)) (smoothed_mass_pos hx hn)

theorem smoothedPdf_zip_pos {x y : List ℝ} (hx : ∀ a ∈ x, 0 ≤ a) (hy : ∀ a ∈ y, 0 ≤ a) {n : ℕ}
    (hn : 0 < n) : ∀ pq ∈ (smoothedPdf x n).zip (smoothedPdf y n), 0 < pq.1 ∧ 0 < pq.2 :=
  fun pq h => ⟨smoothedPdf_pos hx hn pq.1 (List.of_mem_zip h).1,
    smoothedPdf_pos hy hn pq.2 (List.of_mem_zip h).2⟩

theorem jsTerm_real (p q : ℝ) :
    jsTerm p q = 1 / 2 * (p * Real.log (p / (1 / 2 * (p + q))) + q * Real.log (q / (1 / 2 * (p + q)))) := rfl

theorem jsTerm_comm (p q : ℝ) : jsTerm p q = jsTerm q p := by
  rw [jsTerm_real, jsTerm_real, add_comm q p]; ring

/-- for `p = 0` too, through Mathlib's `0 / 0 = 0`, `log 0 = 0` (the code evaluates `0 · log(0/0)`: NaN) -/
theorem jsTerm_self (p : ℝ) : jsTerm p p = 0 := by
  rw [jsTerm_real, show 1 / 2 * (p + p) = p by ring, Real.log_div_self, mul_zero, add_zero, mul_zero]

theorem sklTerm_real (p q : ℝ) :
    sklTerm p q = p * Real.log (p / q) + q * Real.log (q / p) := rfl

theorem sklTerm_comm (p q : ℝ) : sklTerm p q = sklTerm q p := by
  rw [sklTerm_real, sklTerm_real]; ring

theorem sklTerm_self (p : ℝ) : sklTerm p p = 0 := by
  rw [sklTerm_real, Real.log_div_self, mul_zero, add_zero]

/-- `p ln (p / m) ≥ p − m` (`ln t ≥ 1 − 1/t`): Gibbs' inequality term by term -/
theorem sub_le_mul_log_div {p m : ℝ} (hp : 0 < p) (hm : 0 < m) : p - m ≤ p * Real.log (p / m) := by
  have h := mul_le_mul_of_nonneg_left (Real.one_sub_inv_le_log_of_pos (div_pos hp hm)) hp.le
  rwa [inv_div, mul_sub, mul_one, mul_div_cancel₀ _ hp.ne'] at h

/-- each term of the Jensen–Shannon sum is `≥ ½((p − m) + (q − m)) = 0` for positive `p`, `q` -/
theorem jsTerm_nonneg {p q : ℝ} (hp : 0 < p) (hq : 0 < q) : 0 ≤ jsTerm p q := by
  rw [jsTerm_real]
  have hm : 0 < 1 / 2 * (p + q) := mul_pos one_half_pos (add_pos hp hq)
  refine mul_nonneg one_half_pos.le (le_trans (le_of_eq ?_)
    (add_le_add (sub_le_mul_log_div hp hm) (sub_le_mul_log_div hq hm)))
  ring

/-- each term of the symmetrised KL sum is `≥ (p − q) + (q − p) = 0` for positive `p`, `q` -/
theorem sklTerm_nonneg {p q : ℝ} (hp : 0 < p) (hq : 0 < q) : 0 ≤ sklTerm p q := by
  rw [sklTerm_real]
  refine le_trans (le_of_eq ?_) (add_le_add (sub_le_mul_log_div hp hq) (sub_le_mul_log_div hq hp))
  ring

theorem sum_map_div (l : List ℝ) (s : ℝ) : (l.map (fun v => v / s)).sum = l.sum / s := by
  simp only [div_eq_mul_inv, List.sum_map_mul_right, List.map_id']

theorem cumsumGo_real (prev : ℝ) (t : List ℝ) :
    cumsumGo prev t = (List.range t.length).map (fun i => prev + (t.take (i + 1)).sum) := by
  induction t generalizing prev with
  | nil => rfl
  | cons b t ih =>
    simp only [cumsumGo, List.length_cons]
    rw [List.range_succ_eq_map, List.map_cons, List.map_map, ih]
    refine congrArg₂ _ ?_ (List.map_congr_left fun i _ => ?_)
    · rw [List.take_succ_cons, List.take_zero, List.sum_singleton]
      exact add_comm b prev
    · rw [Function.comp, List.take_succ_cons, List.sum_cons]
      show b + prev + _ = prev + (b + _)
      ring

theorem cumsum_real (l : List ℝ) :
    cumsum l = (List.range l.length).map (fun i => (l.take (i + 1)).sum) := by
  cases l with
  | nil => rfl
  | cons a t =>
    simp only [cumsum, List.length_cons]
    rw [List.range_succ_eq_map, List.map_cons, List.map_map, cumsumGo_real]
    refine congrArg₂ _ (by rw [List.take_succ_cons, List.take_zero, List.sum_singleton]) ?_
    apply List.map_congr_left
    intro i _
    simp only [Function.comp, List.take_succ_cons, List.sum_cons]

/-- the cumulative distribution function of the normalised vector: `Fᵢ = (Σ_{j ≤ i} xⱼ) / Σ x` -/
noncomputable def cdf (x : List ℝ) : List ℝ :=
  (List.range x.length).map (fun i => (x.take (i + 1)).sum / x.sum)

theorem cumsum_normalised (x : List ℝ) : cumsum (x.map (fun v => v / l1 x)) = cdf x := by
  rw [cumsum_real, List.length_map]
  unfold cdf
  apply List.map_congr_left
  intro i _
  rw [← List.map_take, sum_map_div, l1_real]

theorem cdf_length (x : List ℝ) : (cdf x).length = x.length := by simp [cdf]

theorem cdf_range {x : List ℝ} (hx : ∀ a ∈ x, 0 ≤ a) (hs : 0 < x.sum) :
    ∀ v ∈ cdf x, 0 ≤ v ∧ v ≤ 1 :=
  List.forall_mem_map.2 fun i _ =>
    div_mem_unit (List.sum_nonneg fun a ha => hx a (List.mem_of_mem_take ha))
      (List.sum_take_add_sum_drop x (i + 1) ▸ le_add_of_nonneg_right
        (List.sum_nonneg fun a ha => hx a (List.mem_of_mem_drop ha))) hs

theorem wasserstein1d_eq_minkowski (x y : List ℝ) (p : ℝ) :
    wasserstein1d x y p = minkowski (cdf x) (cdf y) p := by
  rw [← cumsum_normalised x, ← cumsum_normalised y]
  rfl

/-- bit `0` of `b` is `b % 2`, bit `k + 1` of `b` is bit `k` of `b / 2` -/
theorem popcntFuel_eq (f b : ℕ) : popcntFuel f b = (List.range f).countP (fun k => b.testBit k) := by
  induction f generalizing b with
  | zero => rfl
  | succ f ih =>
    rw [popcntFuel, ih, List.range_succ_eq_map, List.countP_cons, List.countP_map]
    have : ((fun k => b.testBit k) ∘ Nat.succ) = fun k => (b / 2).testBit k :=
      funext fun k => Nat.testBit_succ b k
    rw [this, Nat.testBit_zero, Nat.add_comm]
    congr 1
    rcases Nat.mod_two_eq_zero_or_one b with h | h
    · rw [h]; rfl
    · rw [h]; rfl

theorem popcnt_eq (b : ℕ) : popcnt b = (List.range 8).countP (fun k => b.testBit k) :=
  popcntFuel_eq 8 b

/-- the number of positions `k < 8` at which the bits of `a` and `b` satisfy `op` -/
def bitCount8 (op : Bool → Bool → Bool) (a b : ℕ) : ℕ :=
  (List.range 8).countP (fun k => op (a.testBit k) (b.testBit k))

theorem foldl_popcnt_eq (f : ℕ → ℕ → ℕ) (op : Bool → Bool → Bool)
    (h : ∀ a b k, (f a b).testBit k = op (a.testBit k) (b.testBit k)) (x y : List ℕ) :
    (x.zip y).foldl (fun r p => r + popcnt (f p.1 p.2)) 0 = (List.zipWith (bitCount8 op) x y).sum := by
  rw [foldl_add_eq (fun p : ℕ × ℕ => popcnt (f p.1 p.2)), Nat.zero_add,
    ← List.map_uncurry_zip_eq_zipWith]
  exact congrArg List.sum (List.map_congr_left fun p _ =>
    (popcnt_eq _).trans (congrArg (List.countP · _) (funext (h p.1 p.2))))

theorem bitXorCount_eq (x y : List ℕ) :
    bitXorCount x y = (List.zipWith (bitCount8 (fun u v => u != v)) x y).sum :=
  foldl_popcnt_eq _ _ Nat.testBit_xor x y

theorem bitAndCount_eq (x y : List ℕ) :
    bitAndCount x y = (List.zipWith (bitCount8 (fun u v => u && v)) x y).sum :=
  foldl_popcnt_eq _ _ Nat.testBit_and x y

theorem bitOrCount_eq (x y : List ℕ) :
    bitOrCount x y = (List.zipWith (bitCount8 (fun u v => u || v)) x y).sum :=
  foldl_popcnt_eq _ _ Nat.testBit_or x y

theorem bitCount8_comm (op : Bool → Bool → Bool) (hop : ∀ u v, op u v = op v u) (a b : ℕ) :
    bitCount8 op a b = bitCount8 op b a := by
  unfold bitCount8; congr 1; funext k; exact hop _ _

theorem bitXorCount_comm (x y : List ℕ) : bitXorCount x y = bitXorCount y x := by
  rw [bitXorCount_eq, bitXorCount_eq,
    List.zipWith_comm_of_comm (bitCount8_comm _ (fun u v => by cases u <;> cases v <;> rfl))]

theorem bitAndCount_comm (x y : List ℕ) : bitAndCount x y = bitAndCount y x := by
  rw [bitAndCount_eq, bitAndCount_eq,
    List.zipWith_comm_of_comm (bitCount8_comm _ (fun u v => Bool.and_comm u v))]

theorem bitOrCount_comm (x y : List ℕ) : bitOrCount x y = bitOrCount y x := by
  rw [bitOrCount_eq, bitOrCount_eq,
    List.zipWith_comm_of_comm (bitCount8_comm _ (fun u v => Bool.or_comm u v))]

theorem bitXorCount_self (x : List ℕ) : bitXorCount x x = 0 := by
  rw [bitXorCount_eq, List.zipWith_self]
  exact List.sum_eq_zero (List.forall_mem_map.2 fun a _ =>
    List.countP_eq_zero.2 fun k _ => ne_true_of_eq_false (bne_self_eq_false (a.testBit k)))

theorem bitAndCount_self (x : List ℕ) : bitAndCount x x = bitOrCount x x := by
  rw [bitAndCount_eq, bitOrCount_eq, List.zipWith_self, List.zipWith_self]
  exact congrArg List.sum (List.map_congr_left fun a _ => congrArg (List.countP · _)
    (funext fun k => (Bool.and_self _).trans (Bool.or_self _).symm))

theorem bitCount8_and_le_or (a b : ℕ) :
    bitCount8 (fun u v => u && v) a b ≤ bitCount8 (fun u v => u || v) a b :=
  List.countP_mono_left fun _ _ h => by
    rw [Bool.and_eq_true] at h
    rw [h.1]
    exact Bool.true_or _

theorem bitAndCount_le_bitOrCount (x y : List ℕ) : bitAndCount x y ≤ bitOrCount x y := by
  rw [bitAndCount_eq, bitOrCount_eq, ← List.map_uncurry_zip_eq_zipWith,
    ← List.map_uncurry_zip_eq_zipWith]
  exact List.sum_le_sum fun p _ => bitCount8_and_le_or p.1 p.2

theorem bitJaccardOfCounts_real (r d : ℝ) :
    bitJaccardOfCounts r d = if d = 0 then 0 else -Real.log (r / d) := by
  unfold bitJaccardOfCounts; simp only [real_arith]

theorem clampCos_real (c : ℝ) : clampCos c = min (max c (-1)) 1 := rfl

theorem clampCos_of_mem {c : ℝ} (h1 : -1 ≤ c) (h2 : c ≤ 1) : clampCos c = c := by
  rw [clampCos_real, max_eq_left h1, min_eq_left h2]

theorem tsss_real (x y : List ℝ) : tsss x y =
    (let ed := Real.sqrt (squaredEuclidean x y)
     let nx := Real.sqrt (normSq x)
     let ny := Real.sqrt (normSq y)
     let md := |nx - ny|
     let theta := Real.arccos (clampCos (dotProd x y / (nx * ny))) + 10 * (Real.pi / 180)
     nx * ny * Real.sin theta / 2 * ((ed + md) * (ed + md) * theta)) := rfl

theorem rankAverage_real (a : List ℝ) :
    rankAverage a = a.map (fun v => 1 / 2 *
      ((a.countP (fun u => decide (u ≤ v)) + a.countP (fun u => decide (u < v)) + 1 : ℕ) : ℝ)) := rfl

theorem rankAverage_length (a : List ℝ) : (rankAverage a).length = a.length := by
  rw [rankAverage_real, List.length_map]

/-! ### `ℝ` is an `RArith` (with the no-underflow facts) -/

noncomputable instance instRArithReal : RArith ℝ where
  toArith := instArithReal
  toTrig := instTrigReal
  le_refl := _root_.le_refl
  le_trans := _root_.le_trans
  lt_of_not_le := not_le.1
  le_of_lt := _root_.le_of_lt
  pos_ne_zero := fun h => decide_eq_false h.ne'
  pos_of_nonneg_of_ne := fun h0 h => lt_of_le_of_ne h0 (Ne.symm (of_decide_eq_false h))
  zero_le_one := _root_.zero_le_one
  neg_one_le_zero := neg_one_lt_zero.le
  pi_pos := Real.pi_pos
  ofNat_pos := Nat.cast_pos.2
  add_nonneg := _root_.add_nonneg
  mul_nonneg := _root_.mul_nonneg
  mul_self_nonneg := _root_.mul_self_nonneg
  div_nonneg := fun h1 h2 => _root_.div_nonneg h1 h2.le
  abs_nonneg := _root_.abs_nonneg
  sqrt_nonneg := fun _ => Real.sqrt_nonneg _
  sqrt_pos := Real.sqrt_pos.2
  le_max_left := _root_.le_max_left
  le_max_right := _root_.le_max_right
  min_le_left := _root_.min_le_left
  min_le_right := _root_.min_le_right
  le_min := _root_.le_min

noncomputable instance instRArithNUReal : RArithNU ℝ where
  toRArith := instRArithReal
  mul_pos := fun h1 h2 => _root_.mul_pos h1 h2
  div_pos := fun h1 h2 => _root_.div_pos h1 h2

end Pynn.Metrics
