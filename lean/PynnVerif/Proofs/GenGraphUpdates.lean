import PynnVerif.Proofs.GenLeafUpdates

/-!
# The translated `pynndescent_.generate_graph_updates` refines the model's `joinUpdates`

For every vertex `i` of the block: new × new pairs (`for k in range(j, max_candidates)`, so the self pair is included),
then new × old pairs; `continue` on a negative entry; test `d <= thr[p] or d <= thr[q]`.
The scan loop and the loop over a vertex's new candidates are proved here (`graph_scan`, `graph_loop1`); the theorem about
the kernel is stated and proved from them in `Props/C03.lean` (`kernel_generate_graph_updates_refines`).
-/
namespace Pynn
open GenK
variable {P : Type} [LE P] [DecidableLE P]

set_option smartUnfolding false in
/-- the scan over the old candidates is a textually separate copy of the scan over the new ones: the same term (see
`SameLoop` in `Proofs/GenMetrics.lean` for why `rfl` needs smart unfolding off) -/
theorem graph_loop3_eq : @generate_graph_updates.loop3 P _ _ = generate_graph_updates.loop2 := rfl

/-- **the scan loop of `generate_graph_updates`** (`for k in range(.., max_candidates): q = block[i, k]; if q < 0: continue;
test; append`) over row `i` of `block` -/
theorem graph_scan (block : Array (Array Int)) (th : Array P) (data : Array (Array P)) (dist : Array P → Array P → P)
    (top : P) (n pn w : Nat) (hn : n < block.size) (hw : block[n].size = w) (hpd : pn < data.size) (hpt : pn < th.size)
    (hok : LeafRowOk block[n] data.size) (hok' : LeafRowOk block[n] th.size) :
    ∀ (fuel : Nat) (U : Array (Array (Int × Int × P))) (k : Nat), n < U.size → k ≤ w → w < fuel →
    ∃ k', generate_graph_updates.loop2 block th data dist (n : Int) (pn : Int) (w : Int) fuel U (k : Int)
      = some (.next (emitRow n U
          (((validC (block[n].toList.drop k)).filterMap (joinTest (thrOf th top) (distOf data dist) pn)).map triple), k')) := by
  refine for_emit (generate_graph_updates.loop2 block th data dist (n : Int) (pn : Int) (w : Int)) (emitRow n)
    (n < ·.size) (emitRow_nil n) (emitRow_emitRow n) block[n].toList w (Array.length_toList.trans hw)
    (fun l => ((validC l).filterMap (joinTest (thrOf th top) (distOf data dist) pn)).map triple) rfl 0 (fun _ _ _ hk => if_neg hk) ?_
  intro fuel U k hk hU _
  have hkr : k < block[n].size := Array.length_toList ▸ hk
  rw [drop_cons _ k hkr]
  simp only [generate_graph_updates.loop2, cursor_lt, hw ▸ hkr, ↓reduceIte, rd_lt block n hn, rd_lt block[n] k hkr, Option.bind_eq_bind,
    Option.bind_some]
  left
  by_cases hq : block[n][k] < 0
  · simp only [hq, ↓reduceIte, validC_neg _ _ hq]
    exact ⟨[], (List.nil_append _).symm, by rw [emitRow_nil n U hU]⟩
  · obtain ⟨qn, hqn⟩ := Int.eq_ofNat_of_zero_le (Int.not_lt.mp hq)
    have hqd := hok.lt hkr hqn
    have hqt := hok'.lt hkr hqn
    rw [hqn] at hq ⊢
    simp only [hq, ↓reduceIte, rd_lt data pn hpd, rd_lt data qn hqd, rd_lt th pn hpt, rd_lt th qn hqt, rd_lt U n hU,
      Option.bind_some, wr_lt U n _ hU, validC_nonneg, List.filterMap_cons, joinTest, thrOf_lt th top hpt,
      thrOf_lt th top hqt, distOf_lt data dist hpd hqd, emitRow_push n U _ hU]
    by_cases h1 : dist data[pn] data[qn] ≤ th[pn]
    · simp only [h1, ↓reduceIte, true_or, List.map_cons, triple]
      exact ⟨_, rfl, rfl⟩
    · by_cases h2 : dist data[pn] data[qn] ≤ th[qn]
      · simp only [h1, h2, ↓reduceIte, or_true, List.map_cons, triple]
        exact ⟨_, rfl, rfl⟩
      · simp only [h1, h2, ↓reduceIte, or_self]
        exact ⟨[], (List.nil_append _).symm, by rw [emitRow_nil n U hU]⟩

theorem graph_loop1 (nb ob : Array (Array Int)) (th : Array P) (data : Array (Array P))
    (dist : Array P → Array P → P) (top : P) (n w : Nat) (hn : n < nb.size) (hn' : n < ob.size)
    (hw : nb[n].size = w) (hw' : ob[n].size = w)
    (hok : LeafRowOk nb[n] data.size) (hok' : LeafRowOk nb[n] th.size)
    (hoo : LeafRowOk ob[n] data.size) (hoo' : LeafRowOk ob[n] th.size) :
    ∀ (fuel : Nat) (U : Array (Array (Int × Int × P))) (j : Nat), n < U.size → j ≤ w → w + w < fuel →
    ∃ j', generate_graph_updates.loop1 nb ob th data dist (w : Int) (n : Int) (w : Int) fuel U (j : Int)
      = some (.next (emitRow n U
          ((joinUpdates.go ob[n].toList (joinTest (thrOf th top) (distOf data dist)) (nb[n].toList.drop j)).map triple),
          j')) := by
  refine for_emit (generate_graph_updates.loop1 nb ob th data dist (w : Int) (n : Int) (w : Int)) (emitRow n)
    (n < ·.size) (emitRow_nil n) (emitRow_emitRow n) nb[n].toList w (Array.length_toList.trans hw)
    (fun l => (joinUpdates.go ob[n].toList (joinTest (thrOf th top) (distOf data dist)) l).map triple)
    (by rw [joinUpdates.go.eq_1]; rfl) w (fun _ _ _ hj => if_neg hj) ?_
  intro fuel U j hj hU hb
  have hjr : j < nb[n].size := Array.length_toList ▸ hj
  have hd := drop_cons nb[n] j hjr
  simp only [generate_graph_updates.loop1, cursor_lt, hw ▸ hjr, ↓reduceIte, rd_lt nb n hn, rd_lt nb[n] j hjr,
    Option.bind_eq_bind, Option.bind_some]
  left
  by_cases hp : nb[n][j] < 0
  · simp only [hp, ↓reduceIte, hd, joinUpdates_go_neg _ _ _ _ hp]
    exact ⟨[], (List.nil_append _).symm, by rw [emitRow_nil n U hU]⟩
  · obtain ⟨pn, hpn⟩ := Int.eq_ofNat_of_zero_le (Int.not_lt.mp hp)
    have hpd := hok.lt hjr hpn
    have hpt := hok'.lt hjr hpn
    rw [hpn] at hp hd ⊢
    obtain ⟨k2, h2⟩ := graph_scan nb th data dist top n pn w hn hw hpd hpt hok hok' fuel U j hU
      (hw ▸ Nat.le_of_lt hjr) hb
    obtain ⟨k3, h3⟩ := graph_scan ob th data dist top n pn w hn' hw' hpd hpt hoo hoo' fuel
      (emitRow n U _) 0 ((emitRow_size ..).symm ▸ hU) (Nat.zero_le _) hb
    rw [(emitRow_emitRow n U _ _ hU).2, List.drop_zero] at h3
    simp only [hp, ↓reduceIte, h2, Option.bind_some, Int.natCast_zero, graph_loop3_eq] at h3 ⊢
    rw [h3]
    refine ⟨_, ?_, rfl⟩
    rw [hd, joinUpdates_go_nonneg, List.map_append, List.map_append]

end Pynn
