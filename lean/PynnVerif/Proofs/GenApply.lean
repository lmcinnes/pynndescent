import PynnVerif.Proofs.GenHeap
import PynnVerif.Proofs.GenLoop
import PynnVerif.Proofs.DescentBasic

/-!
# The translated `utils.apply_graph_updates_low_memory` refines the NN-descent model's `applyLow`

`Gen/Kernels.lean` translates the low-memory update applier: three nested loops (thread number `n`,
update block `i`, entry `j`), the tuple `(p, q, d) = updates[i][j]`, the `continue` on `p == -1 or q == -1`,
`p % n_threads == n`, and the two calls of the translated `checked_flagged_heap_push` on the rows
`priorities[p]`, `indices[p]`, `flags[p]` with write-back of what the callee stored.
The three loops are proved here, `low_loop0` being the whole body; the theorem about the kernel is stated and proved
from it in `Props/C12.lean` (`kernel_apply_graph_updates_low_memory_refines`).

The file also has what the other appliers share with this one: `Rep` (three 2-D arrays hold a graph) with the one
lemma `Rep.push_bind` for a push into a row with write-back, and the reading of the kernel's `updates` as the model's
update list (`updOf`, `onTriple`, `foldl_updsOf`).
-/
namespace Pynn
open GenK
variable {P : Type}

/-- the graph held in the three 2-D arrays `(priorities, indices, flags)` -/
def zipGraph (D : Array (Array P)) (I F : Array (Array Int)) : Graph P :=
  Array.zipWith (fun (e : Array P × Array Int) f => zip3 e.1 e.2 f) (Array.zip D I) F

/-- what the kernel does with one update triple: skipped when `p == -1 or q == -1` -/
def updOf (x : Int × Int × P) : Option (Upd P) :=
  if x.1 = -1 ∨ x.2.1 = -1 then none else some ⟨x.1.toNat, x.2.1.toNat, x.2.2⟩

/-- the model's update list of the kernel's `updates` (a list of per-block lists of triples): the blocks
concatenated in order, the `-1` placeholders dropped -/
def updsOf (updates : Array (Array (Int × Int × P))) : List (Upd P) :=
  (updates.toList.flatMap (·.toList)).filterMap updOf

/-- a triple the kernel can process on `n` rows: a placeholder, or both ends are row numbers -/
def OkTriple (n : Nat) (x : Int × Int × P) : Prop :=
  x.1 = -1 ∨ x.2.1 = -1 ∨ (0 ≤ x.1 ∧ x.1 < n ∧ 0 ≤ x.2.1 ∧ x.2.1 < n)

/-- a row number is not the placeholder -/
theorem natCast_ne_neg_one (p : Nat) : ¬ (p : Int) = -1 := by omega

theorem updOf_natCast (p q : Nat) (d : P) : updOf ((p : Int), (q : Int), d) = some ⟨p, q, d⟩ := by
  simp only [updOf, natCast_ne_neg_one, or_self, if_false, Int.toNat_natCast]

/-- a step of a fold of the model, run on one triple of the kernel's `updates` -/
def onTriple {β : Type} (step : β → Upd P → β) (a : β) (x : Int × Int × P) : β :=
  match updOf x with
  | some u => step a u
  | none => a

/-- a fold over the model's update list is the kernel's double loop over blocks and entries -/
theorem foldl_updsOf {β : Type} (step : β → Upd P → β) (updates : Array (Array (Int × Int × P))) (acc : β) :
    (updsOf updates).foldl step acc
      = updates.toList.foldl (fun acc b => b.toList.foldl (onTriple step) acc) acc := by
  rw [updsOf, List.foldl_filterMap, List.foldl_flatMap]
  congr 1
  funext acc b
  congr 1
  funext a x
  unfold onTriple
  cases updOf x <;> rfl

/-- One pass of the entry loop of an applier, written once: `p, q, d = updates[i][j]`, `continue` on a placeholder,
else `body`; `exit` when the block is exhausted.  What follows a statement is an argument (`K`, run on the loop
variables `s`): the translator copies it into every branch, here it stands once. -/
def entryPass {S β : Type} (updates : Array (Array (Int × Int × P))) (i stop j : Int) (exit : Option β)
    (K : S → Option β) (s : S) (body : P → (S → Option β) → Int → Int → S → Option β) : Option β := do
  if j < stop then
    let (p, q, d) := (← rd (← rd updates i) j)
    if p = (-(1 : Int)) then
      K s
    else
      if q = (-(1 : Int)) then
        K s
      else
        body d K p q s
  else
    exit

/-- An entry loop `L` of an applier folds the model's step over the triples of block `i`: `body fuel d K p q s` is what
one pass does with a pair of row numbers before it goes on with `K`, and it stands for `step` whatever `K` is. -/
theorem for_entries {S O ρ M : Type} (L : Nat → S → Int → Option (LoopOut O ρ)) (out : S → Int → O)
    (body : Nat → P → (S → Option (LoopOut O ρ)) → Int → Int → S → Option (LoopOut O ρ))
    (updates : Array (Array (Int × Int × P))) (i : Nat) (hi : i < updates.size)
    (hL : ∀ fuel s j, L (fuel + 1) s j = entryPass updates (i : Int) (updates[i].size : Int) j
      (pure (.next (out s j))) (fun s' => L fuel s' (j + 1)) s (body fuel))
    (n : Nat) (hok : ∀ x ∈ updates[i].toList, OkTriple n x)
    (step : M → Upd P → M) (R : M → S → Prop) (b : Nat)
    (hbody : ∀ fuel s m (p q : Nat) d, p < n → q < n → R m s → b < fuel →
      ∃ s', R (step m ⟨p, q, d⟩) s' ∧ ∀ K, body fuel d K (p : Int) (q : Int) s = K s') :
    ∀ fuel s m, R m s → updates[i].size + b < fuel →
      ∃ s', R (updates[i].toList.foldl (onTriple step) m) s' ∧
        L fuel s 0 = some (.next (out s' (updates[i].size : Int))) := by
  refine for_fold L out updates[i].toList updates[i].size Array.length_toList _ R b ?_ ?_
  · intro fuel s j hj
    rw [hL, entryPass, if_neg hj]
    rfl
  · intro fuel s m j hj h hf
    have hlt : j < updates[i].size := Array.length_toList ▸ hj
    rw [Array.getElem_toList]
    have hmem := hok _ (Array.getElem_mem_toList hlt)
    rcases hx : updates[i][j] with ⟨p, q, d⟩
    rw [hx] at hmem
    simp only [hL, entryPass, cursor_lt, hlt, ↓reduceIte, rd_lt updates i hi, rd_lt updates[i] j hlt,
      Option.bind_eq_bind, Option.bind_some, hx, onTriple]
    by_cases hp : p = -1
    · simp only [hp, ↓reduceIte, updOf, true_or]
      exact ⟨_, h, rfl⟩
    by_cases hq : q = -1
    · simp only [hp, hq, ↓reduceIte, updOf, or_true]
      exact ⟨_, h, rfl⟩
    obtain ⟨hp0, hpn, hq0, hqn⟩ := (Or.resolve_left hmem hp).resolve_left hq
    obtain ⟨pn, rfl⟩ := Int.eq_ofNat_of_zero_le hp0
    obtain ⟨qn, rfl⟩ := Int.eq_ofNat_of_zero_le hq0
    obtain ⟨s', h', e⟩ := hbody fuel s m pn qn d (Int.ofNat_lt.mp hpn) (Int.ofNat_lt.mp hqn) h hf
    simp only [hp, hq, ↓reduceIte, updOf_natCast, e]
    exact ⟨s', h', rfl⟩

/-- the three arrays hold the graph `g`: `n` rows, every row with `k` slots -/
structure Rep (n k : Nat) (D : Array (Array P)) (I F : Array (Array Int)) (g : Graph P) : Prop where
  sg : g.size = n
  sD : D.size = n
  sI : I.size = n
  sF : F.size = n
  row : ∀ r (h : r < n), (D[r]'(sD ▸ h)).size = k ∧ (I[r]'(sI ▸ h)).size = k ∧ (F[r]'(sF ▸ h)).size = k ∧
      zip3 (D[r]'(sD ▸ h)) (I[r]'(sI ▸ h)) (F[r]'(sF ▸ h)) = g[r]'(sg ▸ h)

theorem Rep.of_rect (k : Nat) (D : Array (Array P)) (I F : Array (Array Int))
    (hI : I.size = D.size) (hF : F.size = D.size)
    (hk : ∀ r (h : r < D.size), D[r].size = k ∧ (I[r]'(hI ▸ h)).size = k ∧ (F[r]'(hF ▸ h)).size = k) :
    Rep D.size k D I F (zipGraph D I F) := by
  refine ⟨by simp [zipGraph, hI, hF], rfl, hI, hF, fun r h => ?_⟩
  obtain ⟨a, b, c⟩ := hk r h
  exact ⟨a, b, c, by simp [zipGraph]⟩

/-- `Rep` in terms of the arrays alone, in the form the refinement theorems state it -/
theorem Rep.explicit {n k : Nat} {D : Array (Array P)} {I F : Array (Array Int)} {g : Graph P} (h : Rep n k D I F g) :
    D.size = n ∧ I.size = n ∧ F.size = n ∧
      (∀ r (h : r < D.size) (h' : r < I.size) (h'' : r < F.size),
        D[r].size = k ∧ I[r].size = k ∧ F[r].size = k ∧ g[r]? = some (zip3 D[r] I[r] F[r])) ∧
      zipGraph D I F = g := by
  refine ⟨h.sD, h.sI, h.sF, fun r h1 _ _ => ?_, Array.ext ?_ fun r _ h2 => ?_⟩
  · have hr : r < n := h.sD ▸ h1
    obtain ⟨b1, b2, b3, b4⟩ := h.row r hr
    exact ⟨b1, b2, b3, by rw [b4, Array.getElem?_eq_getElem (h.sg ▸ hr)]⟩
  · simp [zipGraph, h.sD, h.sI, h.sF, h.sg]
  · simpa [zipGraph] using (h.row r (h.sg ▸ h2)).2.2.2

theorem Rep.set {n k : Nat} {D : Array (Array P)} {I F : Array (Array Int)} {g : Graph P} (hR : Rep n k D I F g)
    {p : Nat} (hp : p < g.size) {m0 : Array P} {m1 m2 : Array Int} (h0 : m0.size = k) (h1 : m1.size = k)
    (h2 : m2.size = k) :
    Rep n k (D.setIfInBounds p m0) (I.setIfInBounds p m1) (F.setIfInBounds p m2) (g.set p (zip3 m0 m1 m2) hp) := by
  refine ⟨(Array.size_set ..).trans hR.sg, (Array.size_setIfInBounds ..).trans hR.sD,
    (Array.size_setIfInBounds ..).trans hR.sI, (Array.size_setIfInBounds ..).trans hR.sF, fun r h => ?_⟩
  rw [Array.getElem_setIfInBounds (hR.sD ▸ h), Array.getElem_setIfInBounds (hR.sI ▸ h),
    Array.getElem_setIfInBounds (hR.sF ▸ h), Array.getElem_set]
  split
  · exact ⟨h0, h1, h2, rfl⟩
  · exact hR.row r h

/-- the arrays `make_heap(n, k)` returns hold the empty graph -/
theorem zipGraph_replicate (top : P) (n k : Nat) :
    zipGraph (Array.replicate n (Array.replicate k top)) (Array.replicate n (Array.replicate k (-1 : Int)))
      (Array.replicate n (Array.replicate k (0 : Int))) = mkGraph top n k := by
  apply Array.ext
  · simp [zipGraph, mkGraph]
  · intro r h1 h2
    simp [zipGraph, mkGraph, zip3_replicate]

variable [LE P] [LT P] [DecidableLE P] [DecidableLT P]

/-- `rv = checked_flagged_heap_push(priorities[p], indices[p], flags[p], d, q, f)` with the three write-backs,
followed by any continuation `K`, is `K` on arrays that hold the model's `pushInto`.  (`m0 m1 m2` are the rows the
callee returned; they are named only because `K` is handed them, and no caller looks at them.) -/
theorem Rep.push_bind {n k : Nat} (hk : 0 < k) {D : Array (Array P)} {I F : Array (Array Int)} {g : Graph P}
    (hR : Rep n k D I F g) {p : Nat} (hp : p < n) (d : P) (q f : Int) {fuel : Nat} (hf : k < fuel) :
    ∃ D' I' F' m0 m1 m2, Rep n k D' I' F' (pushInto g p d q (f != 0)).1 ∧
      ∀ {β : Type} (K : Array (Array P) → Array (Array Int) → Array (Array Int) →
          (Array P × Array Int × Array Int × Int) → Option β),
        ((rd D (p : Int)).bind fun a => (rd I (p : Int)).bind fun b => (rd F (p : Int)).bind fun c =>
          (checked_flagged_heap_push fuel a b c d q f).bind fun x =>
            (wr D (p : Int) x.1).bind fun D1 => (wr I (p : Int) x.2.1).bind fun I1 =>
              (wr F (p : Int) x.2.2.1).bind fun F1 => K D1 I1 F1 x)
        = K D' I' F' (m0, m1, m2, if (pushInto g p d q (f != 0)).2 then 1 else 0) := by
  have hD : p < D.size := hR.sD ▸ hp
  have hI : p < I.size := hR.sI ▸ hp
  have hF : p < F.size := hR.sF ▸ hp
  have hg : p < g.size := hR.sg ▸ hp
  obtain ⟨r1, r2, r3, r4⟩ := hR.row p hp
  obtain ⟨m0, m1, m2, h1, s1, s2, s3, hz⟩ := checked_flagged_heap_push_refines D[p] I[p] F[p] d q f fuel
    (r1.trans r2.symm) (r1.trans r3.symm) (r1 ▸ hk) (r1 ▸ hf)
  rw [r4] at hz h1
  rw [pushInto_lt g p hg, ← hz]
  refine ⟨_, _, _, m0, m1, m2, hR.set hg (s1.trans r1) (s2.trans r2) (s3.trans r3), fun K => ?_⟩
  simp only [rd_lt D p hD, rd_lt I p hI, rd_lt F p hF, Option.bind_some, h1, wr_lt D p m0 hD, wr_lt I p m1 hI,
    wr_lt F p m2 hF]

theorem cast_count (c : Nat) (b : Bool) :
    (c : Int) + (if b then (1 : Int) else 0) = ((c + if b then 1 else 0 : Nat) : Int) := by
  cases b <;> simp

/-- the loop variables `(n_changes, priorities, indices, flags)`, in the order in which the generated loops carry
them (it is the translator's, and moves with it) -/
abbrev LSt (P : Type) := Int × Array (Array P) × Array (Array Int) × Array (Array Int)

/-- the loop variables hold the model's `(graph, count)` -/
inductive LowRep (n k : Nat) : Graph P × Nat → LSt P → Prop
  | mk (D I F m) (hR : Rep n k D I F m.1) : LowRep n k m ((m.2 : Int), D, I, F)

/-- `if c: n_changes += checked_flagged_heap_push(…[r], d, x, 1)` (`c` is `r % n_threads == n`), followed by `K` -/
def pushIf {β : Type} (fuel : Nat) (d : P) (K : LSt P → Option β) (c : Prop) [Decidable c] (r x : Int) :
    LSt P → Option β
  | (cnt, D, I, F) => do
    if c then
      let (m0, m1, m2, rv) ← checked_flagged_heap_push fuel (← rd D r) (← rd I r) (← rd F r) d x (1 : Int)
      let D ← wr D r m0
      let I ← wr I r m1
      let F ← wr F r m2
      K (cnt + rv, D, I, F)
    else
      K (cnt, D, I, F)

/-- The translated entry loop at `fuel + 1` is, by unfolding alone, one `entryPass` whose body is the two `pushIf`.
A theorem of its own: checked where it is used, the same `rfl` leaves the unifier with postponed metavariables and
is far dearer. -/
theorem low_loop2_succ (updates : Array (Array (Int × Int × P))) (T t i stop : Int) (fuel : Nat) (s : LSt P) (j : Int) :
    apply_graph_updates_low_memory.loop2 updates T t i stop (fuel + 1) s.1 s.2.1 s.2.2.1 s.2.2.2 j
      = entryPass updates i stop j (pure (.next (s.1, s.2.1, s.2.2.1, s.2.2.2, j)))
          (fun s => apply_graph_updates_low_memory.loop2 updates T t i stop fuel s.1 s.2.1 s.2.2.1 s.2.2.2 (j + 1)) s
          fun d K p q => pushIf fuel d (pushIf fuel d K (q % T = t) q p) (p % T = t) p q := rfl

theorem pushIf_eq {β : Type} {n k fuel : Nat} (hk : 0 < k) (hf : k < fuel) {m : Graph P × Nat} {st : LSt P}
    (h : LowRep n k m st) (c : Prop) [Decidable c] {r : Nat} (hr : r < n) (d : P) (x : Int) :
    ∃ st', LowRep n k (if c then ((pushInto m.1 r d x true).1, m.2 + if (pushInto m.1 r d x true).2 then 1 else 0) else m)
        st' ∧
      ∀ K : LSt P → Option β, pushIf fuel d K c (r : Int) x st = K st' := by
  obtain ⟨D, I, F, m, hR⟩ := h
  by_cases hc : c
  · obtain ⟨D1, I1, F1, _, _, _, hR1, hK1⟩ := hR.push_bind hk hr d x 1 hf
    rw [if_pos hc]
    refine ⟨_, .mk D1 I1 F1 (_, _) hR1, fun K => ?_⟩
    simp only [pushIf, if_pos hc, Option.bind_eq_bind, hK1, cast_count]
    rfl
  · rw [if_neg hc]
    exact ⟨_, .mk D I F m hR, fun K => by simp only [pushIf, if_neg hc]⟩

theorem low_loop2 (n k : Nat) (hk : 0 < k) (updates : Array (Array (Int × Int × P))) (T t i : Nat)
    (hi : i < updates.size) (hok : ∀ x ∈ updates[i].toList, OkTriple n x) :
    ∀ fuel s m, LowRep n k m s → updates[i].size + k < fuel →
      ∃ s', LowRep n k (updates[i].toList.foldl (onTriple (lowStep T t)) m) s' ∧
        apply_graph_updates_low_memory.loop2 updates (T : Int) (t : Int) (i : Int) (updates[i].size : Int)
          fuel s.1 s.2.1 s.2.2.1 s.2.2.2 0
        = some (.next (s'.1, s'.2.1, s'.2.2.1, s'.2.2.2, (updates[i].size : Int))) := by
  refine for_entries (fun fuel s j => apply_graph_updates_low_memory.loop2 updates (T : Int) (t : Int) (i : Int)
      (updates[i].size : Int) fuel s.1 s.2.1 s.2.2.1 s.2.2.2 j) (fun s j => (s.1, s.2.1, s.2.2.1, s.2.2.2, j))
    (fun fuel d K p q => pushIf fuel d (pushIf fuel d K (q % T = t) q p) (p % T = t) p q) updates i hi
    (low_loop2_succ updates _ _ _ _) n hok _ (LowRep n k) k ?_
  intro fuel s m pn qn d hpn hqn h hb
  obtain ⟨s1, h1, e1⟩ := pushIf_eq hk hb h ((pn : Int) % T = t) hpn d (qn : Int)
  obtain ⟨s2, h2, e2⟩ := pushIf_eq hk hb h1 ((qn : Int) % T = t) hqn d (pn : Int)
  simp only [← Int.natCast_emod, Int.natCast_inj] at h2
  exact ⟨s2, h2, fun K => (e1 _).trans (e2 K)⟩

/-- The fuel bounds follow the convention of `Proofs/RangeLoop.lean`: the push asks `k < fuel`, a block of at most
`M` entries `M + k < fuel`, and so on outwards. -/
theorem low_loop1 (n k : Nat) (hk : 0 < k) (updates : Array (Array (Int × Int × P))) (T t M : Nat)
    (hM : ∀ b ∈ updates.toList, b.size ≤ M) (hok : ∀ b ∈ updates.toList, ∀ x ∈ b.toList, OkTriple n x) :
    ∀ fuel s m, LowRep n k m s → updates.size + (M + k) < fuel →
      ∃ s', LowRep n k (updates.toList.foldl (fun acc b => b.toList.foldl (onTriple (lowStep T t)) acc) m) s' ∧
        apply_graph_updates_low_memory.loop1 updates (T : Int) (t : Int) (updates.size : Int)
          fuel s.1 s.2.1 s.2.2.1 s.2.2.2 0
        = some (.next (s'.1, s'.2.1, s'.2.2.1, s'.2.2.2, (updates.size : Int))) := by
  refine for_fold (fun fuel s i => apply_graph_updates_low_memory.loop1 updates (T : Int) (t : Int)
      (updates.size : Int) fuel s.1 s.2.1 s.2.2.1 s.2.2.2 i) (fun s j => (s.1, s.2.1, s.2.2.1, s.2.2.2, j))
    updates.toList updates.size Array.length_toList _ (LowRep n k) (M + k) (fun _ _ _ hj => if_neg hj) ?_
  intro fuel s m i hi hR hb
  have hlt : i < updates.size := Array.length_toList ▸ hi
  rw [Array.getElem_toList]
  have hmem := Array.getElem_mem_toList hlt
  obtain ⟨s', hR', e⟩ := low_loop2 n k hk updates T t i hlt (hok _ hmem) fuel s m hR
    (Nat.lt_of_le_of_lt (Nat.add_le_add_right (hM _ hmem) _) hb)
  refine ⟨s', hR', ?_⟩
  simp only [apply_graph_updates_low_memory.loop1, cursor_lt, hlt, ↓reduceIte, rd_lt updates i hlt,
    Option.bind_eq_bind, Option.bind_some]
  rw [e]
  rfl

theorem low_loop0 (n k : Nat) (hk : 0 < k) (updates : Array (Array (Int × Int × P))) (T M : Nat)
    (hM : ∀ b ∈ updates.toList, b.size ≤ M) (hok : ∀ b ∈ updates.toList, ∀ x ∈ b.toList, OkTriple n x) :
    ∀ fuel s m, LowRep n k m s → T + (updates.size + (M + k)) < fuel →
      ∃ s', LowRep n k ((List.range T).foldl (fun acc t => (updsOf updates).foldl (lowStep T t) acc) m) s' ∧
        apply_graph_updates_low_memory.loop0 updates (T : Int) (T : Int) fuel s.1 s.2.1 s.2.2.1 s.2.2.2 0
        = some (.next (s'.1, s'.2.1, s'.2.2.1, s'.2.2.2, (T : Int))) := by
  refine for_fold (fun fuel s t => apply_graph_updates_low_memory.loop0 updates (T : Int) (T : Int)
      fuel s.1 s.2.1 s.2.2.1 s.2.2.2 t) (fun s j => (s.1, s.2.1, s.2.2.1, s.2.2.2, j))
    (List.range T) T List.length_range _ (LowRep n k) (updates.size + (M + k)) (fun _ _ _ hj => if_neg hj) ?_
  intro fuel s m t ht hR hb
  have hlt : t < T := Nat.lt_of_lt_of_eq ht List.length_range
  rw [List.getElem_range, foldl_updsOf]
  obtain ⟨s', hR', e⟩ := low_loop1 n k hk updates T t M hM hok fuel s m hR hb
  refine ⟨s', hR', ?_⟩
  simp only [apply_graph_updates_low_memory.loop0, cursor_lt, hlt, ↓reduceIte, Option.bind_eq_bind]
  rw [e]
  rfl

end Pynn
