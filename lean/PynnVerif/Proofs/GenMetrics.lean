import PynnVerif.Gen.MetricKernels
import PynnVerif.Proofs.RangeLoop

/-! # The translated dense metric kernels of `distances.py` refine the hand-written model

`Gen/MetricKernels.lean` (namespace `Pynn.GenMetric`) is regenerated from the source text of
`pynndescent/distances.py` by `harness/translate_metrics.py`.  Almost every kernel is one loop over
two arrays of equal size; `zip_loop` says once what such a loop hands on from cursor `0` with fuel
`≥ x.size + 1` (no out-of-bounds load): the fold of its step over the two arrays, with several
carried variables packed by `par` and taken apart again into the model's own sums (`fold2_par`,
`fold2_left`, `fold2_right`).  A kernel theorem supplies the step (the loop's defining equation at
a cursor in range) and compares what follows the loop with the model of `Model/Metrics.lean` /
`Model/Metrics2.lean` by `rfl`.  The loop lemmas (`X_loop`) are stated here; the kernel
theorems stand in `Props/C07.lean`, those that `Props/C08.lean` and `Props/C09.lean` cite here.  The
three-array loops and the two outer loops of `mahalanobis` (one stores to an array, one runs a
two-array loop in every pass) go by `range_loop` directly, one iteration unfolded by `loop_simp`.  All of it over every carrier `[Arith α]` (no
arithmetic law is used), except the counting kernels, which need `CountLaws α` (declared here; the
statements of `Props/C07.lean` use it). -/
namespace Pynn.GenMetricProofs
open Pynn.Metrics Pynn.GenMetric

/-! ### loads and stores at natural-number cursors

`Gen/MetricKernels.lean` declares its own `rd`, `wr`, `mkEmpty` and `LoopOut` (namespace
`Pynn.GenMetric`): constants distinct from those of `Gen/Kernels.lean`, which `Proofs/GenBasics.lean`
is about; hence `rd_lt` and `wr_lt` once more. -/

theorem rd_lt {β : Type} (a : Array β) (k : Nat) (h : k < a.size) : rd a (k : Int) = some a[k] := by
  simp only [rd, Int.natCast_nonneg, if_true, Int.toNat_natCast, Array.getElem?_eq_getElem h]

theorem wr_lt {β : Type} (a : Array β) (k : Nat) (v : β) (h : k < a.size) :
    wr a (k : Int) v = some (a.setIfInBounds k v) := by
  simp only [wr, Int.natCast_nonneg, Int.toNat_natCast, h, and_self, if_true]

theorem mkEmpty_size {β : Type} [Zero β] (n : Nat) : (mkEmpty (n : Int) : Array β).size = n := by
  simp only [mkEmpty, Int.toNat_natCast, Array.size_replicate]

/-! ### the loops of the model as folds from a cursor `k` on -/
section Folds
variable {α β : Type}

/-- `for i in range(k, n): b = g(b, x[i], y[i])` -/
def fold2 (g : β → α → α → β) (x y : Array α) (k : Nat) (b : β) : β :=
  ((x.toList.drop k).zip (y.toList.drop k)).foldl (fun r p => g r p.1 p.2) b

/-- `for i in range(k, n): b = g(b, x[i])` -/
def fold1 (g : β → α → β) (x : Array α) (k : Nat) (b : β) : β := (x.toList.drop k).foldl g b

/-- `for i in range(k, n): b = g(b, x[i], y[i], s[i])` -/
def fold3 (g : β → α → α → α → β) (x y s : Array α) (k : Nat) (b : β) : β :=
  (((x.toList.drop k).zip (y.toList.drop k)).zip (s.toList.drop k)).foldl
    (fun r p => g r p.1.1 p.1.2 p.2) b

theorem fold2_lt (g : β → α → α → β) (x y : Array α) (k : Nat) (b : β) (hx : k < x.size)
    (hy : k < y.size) : fold2 g x y k b = fold2 g x y (k + 1) (g b x[k] y[k]) := by
  simp only [fold2, drop_cons x k hx, drop_cons y k hy, List.zip_cons_cons, List.foldl_cons]

theorem fold2_ge (g : β → α → α → β) (x y : Array α) (k : Nat) (b : β) (hx : x.size ≤ k) :
    fold2 g x y k b = b := by
  simp only [fold2, List.drop_eq_nil_of_le hx, List.zip_nil_left, List.foldl_nil]

theorem fold1_lt (g : β → α → β) (x : Array α) (k : Nat) (b : β) (hx : k < x.size) :
    fold1 g x k b = fold1 g x (k + 1) (g b x[k]) := by
  simp only [fold1, drop_cons x k hx, List.foldl_cons]

theorem fold1_ge (g : β → α → β) (x : Array α) (k : Nat) (b : β) (hx : x.size ≤ k) :
    fold1 g x k b = b := by
  simp only [fold1, List.drop_eq_nil_of_le hx, List.foldl_nil]

theorem fold3_lt (g : β → α → α → α → β) (x y s : Array α) (k : Nat) (b : β) (hx : k < x.size)
    (hy : k < y.size) (hs : k < s.size) :
    fold3 g x y s k b = fold3 g x y s (k + 1) (g b x[k] y[k] s[k]) := by
  simp only [fold3, drop_cons x k hx, drop_cons y k hy, drop_cons s k hs, List.zip_cons_cons,
    List.foldl_cons]

theorem fold3_ge (g : β → α → α → α → β) (x y s : Array α) (k : Nat) (b : β) (hx : x.size ≤ k) :
    fold3 g x y s k b = b := by
  simp only [fold3, List.drop_eq_nil_of_le hx, List.zip_nil_left, List.foldl_nil]

end Folds

/- What one iteration of a translated loop needs besides the two cursor facts of `Proofs/LoopSimp.lean`
(this file is the set's only user): the `Option` plumbing, a load in range (`rd_lt`) and one step of the
model's fold (`fold*_lt`).  The last two are CONDITIONAL rewrites: `simp only [loop_simp, c, h ▸ c, …]`
discharges their side conditions `k < a.size` from the facts passed next to `loop_simp`. -/
attribute [loop_simp] if_true Option.bind_eq_bind Option.bind_some Option.pure_def
  rd_lt fold2_lt fold1_lt fold3_lt

/-! ### the two-array loops: one theorem, and how their carried variables come apart -/
section ZipLoop
variable {β γ δ : Type}

/-- A translated `for i in range(len(x))` loop over two arrays, whatever its name and however many
variables it carries.  `L fuel s i` is the loop with its carried variables packed into `s`; `hstep`:
at a cursor in range where the loads give `a`, `b` it goes on with `g s a b` one fuel down; `hexit`:
past the end it hands on `out s i`.  Then from cursor `0` it hands on the fold of `g`.  The fuel is asked as
`x.size + 1 ≤ fuel` because the statements of `Props/C07.lean` have it so; it is `range_loop`'s
`passes + 0 < fuel`. -/
theorem zip_loop {S O ρ : Type} (x y : Array β) (h : x.size = y.size) (g : S → β → β → S)
    (L : Nat → S → Int → Option (LoopOut O ρ)) {out : S → Int → O}
    (hstep : ∀ {fuel s} {i : Int} {a b}, i < (x.size : Int) → rd x i = some a → rd y i = some b →
      L (fuel + 1) s i = L fuel (g s a b) (i + 1))
    (hexit : ∀ {fuel s} {i : Int}, ¬ i < (x.size : Int) → L (fuel + 1) s i = some (.next (out s i)))
    (fuel : Nat) (hf : x.size + 1 ≤ fuel) (s : S) :
    L fuel s 0 = some (.next (out (fold2 g x y 0 s) (x.size : Int))) := by
  refine range_loop (m := 0) (n := x.size)
    (P := fun fuel k => ∀ s, L fuel s (k : Int) = some (.next (out (fold2 g x y k s) (x.size : Int))))
    ?_ ?_ fuel 0 (Nat.zero_le _) hf s
  · intro fuel k c _ ih s
    rw [hstep (Int.ofNat_lt.2 c) (rd_lt x k c) (rd_lt y k (h ▸ c)), fold2_lt g x y k s c (h ▸ c)]
    exact ih _
  · intro fuel s
    rw [hexit (Int.lt_irrefl _), fold2_ge g x y _ s (Nat.le_refl _)]

/-- two variables carried side by side, neither looking at the other -/
def par (g₁ : β → γ → γ → β) (g₂ : δ → γ → γ → δ) (s : β × δ) (a b : γ) : β × δ :=
  (g₁ s.1 a b, g₂ s.2 a b)

/-- independent variables fold independently -/
theorem fold2_par (g₁ : β → γ → γ → β) (g₂ : δ → γ → γ → δ) (x y : Array γ) (k : Nat) (s : β × δ) :
    fold2 (par g₁ g₂) x y k s = (fold2 g₁ x y k s.1, fold2 g₂ x y k s.2) := by
  unfold fold2
  generalize (x.toList.drop k).zip (y.toList.drop k) = l
  induction l generalizing s with
  | nil => rfl
  | cons p t ih => exact ih _

theorem fold2_left (g : β → γ → β) (x y : Array γ) (h : x.size = y.size) (b : β) :
    fold2 (fun r a _ => g r a) x y 0 b = x.toList.foldl g b :=
  List.foldl_map.symm.trans (congrArg (List.foldl g b) (List.map_fst_zip (Nat.le_of_eq h)))

theorem fold2_right (g : β → γ → β) (x y : Array γ) (h : x.size = y.size) (b : β) :
    fold2 (fun r _ a => g r a) x y 0 b = y.toList.foldl g b :=
  List.foldl_map.symm.trans (congrArg (List.foldl g b) (List.map_snd_zip (Nat.le_of_eq h.symm)))

end ZipLoop

section Kernels
variable {α : Type} [Arith α]

/-- a `return` in each branch of the code is `some` of the model's `if` -/
theorem ite_some {β : Type} (c : Prop) [Decidable c] (a b : β) :
    (if c then some a else some b) = some (if c then a else b) := (apply_ite some c a b).symm

theorem sumBy_eq (f : α → α → α) (x y : Array α) :
    sumBy f x.toList y.toList = fold2 (fun r a b => r + f a b) x y 0 0 := rfl

theorem sum1_eq (f : α → α) (x : Array α) :
    sum1 f x.toList = fold1 (fun r a => r + f a) x 0 0 := rfl

/-! ### counting: the code counts in a float accumulator, the model in `Nat` -/

/-- what relates the two: proved of `ℝ` (`C07.countLaws_real`).  Remark, not proved: it also holds of
IEEE doubles below 2^53, and numba types these counters `float64`. -/
structure CountLaws (α : Type) [Arith α] : Prop where
  ofNat_zero : (Arith.ofNat 0 : α) = 0
  ofNat_succ : ∀ n : Nat, (Arith.ofNat (n + 1) : α) = Arith.ofNat n + 1
  add_zero : ∀ a : α, a + 0 = a

theorem count_foldl (hc : CountLaws α) {γ : Type} (P : γ → Bool) (l : List γ) (n : Nat) :
    l.foldl (fun r q => r + (if P q then (1 : α) else 0)) (Arith.ofNat n)
      = Arith.ofNat (n + l.countP P) := by
  induction l generalizing n with
  | nil => rfl
  | cons q t ih =>
    rw [List.foldl_cons, List.countP_cons]
    cases P q
    · rw [if_neg Bool.false_ne_true, if_neg Bool.false_ne_true, hc.add_zero]
      exact ih n
    · rw [if_pos rfl, if_pos rfl, ← hc.ofNat_succ, ih (n + 1), Nat.add_right_comm, Nat.add_assoc]

/-- `acc += 1.0 if P(x[i], y[i]) else 0.0` (the Boolean kernels) -/
theorem count_fold2 (hc : CountLaws α) (P : α → α → Bool) (x y : Array α) :
    fold2 (fun r a b => r + (if P a b then (1 : α) else 0)) x y 0 0
      = Arith.ofNat ((x.toList.zip y.toList).countP (fun p => P p.1 p.2)) := by
  have := count_foldl hc (fun p : α × α => P p.1 p.2) (x.toList.zip y.toList) 0
  rwa [hc.ofNat_zero, Nat.zero_add] at this

/-! ### the six loops that several kernels share, from cursor `0`, in the model's own sums -/

theorem cosine_loop (x y : Array α) (h : x.size = y.size) (fuel : Nat) (hf : x.size + 1 ≤ fuel) :
    cosine.loop0 x y (x.size : Int) fuel 0 0 0 0
      = some (.next (dotProd x.toList y.toList, normSq x.toList, normSq y.toList, (x.size : Int))) := by
  have L := zip_loop x y h
    (par (fun r a b => r + a * b)
      (par (fun r a _ => r + a * a)
        (fun r _ b => r + b * b)))
    (fun fuel s => cosine.loop0 x y _ fuel s.1 s.2.1 s.2.2)
    (fun c ha hb => by rw [cosine.loop0, if_pos c, ha, hb]; rfl)
    (fun c => if_neg c) fuel hf (0, 0, 0)
  rw [L, fold2_par, fold2_par, fold2_left _ x y h, fold2_right _ x y h]
  rfl

theorem dot_loop (x y : Array α) (h : x.size = y.size) (fuel : Nat) (hf : x.size + 1 ≤ fuel) :
    dot.loop0 x y (x.size : Int) fuel 0 0
      = some (.next (dotProd x.toList y.toList, (x.size : Int))) :=
  zip_loop x y h (fun r a b => r + a * b) (dot.loop0 x y _)
    (fun c ha hb => by rw [dot.loop0, if_pos c, ha, hb]; rfl)
    (fun c => if_neg c) fuel hf 0

theorem hellinger_loop (x y : Array α) (h : x.size = y.size) (fuel : Nat) (hf : x.size + 1 ≤ fuel) :
    hellinger.loop0 x y (x.size : Int) fuel 0 0 0 0
      = some (.next (hellingerSum x.toList y.toList, l1 x.toList, l1 y.toList, (x.size : Int))) := by
  have L := zip_loop x y h
    (par (fun r a b => r + Arith.sqrt (a * b))
      (par (fun r a _ => r + a)
        (fun r _ b => r + b)))
    (fun fuel s => hellinger.loop0 x y _ fuel s.1 s.2.1 s.2.2)
    (fun c ha hb => by rw [hellinger.loop0, if_pos c, ha, hb]; rfl)
    (fun c => if_neg c) fuel hf (0, 0, 0)
  rw [L, fold2_par, fold2_par, fold2_left _ x y h, fold2_right _ x y h]
  rfl

theorem jaccard_loop (hc : CountLaws α) (x y : Array α) (h : x.size = y.size) (fuel : Nat)
    (hf : x.size + 1 ≤ fuel) :
    jaccard.loop0 x y (x.size : Int) fuel 0 0 0
      = some (.next (Arith.ofNat (numNonZero x.toList y.toList),
          Arith.ofNat (numTrueTrue x.toList y.toList), (x.size : Int))) := by
  have L := zip_loop x y h
    (par (fun r a b => r + (if (Metrics.isTrue a || Metrics.isTrue b) then 1 else 0))
      (fun r a b => r + (if (Metrics.isTrue a && Metrics.isTrue b) then 1 else 0)))
    (fun fuel s => jaccard.loop0 x y _ fuel s.1 s.2)
    (fun c ha hb => by rw [jaccard.loop0, if_pos c, ha, hb]; rfl)
    (fun c => if_neg c) fuel hf (0, 0)
  rw [L, fold2_par, count_fold2 hc, count_fold2 hc]
  rfl

theorem matching_loop (hc : CountLaws α) (x y : Array α) (h : x.size = y.size) (fuel : Nat)
    (hf : x.size + 1 ≤ fuel) :
    matching.loop0 x y (x.size : Int) fuel 0 0
      = some (.next (Arith.ofNat (numNotEqual x.toList y.toList), (x.size : Int))) := by
  have L := zip_loop x y h
    (fun r a b => r + (if (Metrics.isTrue a != Metrics.isTrue b) then 1 else 0))
    (matching.loop0 x y _)
    (fun c ha hb => by rw [matching.loop0, if_pos c, ha, hb]; rfl)
    (fun c => if_neg c) fuel hf 0
  rw [L, count_fold2 hc]
  rfl

theorem dice_loop (hc : CountLaws α) (x y : Array α) (h : x.size = y.size) (fuel : Nat)
    (hf : x.size + 1 ≤ fuel) :
    dice.loop0 x y (x.size : Int) fuel 0 0 0
      = some (.next (Arith.ofNat (numTrueTrue x.toList y.toList),
          Arith.ofNat (numNotEqual x.toList y.toList), (x.size : Int))) := by
  have L := zip_loop x y h
    (par (fun r a b => r + (if (Metrics.isTrue a && Metrics.isTrue b) then 1 else 0))
      (fun r a b => r + (if (Metrics.isTrue a != Metrics.isTrue b) then 1 else 0)))
    (fun fuel s => dice.loop0 x y _ fuel s.1 s.2)
    (fun c ha hb => by rw [dice.loop0, if_pos c, ha, hb]; rfl)
    (fun c => if_neg c) fuel hf (0, 0)
  rw [L, fold2_par, count_fold2 hc, count_fold2 hc]
  rfl

/-! ### the loops of the other two-array kernels of `Props/C07.lean`, in the same form -/

theorem minkowski_loop (x y : Array α) (p : α) (h : x.size = y.size) (fuel : Nat)
    (hf : x.size + 1 ≤ fuel) :
    minkowski.loop0 x y p (x.size : Int) fuel 0 0
      = some (.next (sumBy (fun a b => Arith.pow (Arith.abs (a - b)) p) x.toList y.toList,
          (x.size : Int))) :=
  zip_loop x y h (fun r a b => r + Arith.pow (Arith.abs (a - b)) p) (minkowski.loop0 x y p _)
    (fun c ha hb => by rw [minkowski.loop0, if_pos c, ha, hb]; rfl)
    (fun c => if_neg c) fuel hf 0

theorem canberra_loop (x y : Array α) (h : x.size = y.size) (fuel : Nat) (hf : x.size + 1 ≤ fuel) :
    canberra.loop0 x y (x.size : Int) fuel 0 0
      = some (.next (Metrics.canberra x.toList y.toList, (x.size : Int))) :=
  zip_loop x y h
    (fun r a b =>
      if 0 < Arith.abs a + Arith.abs b then r + Arith.abs (a - b) / (Arith.abs a + Arith.abs b) else r)
    (canberra.loop0 x y _)
    (fun {_ _ _ a b} c ha hb => by
      rw [canberra.loop0, if_pos c, ha, hb]
      -- the translator copies what follows a source `if` into both branches: `if g then L (r + …) else L r`
      -- is `L (if g then r + … else r)`
      exact (apply_ite (canberra.loop0 x y _ _ · _) _ _ _).symm)
    (fun c => if_neg c) fuel hf 0

theorem bray_curtis_loop (x y : Array α) (h : x.size = y.size) (fuel : Nat) (hf : x.size + 1 ≤ fuel) :
    bray_curtis.loop0 x y (x.size : Int) fuel 0 0 0
      = some (.next (sumBy (fun a b => Arith.abs (a - b)) x.toList y.toList,
          sumBy (fun a b => Arith.abs (a + b)) x.toList y.toList, (x.size : Int))) := by
  have L := zip_loop x y h
    (par (fun r a b => r + Arith.abs (a - b))
      (fun r a b => r + Arith.abs (a + b)))
    (fun fuel s => bray_curtis.loop0 x y _ fuel s.1 s.2)
    (fun c ha hb => by rw [bray_curtis.loop0, if_pos c, ha, hb]; rfl)
    (fun c => if_neg c) fuel hf (0, 0)
  rw [L, fold2_par]
  rfl

theorem correlation_loop0 (x y : Array α) (h : x.size = y.size) (fuel : Nat) (hf : x.size + 1 ≤ fuel) :
    correlation.loop0 x y (x.size : Int) fuel 0 0 0
      = some (.next (l1 x.toList, l1 y.toList, (x.size : Int))) := by
  have L := zip_loop x y h
    (par (fun r a _ => r + a)
      (fun r _ b => r + b))
    (fun fuel s => correlation.loop0 x y _ fuel s.1 s.2)
    (fun c ha hb => by rw [correlation.loop0, if_pos c, ha, hb]; rfl)
    (fun c => if_neg c) fuel hf (0, 0)
  rw [L, fold2_par, fold2_left _ x y h, fold2_right _ x y h]
  rfl

theorem correlation_loop1 (x y : Array α) (mx my : α) (h : x.size = y.size) (fuel : Nat)
    (hf : x.size + 1 ≤ fuel) :
    correlation.loop1 x y mx my (x.size : Int) fuel 0 0 0 0
      = some (.next (sum1 (fun v => (v - mx) * (v - mx)) x.toList,
          sum1 (fun v => (v - my) * (v - my)) y.toList,
          sumBy (fun a b => (a - mx) * (b - my)) x.toList y.toList, (x.size : Int))) := by
  have L := zip_loop x y h
    (par (fun r a _ => r + (a - mx) * (a - mx))
      (par (fun r _ b => r + (b - my) * (b - my))
        (fun r a b => r + (a - mx) * (b - my))))
    (fun fuel s => correlation.loop1 x y mx my _ fuel s.1 s.2.1 s.2.2)
    (fun c ha hb => by rw [correlation.loop1, if_pos c, ha, hb]; rfl)
    (fun c => if_neg c) fuel hf (0, 0, 0)
  rw [L, fold2_par, fold2_par, fold2_left _ x y h, fold2_right _ x y h]
  rfl

theorem tsss_loop (x y : Array α) (h : x.size = y.size) (fuel : Nat) (hf : x.size + 1 ≤ fuel) :
    tsss.loop0 x y (x.size : Int) fuel 0 0 0 0 0
      = some (.next (sumBy sqDiff x.toList y.toList, dotProd x.toList y.toList, normSq x.toList,
          normSq y.toList, (x.size : Int))) := by
  have L := zip_loop x y h
    (par (fun r a b => r + sqDiff a b)
      (par (fun r a b => r + a * b)
        (par (fun r a _ => r + a * a)
          (fun r _ b => r + b * b))))
    (fun fuel s => tsss.loop0 x y _ fuel s.1 s.2.1 s.2.2.1 s.2.2.2)
    (fun c ha hb => by rw [tsss.loop0, if_pos c, ha, hb]; rfl)
    (fun c => if_neg c) fuel hf (0, 0, 0, 0)
  rw [L, fold2_par, fold2_par, fold2_par, fold2_left _ x y h, fold2_right _ x y h]
  rfl

theorem hamming_loop (hc : CountLaws α) (x y : Array α) (h : x.size = y.size) (fuel : Nat)
    (hf : x.size + 1 ≤ fuel) :
    hamming.loop0 x y (x.size : Int) fuel 0 0
      = some (.next (Arith.ofNat (numDiffer x.toList y.toList), (x.size : Int))) := by
  have L := zip_loop x y h (fun r a b => r + (if (!(a == b)) then 1 else 0)) (hamming.loop0 x y _)
    (fun {_ _ _ a b} c ha hb => by
      rw [hamming.loop0, if_pos c, ha, hb]
      -- `if a != b: r += 1` is `r += 1 if a != b else 0`
      by_cases g : (!(a == b)) = true
      · rw [if_pos g]; exact if_pos g
      · rw [if_neg g, hc.add_zero]; exact if_neg g)
    (fun c => if_neg c) fuel hf 0
  rw [L, count_fold2 hc]
  rfl

theorem russellrao_loop (hc : CountLaws α) (x y : Array α) (h : x.size = y.size) (fuel : Nat)
    (hf : x.size + 1 ≤ fuel) :
    russellrao.loop0 x y (x.size : Int) fuel 0 0
      = some (.next (Arith.ofNat (numTrueTrue x.toList y.toList), (x.size : Int))) := by
  have L := zip_loop x y h
    (fun r a b => r + (if (Metrics.isTrue a && Metrics.isTrue b) then 1 else 0))
    (russellrao.loop0 x y _)
    (fun c ha hb => by rw [russellrao.loop0, if_pos c, ha, hb]; rfl)
    (fun c => if_neg c) fuel hf 0
  rw [L, count_fold2 hc]
  rfl

theorem yule_loop (hc : CountLaws α) (x y : Array α) (h : x.size = y.size) (fuel : Nat)
    (hf : x.size + 1 ≤ fuel) :
    yule.loop0 x y (x.size : Int) fuel 0 0 0 0
      = some (.next (Arith.ofNat (numTrueTrue x.toList y.toList),
          Arith.ofNat (numTrueFalse x.toList y.toList),
          Arith.ofNat (numFalseTrue x.toList y.toList), (x.size : Int))) := by
  have L := zip_loop x y h
    (par (fun r a b => r + (if (Metrics.isTrue a && Metrics.isTrue b) then 1 else 0))
      (par (fun r a b => r + (if (Metrics.isTrue a && !Metrics.isTrue b) then 1 else 0))
        (fun r a b => r + (if (!Metrics.isTrue a && Metrics.isTrue b) then 1 else 0))))
    (fun fuel s => yule.loop0 x y _ fuel s.1 s.2.1 s.2.2)
    (fun c ha hb => by rw [yule.loop0, if_pos c, ha, hb]; rfl)
    (fun c => if_neg c) fuel hf (0, 0, 0)
  rw [L, fold2_par, fold2_par, count_fold2 hc, count_fold2 hc, count_fold2 hc]
  rfl

/-! ### the two three-array loops, by `range_loop` from any cursor `k` -/

theorem standardised_euclidean_loop0 (x y : Array α) (sigma : Array α) (h : x.size = y.size) (hs : x.size = sigma.size) :
    ∀ (fuel k : Nat), k ≤ x.size → x.size - k + 1 ≤ fuel → ∀ (r : α),
      standardised_euclidean.loop0 x y sigma (x.size : Int) fuel r (k : Int)
        = some (.next (fold3 (fun r a b s => r + ((a - b) * (a - b)) / s) x y sigma k r, (x.size : Int))) := by
  refine range_loop (m := 0) ?_ ?_
  · intro fuel k c _ ih r
    simp only [standardised_euclidean.loop0, loop_simp, c, h ▸ c, hs ▸ c]
    exact ih _
  · intro fuel r
    simp only [standardised_euclidean.loop0, Int.lt_irrefl, if_false, fold3_ge, Nat.le_refl,
      Option.pure_def]

theorem weighted_minkowski_loop0 (x y : Array α) (w : Array α) (p : α) (h : x.size = y.size) (hs : x.size = w.size) :
    ∀ (fuel k : Nat), k ≤ x.size → x.size - k + 1 ≤ fuel → ∀ (r : α),
      weighted_minkowski.loop0 x y w p (x.size : Int) fuel r (k : Int)
        = some (.next (fold3 (fun r a b s => r + s * Arith.pow (Arith.abs (a - b)) p) x y w k r, (x.size : Int))) := by
  refine range_loop (m := 0) ?_ ?_
  · intro fuel k c _ ih r
    simp only [weighted_minkowski.loop0, loop_simp, c, h ▸ c, hs ▸ c]
    exact ih _
  · intro fuel r
    simp only [weighted_minkowski.loop0, Int.lt_irrefl, if_false, fold3_ge, Nat.le_refl,
      Option.pure_def]

/-! ### mahalanobis: a local array filled by a first loop, then a nested loop over the 2-D `vinv` -/
section Mahalanobis

/-- `diff = x - y` as the array the first loop builds -/
def diffArr (x y : Array α) : Array α := (List.zipWith (fun a b => a - b) x.toList y.toList).toArray

theorem diffArr_size (x y : Array α) (h : x.size = y.size) : (diffArr x y).size = x.size := by
  simp only [diffArr, List.size_toArray, List.length_zipWith, Array.length_toList, ← h, Nat.min_self]

theorem diffArr_get (x y : Array α) (h : x.size = y.size) (k : Nat) (hk : k < x.size) :
    (diffArr x y)[k]? = some (x[k] - y[k]'(h ▸ hk)) := by
  simp only [diffArr, List.getElem?_toArray, List.getElem?_zipWith, Array.getElem?_toList,
    Array.getElem?_eq_getElem hk, Array.getElem?_eq_getElem (h ▸ hk : k < y.size)]

/-- first loop: every cell `< k` already holds `x[j] - y[j]`; afterwards the whole array does -/
theorem mahalanobis_loop0 (x y : Array α) (h : x.size = y.size) :
    ∀ (fuel k : Nat), k ≤ x.size → x.size - k + 1 ≤ fuel → ∀ (d : Array α), d.size = x.size →
      (∀ j, j < k → d[j]? = (diffArr x y)[j]?) →
      mahalanobis.loop0 x y (x.size : Int) fuel d (k : Int)
        = some (.next (diffArr x y, (x.size : Int))) := by
  refine range_loop (m := 0) ?_ ?_
  · intro fuel k c _ ih d hd hpre
    simp only [mahalanobis.loop0, loop_simp, c, h ▸ c, wr_lt d k _ (hd ▸ c)]
    refine ih _ (by rw [Array.size_setIfInBounds, hd]) fun j hj => ?_
    rcases Nat.lt_succ_iff_lt_or_eq.1 hj with hj | rfl
    · rw [← hpre j hj, Array.getElem?_setIfInBounds_ne (Nat.ne_of_gt hj)]
    · rw [diffArr_get x y h j c, Array.getElem?_setIfInBounds_self_of_lt (hd ▸ c)]
  · intro fuel d hd hpre
    have e : d = diffArr x y := by
      apply Array.ext_getElem?
      intro j
      by_cases hj : j < x.size
      · exact hpre j hj
      · have hj := Nat.le_of_not_lt hj
        rw [Array.getElem?_eq_none (hd ▸ hj), Array.getElem?_eq_none (diffArr_size x y h ▸ hj)]
    simp only [mahalanobis.loop0, Int.lt_irrefl, if_false, Option.pure_def, e]

/-- the outer loop of the model from row `k` on -/
def qfFrom (vinv : Array (Array α)) (d : Array α) (k : Nat) (r : α) : α :=
  (((vinv.toList.map Array.toList).drop k).zip (d.toList.drop k)).foldl
    (fun r p => r + dotProd p.1 d.toList * p.2) r

theorem qfFrom_lt (vinv : Array (Array α)) (d : Array α) (k : Nat) (r : α) (hv : k < vinv.size)
    (hd : k < d.size) :
    qfFrom vinv d k r = qfFrom vinv d (k + 1) (r + dotProd vinv[k].toList d.toList * d[k]) := by
  simp only [qfFrom, ← List.map_drop, drop_cons vinv k hv, drop_cons d k hd, List.map_cons,
    List.zip_cons_cons, List.foldl_cons]

theorem qfFrom_ge (vinv : Array (Array α)) (d : Array α) (k : Nat) (r : α) (hd : d.size ≤ k) :
    qfFrom vinv d k r = r := by
  simp only [qfFrom, List.drop_eq_nil_of_le hd, List.zip_nil_right, List.foldl_nil]

theorem mahalanobis_loop1 (x : Array α) (vinv : Array (Array α)) (d : Array α) (hd : d.size = x.size)
    (hv : vinv.size = x.size) (hr : ∀ i (hi : i < vinv.size), vinv[i].size = x.size) :
    ∀ (fuel k : Nat), k ≤ x.size → x.size - k + x.size < fuel → ∀ (r : α),
      mahalanobis.loop1 x vinv d (x.size : Int) fuel r (k : Int)
        = some (.next (qfFrom vinv d k r, (x.size : Int))) := by
  refine range_loop (m := x.size) ?_ ?_
  · intro fuel k c hf ih r
    have hi : k < vinv.size := hv ▸ c
    -- the inner loop: the dot product of row `k` of `vinv` with `diff`
    have L := zip_loop vinv[k] d ((hr k hi).trans hd.symm) (fun t a b => t + a * b)
      (mahalanobis.loop2 vinv d k _)
      (fun c ha hb => by simp only [mahalanobis.loop2, loop_simp, c, hi, ha, hb])
      (fun c => if_neg c) fuel (hr k hi ▸ hf) 0
    rw [hr k hi] at L
    simp only [mahalanobis.loop1, loop_simp, c, hd ▸ c, L, qfFrom_lt vinv d k r hi (hd ▸ c)]
    exact ih _
  · intro fuel r
    simp only [mahalanobis.loop1, Int.lt_irrefl, if_false, Option.pure_def,
      qfFrom_ge vinv d _ r (Nat.le_of_eq hd)]

end Mahalanobis

/-! Several kernels of `distances.py` repeat another kernel's loop word for word; the translated
loops are then the same term, and the loop lemma of the one serves the other.  `rfl` has to unfold
structurally recursive constants that are not applied to a constructor, which smart unfolding does
not do.  The equalities are checked against the regenerated `Gen/MetricKernels.lean` on every run. -/
section SameLoop
set_option smartUnfolding false

theorem alternative_cosine_loop_eq : @alternative_cosine.loop0 α _ = cosine.loop0 := rfl
theorem true_angular_loop_eq : @true_angular.loop0 α _ = cosine.loop0 := rfl
theorem alternative_dot_loop_eq : @alternative_dot.loop0 α _ = dot.loop0 := rfl
theorem alternative_hellinger_loop_eq : @alternative_hellinger.loop0 α _ = hellinger.loop0 := rfl
theorem alternative_jaccard_loop_eq : @alternative_jaccard.loop0 α _ = jaccard.loop0 := rfl
theorem kulsinski_loop_eq : @kulsinski.loop0 α _ = dice.loop0 := rfl
theorem rogers_tanimoto_loop_eq : @rogers_tanimoto.loop0 α _ = matching.loop0 := rfl
theorem sokal_michener_loop_eq : @sokal_michener.loop0 α _ = matching.loop0 := rfl
theorem sokal_sneath_loop_eq : @sokal_sneath.loop0 α _ = dice.loop0 := rfl

end SameLoop

/-! ### the refinement theorems that `Props/C08.lean` and `Props/C09.lean` cite

(the others are proved where they are stated, in `Props/C07.lean`) -/

theorem euclidean_refines (x y : Array α) (h : x.size = y.size) (fuel : Nat) (hf : x.size + 1 ≤ fuel) :
    GenMetric.euclidean fuel x y = some (Metrics.euclidean x.toList y.toList) := by
  have L := zip_loop x y h (fun r a b => r + sqDiff a b) (euclidean.loop0 x y _)
    (fun c ha hb => by rw [euclidean.loop0, if_pos c, ha, hb]; rfl)
    (fun c => if_neg c) fuel hf 0
  simp only [GenMetric.euclidean, L, Option.bind_eq_bind, Option.bind_some, Option.pure_def]
  rfl

theorem cosine_refines (x y : Array α) (h : x.size = y.size) (fuel : Nat) (hf : x.size + 1 ≤ fuel) :
    GenMetric.cosine fuel x y = some (Metrics.cosine x.toList y.toList) := by
  simp only [GenMetric.cosine, cosine_loop x y h fuel hf, Option.bind_eq_bind, Option.bind_some,
    Option.pure_def, ite_some]
  rfl

theorem squared_euclidean_refines (x y : Array α) (h : x.size = y.size) (fuel : Nat)
    (hf : x.size + 1 ≤ fuel) :
    GenMetric.squared_euclidean fuel x y = some (Metrics.squaredEuclidean x.toList y.toList) := by
  have L := zip_loop x y h (fun r a b => r + sqDiff a b) (squared_euclidean.loop0 x y _)
    (fun c ha hb => by rw [squared_euclidean.loop0, if_pos c, ha, hb]; rfl)
    (fun c => if_neg c) fuel hf 0
  simp only [GenMetric.squared_euclidean, L, Option.bind_eq_bind, Option.bind_some, Option.pure_def]
  rfl

theorem manhattan_refines (x y : Array α) (h : x.size = y.size) (fuel : Nat)
    (hf : x.size + 1 ≤ fuel) :
    GenMetric.manhattan fuel x y = some (Metrics.manhattan x.toList y.toList) := by
  have L := zip_loop x y h (fun r a b => r + Arith.abs (a - b)) (manhattan.loop0 x y _)
    (fun c ha hb => by rw [manhattan.loop0, if_pos c, ha, hb]; rfl)
    (fun c => if_neg c) fuel hf 0
  simp only [GenMetric.manhattan, L, Option.bind_eq_bind, Option.bind_some, Option.pure_def]
  rfl

theorem chebyshev_refines (x y : Array α) (h : x.size = y.size) (fuel : Nat)
    (hf : x.size + 1 ≤ fuel) :
    GenMetric.chebyshev fuel x y = some (Metrics.chebyshev x.toList y.toList) := by
  have L := zip_loop x y h (fun r a b => Arith.max r (Arith.abs (a - b))) (chebyshev.loop0 x y _)
    (fun c ha hb => by rw [chebyshev.loop0, if_pos c, ha, hb]; rfl)
    (fun c => if_neg c) fuel hf 0
  simp only [GenMetric.chebyshev, L, Option.bind_eq_bind, Option.bind_some, Option.pure_def]
  rfl

theorem alternative_cosine_refines (x y : Array α) (h : x.size = y.size) (fuel : Nat)
    (hf : x.size + 1 ≤ fuel) :
    GenMetric.alternative_cosine fuel x y = some (Metrics.alternativeCosine x.toList y.toList) := by
  simp only [GenMetric.alternative_cosine, alternative_cosine_loop_eq, cosine_loop x y h fuel hf,
    Option.bind_eq_bind, Option.bind_some, Option.pure_def, ite_some]
  rfl

/-! the scalar corrections (no loop, no load: any fuel) -/

theorem correct_alternative_cosine_refines (fuel : Nat) (d : α) :
    GenMetric.correct_alternative_cosine fuel d = some (Metrics.correctAlternativeCosine d) := rfl

theorem true_angular_from_alt_cosine_refines (fuel : Nat) (d : α) :
    GenMetric.true_angular_from_alt_cosine fuel d = some (Metrics.trueAngularFromAltCosine d) := rfl

theorem correct_alternative_hellinger_refines (fuel : Nat) (d : α) :
    GenMetric.correct_alternative_hellinger fuel d = some (Metrics.correctAlternativeHellinger d) := rfl

theorem correct_alternative_jaccard_refines (fuel : Nat) (v : α) :
    GenMetric.correct_alternative_jaccard fuel v = some (Metrics.correctAlternativeJaccard v) := rfl

end Kernels
end Pynn.GenMetricProofs
