import PynnVerif.Gen.SearchGraphKernels
import PynnVerif.Proofs.Diversify
import PynnVerif.Proofs.GenBasics
import PynnVerif.Proofs.RangeLoop

/-! # The translated `degree_prune_internal` and the inner loops of `diversify` refine the model

`Gen/SearchGraphKernels.lean` (namespace `Pynn.GenSG`) is regenerated from the source text of
`pynndescent/pynndescent_.py` by `harness/translate_searchgraph.py`.  `np.sort` is the
uninterpreted `SortFn.sortArr`; the theorems assume `hsort`: it returns the model's `sortP` of
its argument — which (`C16.sort_hypothesis_of_ascending_perm`) is what ANY ascending permutation is,
over a linear order.  The file also holds the definitions (`ptr`, `CsrOk`, `rowOf`, `ents`, `drawOf`) that
the statements of `Props/C15.lean` and `Props/C16.lean` about the translated kernels use. -/
namespace Pynn.GenSearchGraphProofs
open Pynn.Div Pynn.GenK Pynn.GenSG

section
variable {P : Type}

/-- `f` applied to the cells `lo ≤ p < hi` -/
def mapRange (f : P → P) (lo hi : Nat) (a : Array P) : Array P :=
  a.mapIdx (fun p v => if lo ≤ p ∧ p < hi then f v else v)

@[simp] theorem mapRange_size (f : P → P) (lo hi : Nat) (a : Array P) : (mapRange f lo hi a).size = a.size := by
  simp [mapRange]

theorem getElem?_mapRange (f : P → P) (lo hi : Nat) (a : Array P) (p : Nat) :
    (mapRange f lo hi a)[p]? = if lo ≤ p ∧ p < hi then (a[p]?).map f else a[p]? := by
  rw [mapRange, Array.getElem?_mapIdx]
  by_cases h : lo ≤ p ∧ p < hi
  · simp only [if_pos h]
  · simp only [if_neg h, Option.map_id']

/-- one cell done: `f` at `j`, then the cells after `j` -/
theorem mapRange_step (f : P → P) (j hi : Nat) (a : Array P) (hj : j < a.size) (hjh : j < hi) :
    mapRange f (j + 1) hi (a.setIfInBounds j (f a[j])) = mapRange f j hi a := by
  apply Array.ext_getElem?
  intro p
  rw [getElem?_mapRange, getElem?_mapRange]
  by_cases e : j = p
  · subst e
    rw [if_neg fun h => Nat.not_succ_le_self j h.1, if_pos ⟨Nat.le_refl j, hjh⟩,
      Array.getElem?_setIfInBounds_self_of_lt hj, Array.getElem?_eq_getElem hj, Option.map_some]
  · have : j + 1 ≤ p ↔ j ≤ p := ⟨Nat.le_of_succ_le, fun h => Nat.lt_of_le_of_ne h e⟩
    rw [Array.getElem?_setIfInBounds_ne e]
    simp only [this]

theorem mapRange_id (lo hi : Nat) (a : Array P) : mapRange id lo hi a = a :=
  Array.ext_getElem? fun p => by rw [getElem?_mapRange, Option.map_id, id, ite_self]

theorem mapRange_empty (f : P → P) (j : Nat) (a : Array P) : mapRange f j j a = a :=
  Array.ext_getElem? fun p =>
    (getElem?_mapRange f j j a p).trans (if_neg fun h => Nat.lt_irrefl p (Nat.lt_of_lt_of_le h.2 h.1))

theorem extract_mapRange (f : P → P) (lo hi : Nat) (d : Array P) :
    (mapRange f lo hi d).extract lo hi = (d.extract lo hi).map f := by
  apply Array.ext_getElem?
  intro q
  rw [Array.getElem?_extract, Array.getElem?_map, Array.getElem?_extract, mapRange_size]
  split
  · rename_i hq
    rw [getElem?_mapRange, if_pos ⟨Nat.le_add_right lo q,
      Nat.lt_of_lt_of_le (Nat.add_lt_of_lt_sub' hq) (Nat.min_le_left _ _)⟩]
  · rfl

theorem extract_mapRange_of_disjoint (f : P → P) (lo hi lo' hi' : Nat) (d : Array P)
    (h : hi' ≤ lo ∨ hi ≤ lo') : (mapRange f lo hi d).extract lo' hi' = d.extract lo' hi' := by
  apply Array.ext_getElem?
  intro q
  rw [Array.getElem?_extract, Array.getElem?_extract, mapRange_size]
  split
  · rename_i hq
    have hq' : lo' + q < hi' := Nat.lt_of_lt_of_le (Nat.add_lt_of_lt_sub' hq) (Nat.min_le_left _ _)
    rw [getElem?_mapRange, if_neg fun c => h.elim
      (fun h1 => Nat.lt_irrefl _ (Nat.lt_of_lt_of_le hq' (Nat.le_trans h1 c.1)))
      (fun h2 => Nat.lt_irrefl _ (Nat.lt_of_lt_of_le c.2 (Nat.le_trans h2 (Nat.le_add_right _ _))))]
  · rfl

variable [LT P] [DecidableLT P] [OfNat P 0]

/-- `if data[j] > cut_value: data[j] = 0.0` -/
def cutF (cut v : P) : P := if cut < v then 0 else v

/-- inner loop: `for j in range(indptr[i], indptr[i+1]): if data[j] > cut_value: data[j] = 0.0` -/
theorem prune_loop1 (cut : P) (hi : Nat) :
    ∀ (fuel j : Nat), j ≤ hi → hi - j + 1 ≤ fuel → ∀ data : Array P, hi ≤ data.size →
      degree_prune_internal.loop1 cut (hi : Int) fuel data (j : Int)
        = some (.next (mapRange (cutF cut) j hi data, (hi : Int))) := by
  refine range_loop (m := 0) ?_ ?_
  · intro fuel j c _ ih data hh
    have hjs : j < data.size := Nat.lt_of_lt_of_le c hh
    rw [degree_prune_internal.loop1]
    simp only [cursor_lt, c, if_true, rd_lt data j hjs, Option.bind_eq_bind, Option.bind_some, cursor_succ,
      gt_iff_lt]
    rw [← mapRange_step (cutF cut) j hi data hjs c, cutF]
    by_cases g : cut < data[j]
    · rw [if_pos g, if_pos g, wr_lt data j _ hjs, Option.bind_some]
      exact ih _ (by rw [Array.size_setIfInBounds]; exact hh)
    · rw [if_neg g, if_neg g, setIfInBounds_getElem_self data j hjs]
      exact ih data hh
  · intro fuel data _
    rw [degree_prune_internal.loop1, if_neg (Int.lt_irrefl _), mapRange_empty]
    rfl

variable [SortFn P]

/-- `indptr[i]` as a natural number (`0` beyond the array: never used there) -/
def ptr (indptr : Array Int) (i : Nat) : Nat := (indptr.getD i 0).toNat

/-- the stored lengths of row `i` -/
def rowOf (indptr : Array Int) (d : Array P) (i : Nat) : Array P :=
  d.extract (ptr indptr i) (ptr indptr (i + 1))

/-- what `degree_prune_internal` does to each length of a row: nothing to a row of at most `m` entries,
else the cut at `np.sort(row)[m - 1]`.  The `none` branch is not reached once the sort keeps the size,
which is all `prune_loop0` asks of it (`hs`); that it sorts (`hsort`) is needed by `prunedVals_model` only -/
def rowCut (m : Nat) (row : Array P) : P → P :=
  if m < row.size then
    match (SortFn.sortArr row)[m - 1]? with
    | some cut => cutF cut
    | none => id
  else id

/-- one iteration of the outer loop, as a function of the current `data` -/
def pruneStep (m : Nat) (indptr : Array Int) (data : Array P) (i : Nat) : Array P :=
  mapRange (rowCut m (rowOf indptr data i)) (ptr indptr i) (ptr indptr (i + 1)) data

/-- the outer loop over the rows `k, k+1, …, k+c-1` -/
def pruneFrom (m : Nat) (indptr : Array Int) : Nat → Nat → Array P → Array P
  | 0, _, d => d
  | c + 1, k, d => pruneFrom m indptr c (k + 1) (pruneStep m indptr d k)

theorem pruneFrom_size (m : Nat) (indptr : Array Int) :
    ∀ (c k : Nat) (d : Array P), (pruneFrom m indptr c k d).size = d.size
  | 0, _, _ => rfl
  | c + 1, k, d => by rw [pruneFrom, pruneFrom_size m indptr c, pruneStep, mapRange_size]

/-- well-formed CSR row pointers: non-negative, non-decreasing, the last one within `data` -/
structure CsrOk (indptr : Array Int) (dsize : Nat) : Prop where
  nonneg : ∀ i (h : i < indptr.size), 0 ≤ indptr[i]
  mono : ∀ i j, i ≤ j → j < indptr.size → ptr indptr i ≤ ptr indptr j
  last : ∀ i, i < indptr.size → ptr indptr i ≤ dsize

theorem ptr_eq (indptr : Array Int) (i : Nat) (h : i < indptr.size) (hn : 0 ≤ indptr[i]) :
    indptr[i] = ((ptr indptr i : Nat) : Int) := by
  rw [ptr, Array.getD, dif_pos h]
  exact (Int.toNat_of_nonneg hn).symm

/-- outer loop over the `n` rows; the inner loop of a row needs at most `D + 1` fuel -/
theorem prune_loop0 (m : Nat) (hm : 0 < m) (indptr : Array Int) (D : Nat) (hc : CsrOk indptr D)
    (hs : ∀ a : Array P, (SortFn.sortArr a).size = a.size) (n : Nat) (hn : indptr.size = n + 1) :
    ∀ (fuel k : Nat), k ≤ n → n - k + D < fuel → ∀ data : Array P, data.size = D →
      degree_prune_internal.loop0 indptr (m : Int) (n : Int) fuel data (k : Int)
        = some (.next (pruneFrom m indptr (n - k) k data, (n : Int))) := by
  refine range_loop ?_ ?_
  · intro fuel k c hfuel ih data hd
    have h0 : k < indptr.size := hn ▸ Nat.lt_succ_of_lt c
    have h1 : k + 1 < indptr.size := hn ▸ Nat.succ_lt_succ c
    have hle : ptr indptr k ≤ ptr indptr (k + 1) := hc.mono k (k + 1) (Nat.le_succ k) h1
    have hhi : ptr indptr (k + 1) ≤ D := hc.last (k + 1) h1
    have hnk : n - k = (n - (k + 1)) + 1 := (Nat.succ_pred_eq_of_pos (Nat.sub_pos_of_lt c)).symm
    rw [degree_prune_internal.loop0, hnk, pruneFrom, pruneStep, rowOf, rowCut]
    simp only [cursor_lt, c, if_true, cursor_succ, rd_lt indptr k h0, rd_lt indptr (k + 1) h1,
      ptr_eq indptr k h0 (hc.nonneg k h0), ptr_eq indptr (k + 1) h1 (hc.nonneg (k + 1) h1), slice,
      Int.natCast_nonneg, and_self, Int.toNat_natCast, Option.bind_eq_bind, Option.bind_some, gt_iff_lt]
    generalize hrow : data.extract (ptr indptr k) (ptr indptr (k + 1)) = row
    by_cases g : m < row.size
    · rw [if_pos g, if_pos g]
      have hidx : m - 1 < (SortFn.sortArr row).size := hs row ▸ Nat.lt_of_le_of_lt (Nat.sub_le m 1) g
      have hm1 : ((m - 1 : Nat) : Int) = (m : Int) - 1 := Int.natCast_sub hm
      rw [← hm1, rd_lt _ (m - 1) hidx, Option.bind_some,
        prune_loop1 _ _ fuel _ hle (Nat.lt_of_le_of_lt (Nat.le_trans (Nat.sub_le _ _) hhi) hfuel)
          data (hd ▸ hhi), Option.bind_some,
        Array.getElem?_eq_getElem hidx]
      exact ih _ (by rw [mapRange_size, hd])
    · rw [if_neg g, if_neg g, mapRange_id]
      exact ih data hd
  · intro fuel data _
    rw [degree_prune_internal.loop0, if_neg (Int.lt_irrefl _), Nat.sub_self, pruneFrom]
    rfl

/-- **`degree_prune_internal` (translated) = the outer loop `pruneFrom` over all rows, memory
safe**: no out-of-bounds load or store, fuel `≥ rows + data.size + 2` -/
theorem degree_prune_internal_run (m : Nat) (hm : 0 < m) (indptr : Array Int) (data : Array P)
    (hc : CsrOk indptr data.size) (hs : ∀ a : Array P, (SortFn.sortArr a).size = a.size)
    (hn : 0 < indptr.size) (fuel : Nat) (hf : indptr.size + data.size + 2 ≤ fuel) :
    GenSG.degree_prune_internal fuel indptr data (m : Int)
      = some (pruneFrom m indptr (indptr.size - 1) 0 data) := by
  have hn' : indptr.size = (indptr.size - 1) + 1 := (Nat.sub_add_cancel hn).symm
  have hfuel : indptr.size - 1 - 0 + data.size < fuel :=
    Nat.lt_of_le_of_lt (Nat.add_le_add_right (Nat.sub_le _ 1) _)
      (Nat.lt_of_lt_of_le (Nat.lt_add_of_pos_right Nat.two_pos) hf)
  have L := prune_loop0 m hm indptr data.size hc hs _ hn' fuel 0 (Nat.zero_le _) hfuel data rfl
  have hn1 : ((indptr.size - 1 : Nat) : Int) = (indptr.size : Int) - 1 := Int.natCast_sub hn
  rw [hn1, Int.natCast_zero, Nat.sub_zero] at L
  simp only [GenSG.degree_prune_internal, L, Option.bind_eq_bind, Option.bind_some, Option.pure_def]

end

/-! ### row by row: the outer loop computes the model's `degreePrune` of every CSR row -/
section Rows
variable {P : Type} [LT P] [DecidableLT P] [OfNat P 0] [SortFn P]

/-- what `degree_prune_internal` makes of the lengths of one row -/
def prunedVals (m : Nat) (row : Array P) : Array P := row.map (rowCut m row)

/-- the rows `k ≤ i < k + c` are pruned, each as if alone; the others are as they were -/
theorem pruneFrom_rows (m : Nat) (indptr : Array Int) (D : Nat) (hc : CsrOk indptr D) :
    ∀ (c k : Nat) (d : Array P), d.size = D → k + c < indptr.size → ∀ i, i + 1 < indptr.size →
      rowOf indptr (pruneFrom m indptr c k d) i
        = if k ≤ i ∧ i < k + c then prunedVals m (rowOf indptr d i) else rowOf indptr d i
  | 0, k, d, _, _, i, _ => by
    rw [pruneFrom, if_neg fun h => Nat.lt_irrefl i (Nat.lt_of_lt_of_le h.2 h.1)]
  | c + 1, k, d, hd, hk, i, hi => by
    subst hd
    rw [pruneFrom, pruneFrom_rows m indptr _ hc c (k + 1) (pruneStep m indptr d k) (mapRange_size _ _ _ d)
      (by rw [Nat.add_right_comm]; exact hk) i hi]
    by_cases e : i = k
    · subst e
      rw [if_neg fun h => Nat.not_succ_le_self i h.1, if_pos ⟨Nat.le_refl i, Nat.lt_add_of_pos_right (Nat.succ_pos c)⟩]
      -- row `i` of `pruneStep … d i`, a `mapRange` over that row, against `prunedVals`, a `map`
      exact extract_mapRange _ _ _ d
    · have hk1 : k + 1 < indptr.size := Nat.lt_of_le_of_lt (Nat.add_le_add_left (Nat.succ_le_succ (Nat.zero_le c)) k) hk
      -- another row does not meet row `k`
      have hrow : rowOf indptr (pruneStep m indptr d k) i = rowOf indptr d i :=
        extract_mapRange_of_disjoint _ _ _ _ _ d <| (Nat.lt_or_gt_of_ne e).imp
          (fun h => hc.mono (i + 1) k h (Nat.lt_of_succ_lt hk1))
          (fun h => hc.mono (k + 1) i h (Nat.lt_of_succ_lt hi))
      have : k + 1 ≤ i ↔ k ≤ i := ⟨Nat.le_of_succ_le, fun h => Nat.lt_of_le_of_ne h (Ne.symm e)⟩
      rw [Nat.add_right_comm k 1 c, Nat.add_assoc k c 1, hrow]
      simp only [this]

variable [LE P] [DecidableLE P]

/-- the model's `degreePrune` on the row `(column, length)` is the lengths' `prunedVals`, the
columns untouched — under `hsort`: `sortArr` is the model's `sortP` -/
theorem prunedVals_model (m : Nat) (hm : 0 < m)
    (hsort : ∀ a : Array P, (SortFn.sortArr a).toList = sortP a.toList)
    (cols : List Int) (row : Array P) (hl : cols.length = row.size) :
    cols.zip (prunedVals m row).toList = degreePrune (0 : P) m (cols.zip row.toList) := by
  have hlen : (cols.zip row.toList).length = row.size := by simp [hl]
  have hsnd : (cols.zip row.toList).map (·.2) = row.toList := by
    apply List.map_snd_zip; simp [hl]
  have hcut : cutValue m row.toList = (SortFn.sortArr row)[m - 1]? := by
    unfold cutValue
    rw [if_neg (Nat.ne_of_gt hm), ← hsort, Array.getElem?_toList]
  unfold degreePrune prunedVals rowCut
  rw [hlen, hsnd, hcut]
  by_cases g : m < row.size
  · rw [if_pos g, if_pos g]
    cases (SortFn.sortArr row)[m - 1]? with
    | none => exact congrArg _ (congrArg _ (Array.map_id row))
    | some cut =>
      simp only [Array.toList_map, List.zip_map_right]
      apply List.map_congr_left
      intro e _
      obtain ⟨c0, v0⟩ := e
      unfold cutF
      by_cases hv : cut < v0 <;> simp [Prod.map, hv]
  · rw [if_neg g, if_neg g, Array.map_id]

end Rows

/-! ### `diversify` (dense, forward): the scan loop and the candidate loop of one row -/
section Diversify
variable {P : Type}

/-- two parallel arrays as the model's list of entries -/
def ents (a : Array Int) (b : Array P) : List (Ent P) := a.toList.zip b.toList

theorem ents_drop_lt (a : Array Int) (b : Array P) (h : a.size = b.size) (k : Nat) (hk : k < a.size) :
    (ents a b).drop k = (a[k], b[k]'(h ▸ hk)) :: (ents a b).drop (k + 1) := by
  have hl : k < (ents a b).length := by simp [ents, h]; omega
  rw [List.drop_eq_getElem_cons hl]
  simp [ents]

theorem ents_drop_ge (a : Array Int) (b : Array P) (k : Nat) (hk : a.size ≤ k) : (ents a b).drop k = [] := by
  apply List.drop_eq_nil_of_le
  simp [ents]; omega

theorem ents_push (a : Array Int) (b : Array P) (h : a.size = b.size) (x : Int) (y : P) :
    ents (a.push x) (b.push y) = ents a b ++ [(x, y)] := by
  have hl : a.toList.length = b.toList.length := by simp [h]
  simp [ents, List.zip_append hl]

theorem ents_length (a : Array Int) (b : Array P) (h : a.size = b.size) : (ents a b).length = a.size := by
  simp [ents, h]

variable [LT P] [DecidableLT P] [DivParams P]

/-- the generator tests of row `i` as the model takes them -/
def drawOf (P : Type) [DivParams P] (i : Nat) : Nat → Bool := fun c => DivParams.draw P (i : Int) (c : Int)

/-- the scan `for k in range(len(new_indices))` of one candidate `(cj, dj)`, the `j`-th entry of the
row `(row, drow)` = the model's `scanNew` -/
theorem diversify_loop2 (indices : Array (Array Int)) (distances : Array (Array P)) (data : Array (Array P))
    (i : Nat) (row : Array Int) (drow : Array P) (hrow : rd indices (i : Int) = some row)
    (hdrow : rd distances (i : Int) = some drow) (j cj : Int) (dj : P)
    (hcj : rd row j = some cj) (hdj : rd drow j = some dj)
    (ni : Array Int) (nd : Array P) (hn : ni.size = nd.size) :
    ∀ (fuel : Nat) (k : Int) (rest : List (Ent P)), At (ents ni nd) k rest → rest.length < fuel →
      ∀ (c : Nat) (flag : Bool),
      ∃ k' : Int, diversify.loop2 indices distances data () (i : Int) ni nd j (ni.size : Int) fuel
          (c : Int) flag k
        = some (.next (((scanNew DivParams.eps DivParams.dist (drawOf P i) cj dj rest c).2 : Nat),
            (if (scanNew DivParams.eps DivParams.dist (drawOf P i) cj dj rest c).1 then flag else false),
            k')) := by
  rw [← ents_length ni nd hn]
  refine At.loop (m := 0) ?_ ?_
  · intro fuel k ⟨x, y⟩ t h _ ih c flag
    rw [diversify.loop2, scanNew]
    simp only [h.lt, if_true, (h.get_zip hn).1, (h.get_zip hn).2, hrow, hdrow, hcj, hdj, Option.bind_eq_bind,
      Option.bind_some, gt_iff_lt]
    by_cases c1 : (DivParams.eps : P) < y
    · by_cases c2 : (DivParams.dist cj x : P) < dj
      · simp only [c1, c2, if_true, and_self, drawOf]
        by_cases c3 : DivParams.draw P (i : Int) (c : Int) = true
        · simp only [c3, if_true]
          exact ⟨_, rfl⟩
        · simp only [c3, if_false, Bool.false_eq_true]
          exact ih (c + 1) flag
      · simp only [c1, c2, if_true, if_false, and_false]
        exact ih c flag
    · simp only [c1, if_false, false_and]
      exact ih c flag
  · intro fuel k h c flag
    rw [diversify.loop2, if_neg h.not_lt, scanNew]
    exact ⟨k, rfl⟩

/-- the candidate loop `for j in range(1, width)` of one row `(row, drow)` = the model's `divLoop`; a pass
burns at most `width + 1` fuel in the scan, `new_*` being no longer than the part of the row gone through -/
theorem diversify_loop1 (indices : Array (Array Int)) (distances : Array (Array P)) (data : Array (Array P))
    (i : Nat) (row : Array Int) (drow : Array P) (hrow : rd indices (i : Int) = some row)
    (hdrow : rd distances (i : Int) = some drow) (hw : row.size = drow.size) :
    ∀ (fuel : Nat) (j : Int) (rest : List (Ent P)), At (ents row drow) j rest →
      rest.length + row.size < fuel →
      ∀ (c : Nat) (ni : Array Int) (nd : Array P), ni.size = nd.size →
      ni.size + rest.length ≤ row.size →
      ∃ (c' j' : Int) (ni' : Array Int) (nd' : Array P),
        diversify.loop1 indices distances data () (i : Int) (row.size : Int) fuel (c : Int) ni nd j
          = some (.next (c', ni', nd', j')) ∧ ni'.size = nd'.size ∧
        ni'.size ≤ ni.size + rest.length ∧
        ents ni' nd' = (divLoop DivParams.eps DivParams.dist (drawOf P i) rest (ents ni nd) c).1 := by
  have hl := ents_length row drow hw
  refine At.loop (m := row.size) ?_ ?_
  · intro fuel j ⟨x, y⟩ t h hfuel ih c ni nd hn hs
    have hj : j < (row.size : Int) := by rw [← hl]; exact h.lt
    rw [List.length_cons] at hs
    have rx : rd row j = some x := (h.get_zip hw).1
    have ry : rd drow j = some y := (h.get_zip hw).2
    rw [diversify.loop1, divLoop]
    simp only [hj, if_true, hrow, hdrow, rx, ry, Option.bind_eq_bind, Option.bind_some]
    by_cases cn : x < 0
    · simp only [cn, if_true]
      exact ⟨_, _, ni, nd, rfl, hn, Nat.le_add_right _ _, rfl⟩
    obtain ⟨k', hL⟩ := diversify_loop2 indices distances data i row drow hrow hdrow j x y rx ry ni nd hn fuel 0
      _ (At.zero _) (by
        rw [ents_length ni nd hn]
        exact Nat.lt_of_le_of_lt (Nat.le_trans (Nat.le_add_right _ _) hs) hfuel) c true
    generalize scanNew DivParams.eps DivParams.dist (drawOf P i) x y (ents ni nd) c = r at hL
    simp only [cn, if_false, hL, Option.bind_some]
    by_cases cf : r.1 = true
    · obtain ⟨c', j', ni', nd', h1, h2, h3, h4⟩ := ih r.2 (ni.push x) (nd.push y)
        (by rw [Array.size_push, Array.size_push, hn]) (by rw [Array.size_push, Nat.add_right_comm]; exact hs)
      rw [Array.size_push, Nat.add_right_comm] at h3
      simp only [cf, if_true]
      exact ⟨c', j', ni', nd', h1, h2, h3, by rw [h4, ents_push ni nd hn]⟩
    · obtain ⟨c', j', ni', nd', h1, h2, h3, h4⟩ := ih r.2 ni nd hn (Nat.le_of_succ_le hs)
      simp only [cf, if_false, Bool.false_eq_true]
      exact ⟨c', j', ni', nd', h1, h2, Nat.le_succ_of_le h3, h4⟩
  · intro fuel j h c ni nd hn _
    rw [diversify.loop1, if_neg (by rw [← hl]; exact h.not_lt), divLoop]
    exact ⟨_, _, ni, nd, rfl, hn, Nat.le_add_right _ _, rfl⟩

/-- the fuel `diversify` gives the candidate loop of a row of width `w`, entered with `t = w - 1` entries
left after the first, is enough for `diversify_loop1` -/
theorem diversify_fuel {t w fuel : Nat} (hl : t + 1 = w) (hf : 2 * w + 2 ≤ fuel) : t + w < fuel :=
  Nat.lt_of_lt_of_le (Nat.add_lt_add_right (hl ▸ Nat.lt_succ_self t) w)
    (Nat.le_trans (Nat.le_of_eq (Nat.two_mul w).symm) (Nat.le_trans (Nat.le_add_right _ 2) hf))

end Diversify

end Pynn.GenSearchGraphProofs
