import PynnVerif.Proofs.Heap

/-! # The top-k invariant of a row fed by pushes -/
namespace Pynn
variable {P : Type} [LinearOrder P]

/-- Invariant of a row fed with offers `(d n, n, f)` for `(n, f) ∈ offers`.  `excl` is the top-k
idea: every finite offer is held, or is at least as far as the root, the farthest entry held. -/
structure RowInv (top : P) (d : Nat → P) (offers : List (Nat × Bool)) (h : Row P) : Prop where
  heap : IsHeap h
  real : ∀ e ∈ h, 0 ≤ e.idx → (e.idx.toNat, e.flag) ∈ offers ∧ e.prio = d e.idx.toNat ∧ e.prio < top
  sent : ∀ e ∈ h, e.idx < 0 → e.idx = -1 ∧ e.prio = top
  nodup : ((h.toList.filter (fun e => 0 ≤ e.idx)).map (·.idx)).Nodup
  excl : ∀ o ∈ offers, d o.1 < top → (∃ e ∈ h, e.idx = (o.1 : Int)) ∨
            ∀ (hk : 0 < h.size), h[0].prio ≤ d o.1

/-- `RowInv` depends only on the *set* of offers. -/
theorem RowInv.congr {top : P} {d : Nat → P} {l1 l2 : List (Nat × Bool)} {h : Row P}
    (hl : ∀ x, x ∈ l1 ↔ x ∈ l2) (hinv : RowInv top d l1 h) : RowInv top d l2 h := by
  refine ⟨hinv.heap, ?_, hinv.sent, hinv.nodup, ?_⟩
  · intro e he hidx
    obtain ⟨h1, h2, h3⟩ := hinv.real e he hidx
    exact ⟨(hl _).mp h1, h2, h3⟩
  · intro o ho hfin
    exact hinv.excl o ((hl _).mpr ho) hfin

omit [LinearOrder P] in
/-- Replacing the root by a real entry whose index is not held keeps the held indices
duplicate-free. -/
theorem nodup_set_root {h h' : Row P} {x : Entry P} (hp : h'.Perm (h.setIfInBounds 0 x)) (hx : 0 ≤ x.idx)
    (hnd : ((h.toList.filter (fun e => 0 ≤ e.idx)).map (·.idx)).Nodup)
    (hnot : ∀ e ∈ h, e.idx ≠ x.idx) :
    ((h'.toList.filter (fun e => 0 ≤ e.idx)).map (·.idx)).Nodup := by
  rw [(((Array.perm_iff_toList_perm.mp hp).filter (fun e => 0 ≤ e.idx)).map (·.idx)).nodup_iff]
  rcases h with ⟨_ | ⟨r, rest⟩⟩
  · simp
  · simp only [Array.toList_setIfInBounds, List.set_cons_zero]
    rw [List.filter_cons_of_pos (by simpa using hx), List.map_cons, List.nodup_cons]
    refine ⟨?_, hnd.sublist (((List.sublist_cons_self r rest).filter _).map _)⟩
    intro hmem
    obtain ⟨e, he, heq⟩ := List.mem_map.mp hmem
    have he' : e ∈ rest := (List.mem_filter.mp he).1
    exact hnot e (by simp [he']) heq

omit [LinearOrder P] in
/-- duplicate-freeness of the held candidates, read position-wise -/
theorem real_idx_distinct (r : Row P)
    (hnd : ((r.toList.filter (fun e => 0 ≤ e.idx)).map (·.idx)).Nodup)
    (i j : Nat) (hi : i < r.size) (hj : j < r.size) (hij : i < j) (h0 : 0 ≤ r[i].idx) :
    r[i].idx ≠ r[j].idx := by
  by_cases hj0 : 0 ≤ r[j].idx
  · rw [List.Nodup, List.pairwise_map, List.pairwise_filter] at hnd
    have := List.pairwise_iff_getElem.mp hnd i j (Array.length_toList ▸ hi) (Array.length_toList ▸ hj) hij
    simp only [Array.getElem_toList, decide_eq_true_eq] at this
    exact this h0 hj0
  · omega

theorem push_inv (c : Bool) (top : P) (htop : ∀ x : P, x ≤ top) (d : Nat → P)
    (offers : List (Nat × Bool)) (h : Row P) (n : Nat) (f : Bool)
    (hnew : c = false → n ∉ offers.map (·.1)) (hinv : RowInv top d offers h) :
    RowInv top d ((n, f) :: offers) (push c h (d n) n f).1 := by
  -- every offer is covered afterwards, whatever the push answers
  have hexcl : ∀ o ∈ (n, f) :: offers, d o.1 < top → Covered (push c h (d n) n f).1 o.1 (d o.1) := by
    intro o ho hfin
    rcases List.mem_cons.mp ho with rfl | ho'
    · exact covered_push c h _ _ _
    · refine Covered.push (hinv.excl o ho' hfin) hinv.heap (fun e he heq => ?_) c _ _ _
      rw [(hinv.real e he (heq.symm ▸ Int.natCast_nonneg _)).2.1, heq, Int.toNat_natCast]
  rcases push_spec c h (d n) n f with ⟨_, heq⟩ | ⟨_, hk, hlt, hscan, hperm⟩
  · rw [heq] at hexcl ⊢
    exact ⟨hinv.heap, fun e he hidx => (hinv.real e he hidx).imp_left (List.mem_cons_of_mem _),
      hinv.sent, hinv.nodup, hexcl⟩
  · -- accepted; no held entry carries index `n`
    have hnot : ∀ e ∈ h, e.idx ≠ (n : Int) := by
      intro e he heq
      cases c with
      | true => exact hscan rfl e he heq
      | false =>
        obtain ⟨h1, _, _⟩ := hinv.real e he (heq.symm ▸ Int.natCast_nonneg n)
        refine hnew rfl (List.mem_map.mpr ⟨_, h1, ?_⟩)
        show e.idx.toNat = n
        rw [heq, Int.toNat_natCast]
    refine ⟨push_heap c h (d n) n f hinv.heap, ?_, ?_, nodup_set_root hperm (Int.natCast_nonneg n) hinv.nodup hnot, hexcl⟩
    · intro e he hidx
      rcases push_mem c h (d n) n f e he with rfl | he'
      · exact ⟨by simp only [Int.toNat_natCast, List.mem_cons_self], by simp only [Int.toNat_natCast],
          lt_of_lt_of_le hlt (htop _)⟩
      · exact (hinv.real e he' hidx).imp_left (List.mem_cons_of_mem _)
    · intro e he hidx
      rcases push_mem c h (d n) n f e he with rfl | he'
      · exact absurd hidx (Int.not_lt.mpr (Int.natCast_nonneg n))
      · exact hinv.sent e he' hidx

/-- The row is full, or it holds every finite offer. -/
theorem RowInv.full_or_all {top : P} {d : Nat → P} {offers : List (Nat × Bool)} {h : Row P}
    (hinv : RowInv top d offers h) :
    (∀ e ∈ h, 0 ≤ e.idx) ∨
      (∀ o ∈ offers, d o.1 < top → ∃ e ∈ h, e.idx = (o.1 : Int)) := by
  by_cases hall : ∀ e ∈ h, 0 ≤ e.idx
  · exact Or.inl hall
  · right
    obtain ⟨e, hne⟩ := Classical.not_forall.mp hall
    obtain ⟨he, hneg⟩ := Classical.not_imp.mp hne
    -- a sentinel is held: an offer that is not would be as far as `top`
    intro o ho hfin
    by_contra hnot
    have := Covered.le_of_not_held (hinv.excl o ho hfin) hinv.heap hnot e he
    rw [(hinv.sent e he (by omega)).2] at this
    exact absurd (lt_of_le_of_lt this hfin) (lt_irrefl _)

/-- Every finite offer that is not held is at least as far as every held candidate. -/
theorem RowInv.best {top : P} {d : Nat → P} {offers : List (Nat × Bool)} {h : Row P}
    (hinv : RowInv top d offers h) :
    ∀ a ∈ h, 0 ≤ a.idx → ∀ o ∈ offers, d o.1 < top → (¬ ∃ e ∈ h, e.idx = (o.1 : Int)) →
      a.prio ≤ d o.1 :=
  fun a ha _ o ho hfin hnot => Covered.le_of_not_held (hinv.excl o ho hfin) hinv.heap hnot a ha

/-- `RowInv` for offers that all carry one flag, read over the candidates alone. -/
theorem RowInv.of_map {top : P} {d : Nat → P} {l : List Nat} {f : Bool} {h : Row P}
    (hinv : RowInv top d (l.map fun n => (n, f)) h) :
    (∀ e ∈ h, 0 ≤ e.idx → e.idx.toNat ∈ l ∧ e.prio = d e.idx.toNat ∧ e.prio < top) ∧
    ((∀ e ∈ h, 0 ≤ e.idx) ∨ (∀ o ∈ l, d o < top → ∃ e ∈ h, e.idx = (o : Int))) ∧
    (∀ a ∈ h, 0 ≤ a.idx → ∀ o ∈ l, d o < top → (¬ ∃ e ∈ h, e.idx = (o : Int)) → a.prio ≤ d o) := by
  have hm : ∀ o ∈ l, (o, f) ∈ l.map fun n => (n, f) := fun o ho => List.mem_map.mpr ⟨o, ho, rfl⟩
  refine ⟨fun e he h0 => ?_, hinv.full_or_all.imp_right fun hall o ho => hall (o, f) (hm o ho),
    fun a ha h0 o ho => hinv.best a ha h0 (o, f) (hm o ho)⟩
  obtain ⟨h1, h2⟩ := hinv.real e he h0
  obtain ⟨m, hml, hme⟩ := List.mem_map.mp h1
  have hm' : m = e.idx.toNat := congrArg Prod.fst hme
  exact ⟨hm' ▸ hml, h2⟩

omit [LinearOrder P] in
/-- the empty row holds no candidate, so none twice -/
theorem mkRow_nodup (top : P) (k : Nat) :
    (((mkRow top k).toList.filter (fun e => 0 ≤ e.idx)).map (·.idx)).Nodup := by
  rw [List.filter_eq_nil_iff.mpr fun e he => by
    rw [mem_mkRow (Array.mem_toList_iff.mp he)]; exact decide_eq_false (by decide : ¬ (0 : Int) ≤ -1) ▸ Bool.false_ne_true]
  exact List.nodup_nil

theorem mkRow_inv (top : P) (k : Nat) (d : Nat → P) : RowInv top d [] (mkRow top k) := by
  refine ⟨mkRow_isHeap top k, ?_, ?_, ?_, ?_⟩
  · intro e he hidx
    rw [mem_mkRow he] at hidx
    exact absurd hidx (by decide : ¬ (0 : Int) ≤ -1)
  · intro e he _
    rw [mem_mkRow he]
    exact ⟨rfl, rfl⟩
  · exact mkRow_nodup top k
  · intro o ho
    simp at ho

theorem foldl_push_inv (c : Bool) (top : P) (htop : ∀ x : P, x ≤ top) (d : Nat → P)
    (done rest : List (Nat × Bool)) (h : Row P)
    (hd : c = false → ((done ++ rest).map (·.1)).Nodup)
    (hinv : RowInv top d done h) :
    RowInv top d (done ++ rest) (rest.foldl (fun h o => (push c h (d o.1) o.1 o.2).1) h) := by
  induction rest generalizing done h with
  | nil => rw [List.append_nil]; exact hinv
  | cons o rest ih =>
    obtain ⟨n, f⟩ := o
    have hnew : c = false → n ∉ done.map (·.1) := by
      intro hc
      have := hd hc
      rw [List.map_append, List.nodup_append] at this
      intro hmem
      exact this.2.2 _ hmem _ (by simp) rfl
    have h1 := push_inv c top htop d done h n f hnew hinv
    have h2 : RowInv top d (done ++ [(n, f)]) (push c h (d n) n f).1 :=
      h1.congr fun x => by rw [List.mem_cons, List.mem_append, List.mem_singleton, or_comm]
    rw [List.append_cons] at hd ⊢
    exact ih (done ++ [(n, f)]) _ hd h2

theorem run_size (c : Bool) (top : P) (k : Nat) (d : Nat → P) (offers : List (Nat × Bool)) :
    (offers.foldl (fun h o => (push c h (d o.1) o.1 o.2).1) (mkRow top k)).size = k :=
  List.foldlRecOn (motive := fun h : Row P => h.size = k) _ _ Array.size_replicate
    fun h hh _ _ => (push_size c h _ _ _).trans hh

theorem run_inv (c : Bool) (top : P) (htop : ∀ x : P, x ≤ top) (k : Nat) (d : Nat → P)
    (offers : List (Nat × Bool)) (hd : c = false → (offers.map (·.1)).Nodup) :
    RowInv top d offers
      (offers.foldl (fun h o => (push c h (d o.1) o.1 o.2).1) (mkRow top k)) :=
  foldl_push_inv c top htop d [] offers _ hd (mkRow_inv top k d)

/-- a row with at least as many distinct finite offers as it has slots is full -/
theorem RowInv.full_of_many {top : P} {d : Nat → P} {offers : List (Nat × Bool)} {h : Row P}
    (hinv : RowInv top d offers h) (S : List Nat) (hS : S.Nodup)
    (hSo : ∀ q ∈ S, ∃ f, (q, f) ∈ offers) (hfin : ∀ q ∈ S, d q < top) (hlen : h.size ≤ S.length) :
    ∀ e ∈ h, 0 ≤ e.idx := by
  rcases hinv.full_or_all with hfull | hall
  · exact hfull
  · intro e0 he0
    apply Classical.byContradiction
    intro hneg
    -- all of `S` is held among the real entries, which are fewer than `h.size`
    let held := (h.toList.filter (fun e => decide (0 ≤ e.idx))).map (·.idx)
    have hsub : (S.map (fun q : Nat => (q : Int))) ⊆ held := by
      intro x hx
      obtain ⟨q, hq, rfl⟩ := List.mem_map.mp hx
      obtain ⟨f, hf⟩ := hSo q hq
      obtain ⟨e, he, heq⟩ := hall (q, f) hf (hfin q hq)
      exact List.mem_map.mpr ⟨e, List.mem_filter.mpr ⟨Array.mem_toList_iff.mpr he,
        decide_eq_true (heq ▸ Int.natCast_nonneg q)⟩, heq⟩
    have hnd : (S.map (fun q : Nat => (q : Int))).Nodup :=
      List.Pairwise.map _ (fun a b hab e => hab (Int.natCast_inj.mp e)) hS
    have hle := hnd.length_le_of_subset hsub
    have hlt : held.length < h.size := by
      simp only [held, List.length_map]
      have : (h.toList.filter (fun e => decide (0 ≤ e.idx))).length < h.toList.length := by
        apply List.length_filter_lt_length_iff_exists.mpr
        exact ⟨e0, Array.mem_toList_iff.mpr he0, by simpa using hneg⟩
      simpa using this
    rw [List.length_map] at hle
    exact absurd (Nat.lt_of_le_of_lt hle hlt) (Nat.not_lt.mpr hlen)

/-! ## re-inserting a well-formed row into an empty heap

The state after a prefix of the row has been offered (`ReInv`), one offer (`reInv_push`) and all of them (`reinsert_fold`);
`C13.reinsert_eq` is the case of the whole row, where no empty slot is left over. -/

/-- the `(index, distance)` pair of an entry (what `init_from_neighbor_graph` is given) -/
def keyOf (e : Entry P) : Int × P := (e.idx, e.prio)

/-- state of the re-insertion after the entries `F` of a well-formed row have been offered: up to order, the
`(index, distance)` pairs held are those of `F` and `k - F.length` empty slots (an offered sentinel is rejected;
the slot it came from stays empty) -/
structure ReInv (top : P) (k : Nat) (F : List (Entry P)) (h : Row P) : Prop where
  heap : IsHeap h
  keys : (h.toList.map keyOf).Perm (F.map keyOf ++ List.replicate (k - F.length) (-1, top))

theorem reInv_mkRow (top : P) (k : Nat) : ReInv top k [] (mkRow top k) :=
  ⟨mkRow_isHeap top k, by simp [mkRow, keyOf]⟩

omit [LinearOrder P] in
/-- overwriting the root, seen through `φ` and up to order -/
theorem perm_set_zero {α β : Type} (φ : α → β) (a : Array α) (hk : 0 < a.size) (y : α) {b : β} {l₁ l₂ : List β}
    (h : (a.toList.map φ).Perm (l₁ ++ b :: l₂)) (hb : φ a[0] = b) :
    ((a.setIfInBounds 0 y).toList.map φ).Perm (l₁ ++ φ y :: l₂) := by
  obtain ⟨l0⟩ := a
  cases l0 with
  | nil => exact absurd hk (Nat.lt_irrefl 0)
  | cons r0 rest =>
    subst hb
    exact ((h.trans List.perm_middle).cons_inv.cons (φ y)).trans List.perm_middle.symm

/-- One offer.  A sentinel is rejected (`top` is not below the root) and stands for the slot that stays empty.  A real
entry finds an empty slot at the root, the farthest entry, and no duplicate, and takes that slot. -/
theorem reInv_push {top : P} (htop : ∀ x : P, x ≤ top) {k : Nat} {F : List (Entry P)} {h : Row P}
    (hinv : ReInv top k F h) (hF : ∀ r ∈ F, r.prio = top → r.idx = -1) (hlen : F.length < k) (f : Bool)
    (e : Entry P) (he : (e.idx = -1 ∧ e.prio = top) ∨ (0 ≤ e.idx ∧ e.prio < top))
    (hnew : 0 ≤ e.idx → ∀ r ∈ F, r.idx ≠ e.idx) :
    ReInv top k (F ++ [e]) (push true h e.prio e.idx f).1 := by
  have hslot : k - F.length = (k - (F ++ [e]).length) + 1 := by
    rw [List.length_append, List.length_singleton]
    exact (Nat.succ_pred_eq_of_pos (Nat.sub_pos_of_lt hlen)).symm
  -- the slot that `e` takes, or leaves empty, set apart
  have hkeys := hinv.keys
  rw [hslot, List.replicate_succ] at hkeys
  refine ⟨push_heap true h e.prio e.idx f hinv.heap, ?_⟩
  rw [List.map_append, List.append_assoc]
  rcases he with ⟨he1, hep⟩ | ⟨he0, hep⟩
  · rw [hep, push_far true h top _ f fun _ => htop _]
    exact (show keyOf e = (-1, top) from Prod.ext he1 hep) ▸ hkeys
  · -- every pair held was fed or is an empty slot: none has the index of `e`, and one at distance `top` has index `-1`
    have hcls : ∀ x ∈ h, x.idx ≠ e.idx ∧ (x.prio = top → x.idx = -1) := by
      intro x hx
      rcases List.mem_append.mp (hinv.keys.mem_iff.mp (List.mem_map_of_mem (Array.mem_toList_iff.mpr hx))) with hm | hm
      · obtain ⟨r, hr, hrk⟩ := List.mem_map.mp hm
        obtain ⟨h1, h2⟩ := Prod.mk.inj hrk
        exact ⟨h1 ▸ hnew he0 r hr, h1 ▸ h2 ▸ hF r hr⟩
      · have hx1 : x.idx = -1 := congrArg Prod.fst (List.mem_replicate.mp hm).2
        exact ⟨fun heq => absurd (hx1 ▸ heq ▸ he0) (by decide), fun _ => hx1⟩
    -- an empty slot is held, so the root has priority `top`
    obtain ⟨s, hs, hsk⟩ := List.mem_map.mp (hkeys.mem_iff.mpr (List.mem_append_right _ List.mem_cons_self))
    obtain ⟨i, hi, rfl⟩ := Array.mem_iff_getElem.mp (Array.mem_toList_iff.mp hs)
    have hk : 0 < h.size := Nat.zero_lt_of_lt hi
    have hroot : h[0].prio = top := le_antisymm (htop _)
      ((show h[i].prio = top from congrArg Prod.snd hsk) ▸ isHeap_root_max h hinv.heap i hi)
    have hacc : (push true h e.prio e.idx f).2 = true :=
      (push_accept_iff ..).mpr ⟨hk, hroot ▸ hep, fun _ x hx => (hcls x hx).1⟩
    exact ((Array.perm_iff_toList_perm.mp (push_perm true h e.prio e.idx f hacc)).map keyOf).trans
      (perm_set_zero keyOf h hk _ hkeys (Prod.ext ((hcls _ (Array.getElem_mem hk)).2 hroot) hroot))

/-- feeding the entries `es` of a well-formed row (flag `f`) to a heap that has already taken `F` -/
theorem reinsert_fold {top : P} (htop : ∀ x : P, x ≤ top) (k : Nat) (f : Bool)
    (es F : List (Entry P)) (h : Row P) (hinv : ReInv top k F h)
    (hlen : (F ++ es).length ≤ k)
    (hnodup : (((F ++ es).filter (fun e => 0 ≤ e.idx)).map (·.idx)).Nodup)
    (hwf : ∀ e ∈ F ++ es, (e.idx = -1 ∧ e.prio = top) ∨ (0 ≤ e.idx ∧ e.prio < top)) :
    ReInv top k (F ++ es) (es.foldl (fun h e => (pushFlagged h e.prio e.idx f).1) h) := by
  induction es generalizing F h with
  | nil => simpa using hinv
  | cons e es ih =>
    rw [List.append_cons] at hlen hnodup hwf ⊢
    refine ih (F ++ [e]) _ (reInv_push htop hinv (fun r hr hp => ?_) ?_ f e (hwf e (by simp)) fun he0 r hr heq => ?_)
      hlen hnodup hwf
    · exact (hwf r (by simp [hr])).elim (·.1) fun h => absurd hp (ne_of_lt h.2)
    · rw [List.length_append, List.length_append, List.length_singleton] at hlen
      exact Nat.lt_of_lt_of_le (Nat.lt_of_lt_of_le (Nat.lt_succ_self _) (Nat.le_add_right _ _)) hlen
    · -- `r` stands in front of `e`, and with `e` it is real
      rw [List.Nodup, List.pairwise_map, List.pairwise_filter] at hnodup
      exact (List.pairwise_append.mp (List.pairwise_append.mp hnodup).1).2.2 r hr e (List.mem_singleton_self e)
        (decide_eq_true (heq ▸ he0)) (decide_eq_true he0) heq

end Pynn
