import PynnVerif.Model.ThreadFlow

/-! # Relational semantics of skeletons and soundness of `safe`

`Run`, in which the statements of `Props/C19.lean` are written, is defined here. -/
namespace Pynn.TF
open Exit Stmt

/-- Big-step relational semantics: `Run st s e s'` — some execution of `st`
started in thread state `s` leaves through exit `e` in state `s'`.  Every
`mayRaise`/`set` point may raise; an `if` may take either branch; `finally`
always runs; an `except` handler may or may not match. -/
inductive Run : Stmt → TS → Exit → TS → Prop
  | skip (s) : Run skip s normal s
  | get (s) : Run getT s normal { s with saved := some s.changed }
  | set_ok (s) : Run setT s normal { s with changed := true }
  | set_raise (s) : Run setT s raised s
  | restore_some (s v) : s.saved = some v → Run restore s normal { s with changed := v }
  | restore_stale (s) : s.saved = none → Run restore s normal { s with changed := true }
  | restore_missing (s) : s.saved = none → Run restore s raised s
  | may_ok (s) : Run mayRaise s normal s
  | may_raise (s) : Run mayRaise s raised s
  | raise_ (s) : Run raise_ s raised s
  | ret (s) : Run ret s returned s
  | unknown (s e) : Run unknown s e ⟨true, none⟩
  | call_saved (s e) : e ≠ returned → Run callT s e { s with saved := some s.changed }
  | call_early (s e) : e ≠ returned → Run callT s e s
  | seq_stop (a b s e s') : Run a s e s' → e ≠ normal → Run (seq a b) s e s'
  | seq_go (a b s s' e s'') : Run a s normal s' → Run b s' e s'' → Run (seq a b) s e s''
  | ite_l (a b s e s') : Run a s e s' → Run (br a b) s e s'
  | ite_r (a b s e s') : Run b s e s' → Run (br a b) s e s'
  | fin_pass (body fin s e s' s'') : Run body s e s' → Run fin s' normal s'' →
      Run (tryFin body fin) s e s''
  | fin_override (body fin s e s' e2 s'') : Run body s e s' → Run fin s' e2 s'' → e2 ≠ normal →
      Run (tryFin body fin) s e2 s''
  | exc_none (body h s e s') : Run body s e s' → e ≠ raised → Run (tryExc body h) s e s'
  | exc_unhandled (body h s s') : Run body s raised s' → Run (tryExc body h) s raised s'
  | exc_handled (body h s s' e s'') : Run body s raised s' → Run h s' e s'' →
      Run (tryExc body h) s e s''

/-- `exec` enumerates every execution. -/
theorem exec_complete {st : Stmt} {s : TS} {e : Exit} {s' : TS} (h : Run st s e s') :
    (e, s') ∈ exec st s := by
  induction h with
  | skip | get | set_ok | may_ok | raise_ | ret => exact List.mem_cons_self
  | set_raise | may_raise => exact List.mem_cons_of_mem _ List.mem_cons_self
  | restore_some s v hv | restore_stale s hv => rw [exec, hv]; exact List.mem_cons_self
  | restore_missing s hv => rw [exec, hv]; exact List.mem_cons_of_mem _ List.mem_cons_self
  -- `unknown`, `callT`: the position of the execution in the list `exec` writes out
  | unknown s e =>
    cases e with
    | normal => exact List.mem_cons_self
    | raised => exact List.mem_cons_of_mem _ List.mem_cons_self
    | returned => exact List.mem_cons_of_mem _ (List.mem_cons_of_mem _ List.mem_cons_self)
  | call_saved s e he =>
    cases e with
    | normal => exact List.mem_cons_self
    | raised => exact List.mem_cons_of_mem _ (List.mem_cons_of_mem _ List.mem_cons_self)
    | returned => exact absurd rfl he
  | call_early s e he =>
    cases e with
    | normal => exact List.mem_cons_of_mem _ List.mem_cons_self
    | raised => exact List.mem_cons_of_mem _ (List.mem_cons_of_mem _ (List.mem_cons_of_mem _ List.mem_cons_self))
    | returned => exact absurd rfl he
  | seq_stop a b s e s' _ hne ih | exc_none a b s e s' _ hne ih =>
    exact List.mem_eraseDups.mpr (List.mem_flatMap.mpr
      ⟨(e, s'), ih, by rw [if_neg hne]; exact List.mem_singleton_self _⟩)
  | seq_go a b s s' e s'' _ _ ih1 ih2 =>
    exact List.mem_eraseDups.mpr (List.mem_flatMap.mpr ⟨(normal, s'), ih1, by rw [if_pos rfl]; exact ih2⟩)
  | ite_l a b s e s' _ ih => exact List.mem_eraseDups.mpr (List.mem_append_left _ ih)
  | ite_r a b s e s' _ ih => exact List.mem_eraseDups.mpr (List.mem_append_right _ ih)
  | fin_pass body fin s e s' s'' _ _ ih1 ih2 =>
    exact List.mem_eraseDups.mpr (List.mem_flatMap.mpr
      ⟨(e, s'), ih1, List.mem_map.mpr ⟨(normal, s''), ih2, by rw [if_pos rfl]⟩⟩)
  | fin_override body fin s e s' e2 s'' _ _ hne ih1 ih2 =>
    exact List.mem_eraseDups.mpr (List.mem_flatMap.mpr
      ⟨(e, s'), ih1, List.mem_map.mpr ⟨(e2, s''), ih2, by rw [if_neg hne]⟩⟩)
  | exc_unhandled body h s s' _ ih =>
    exact List.mem_eraseDups.mpr (List.mem_flatMap.mpr
      ⟨(raised, s'), ih, by rw [if_pos rfl]; exact List.mem_cons_self⟩)
  | exc_handled body h s s' e s'' _ _ ih1 ih2 =>
    exact List.mem_eraseDups.mpr (List.mem_flatMap.mpr
      ⟨(raised, s'), ih1, by rw [if_pos rfl]; exact List.mem_cons_of_mem _ ih2⟩)

/-- If the decidable check passes, *every* execution of the skeleton — normal
return or an exception at any may-raise point — ends with the process-wide
thread count equal to the count at entry. -/
theorem safe_sound (st : Stmt) (hs : safe st = true) :
    ∀ e s', Run st ⟨false, none⟩ e s' → s'.changed = false := by
  intro e s' hr
  have hm := exec_complete hr
  unfold safe at hs
  have := (List.all_eq_true.mp hs) (e, s') hm
  simpa using this

end Pynn.TF
