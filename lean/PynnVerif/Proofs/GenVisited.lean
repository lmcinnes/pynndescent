import PynnVerif.Proofs.GenRows
import PynnVerif.Model.Search

/-!
# The translated visited-table kernels `utils.has_been_visited` / `utils.mark_visited`

The table is a byte array with one bit per candidate (`table[c >> 3]`, bit `c & 7`).  `bitOf table c` reads that bit;
the search model's `Array Bool` table is the array of these bits.
Here: the shift and mask arithmetic, `mark_visited_refines`, and `visOf`; what the kernels do on a table, in the model's
terms, is stated and proved from these in `Props/C02.lean` (`kernel_has_been_visited_refines`, `kernel_mark_visited_refines`,
`kernel_visited_out_of_table`).
-/
namespace Pynn
open GenK

/-- the visited bit of candidate `c` in the byte table -/
def bitOf (table : Array Int) (c : Nat) : Bool := (table[c / 8]?.getD 0).toNat.testBit (c % 8)

/-- the bit of `c` when its byte holds the natural number `x` -/
theorem bitOf_of_byte {table : Array Int} {c x : Nat} (h : table[c / 8]? = some (x : Int)) :
    bitOf table c = x.testBit (c % 8) := by
  simp [bitOf, h]

theorem bitOf_out_of_table {table : Array Int} {c : Nat} (h : table.size ≤ c / 8) : bitOf table c = false := by
  simp [bitOf, h]

/-- the bits after byte `j` is overwritten by `x`: those of byte `j` are the bits of `x`, the others stay -/
theorem bitOf_set (table : Array Int) (j x c : Nat) (hj : j < table.size) :
    bitOf (table.setIfInBounds j (x : Int)) c = if c / 8 = j then x.testBit (c % 8) else bitOf table c := by
  by_cases h : c / 8 = j
  · rw [if_pos h]; exact bitOf_of_byte (by simp [h, hj])
  · rw [if_neg h, bitOf, bitOf, Array.getElem?_setIfInBounds_ne (Ne.symm h)]

theorem shr_nat (a b : Nat) : shr (a : Int) (b : Int) = some ((a >>> b : Nat) : Int) := by simp [shr]
theorem shl_nat (a b : Nat) : shl (a : Int) (b : Int) = some ((a <<< b : Nat) : Int) := by simp [shl]
theorem band_nat (a b : Nat) : band (a : Int) (b : Int) = some ((a &&& b : Nat) : Int) := by simp [band]
theorem bor_nat (a b : Nat) : bor (a : Int) (b : Int) = some ((a ||| b : Nat) : Int) := by simp [bor]

/-- byte, bit and mask of candidate `c`, as both kernels compute them -/
theorem shr_three (c : Nat) : shr (c : Int) 3 = some ((c / 8 : Nat) : Int) :=
  (shr_nat c 3).trans (by rw [Nat.shiftRight_eq_div_pow])
theorem band_seven (c : Nat) : band (c : Int) 7 = some ((c % 8 : Nat) : Int) := by
  rw [show (7 : Int) = ((2 ^ 3 - 1 : Nat) : Int) from rfl, band_nat, Nat.and_two_pow_sub_one_eq_mod]
theorem shl_one (k : Nat) : shl 1 (k : Int) = some ((1 <<< k : Nat) : Int) := shl_nat 1 k

theorem and_two_pow_ne_zero (x i : Nat) : (x &&& (1 <<< i)) ≠ 0 ↔ x.testBit i = true := by
  rw [Nat.one_shiftLeft]
  constructor
  · intro h
    obtain ⟨j, hj⟩ := Nat.exists_testBit_of_ne_zero h
    rw [Nat.testBit_and, Nat.testBit_two_pow, Bool.and_eq_true, decide_eq_true_eq] at hj
    exact hj.2 ▸ hj.1
  · intro hb h
    have := congrArg (fun y => y.testBit i) h
    simp [Nat.testBit_and, hb] at this

/-- **`mark_visited`**: sets bit `c` and no other; bytes stay bytes, whatever width `B ≥ 8` a byte is given (the
bound rests on `c % 8 < 8 ≤ B` only; `Props/C02.lean` takes `B = 8`). -/
theorem mark_visited_refines (table : Array Int) (c : Nat) (fuel : Nat) (hc : c / 8 < table.size)
    (hb : ∀ j (h : j < table.size), 0 ≤ table[j]) :
    ∃ table', GenK.mark_visited fuel table (c : Int) = some table' ∧ table'.size = table.size ∧
      (∀ j (h : j < table'.size), 0 ≤ table'[j]) ∧
      (∀ B, (∀ j (h : j < table.size), table[j] < 2 ^ B) → 8 ≤ B → ∀ j (h : j < table'.size), table'[j] < 2 ^ B) ∧
      ∀ c', bitOf table' c' = (bitOf table c' || c' == c) := by
  obtain ⟨x, hx⟩ := Int.eq_ofNat_of_zero_le (hb _ hc)
  unfold GenK.mark_visited
  simp only [shr_three, band_seven, shl_one, bor_nat, Option.bind_eq_bind, Option.bind_some, rd_lt table _ hc, hx,
    wr_lt table _ _ hc]
  refine ⟨_, rfl, by simp, forall_getElem_set (Q := (0 ≤ ·)) hb _ (Int.natCast_nonneg _), ?_, ?_⟩
  · intro B hB h3
    have hxB : x < 2 ^ B := by exact_mod_cast hx ▸ hB _ hc
    have hm : 1 <<< (c % 8) < 2 ^ B := by
      rw [Nat.one_shiftLeft]
      exact Nat.pow_lt_pow_right Nat.one_lt_two (Nat.lt_of_lt_of_le (Nat.mod_lt c (by decide)) h3)
    exact forall_getElem_set (Q := (· < 2 ^ B)) hB _ (by exact_mod_cast Nat.or_lt_two_pow hxB hm)
  · intro c'
    rw [bitOf_set table _ _ c' hc]
    by_cases hj : c' / 8 = c / 8
    · -- same byte: bit `c' % 8` of `x ||| 1 <<< (c % 8)`, and `c' = c` iff the bit positions agree
      have hcc : c % 8 = c' % 8 ↔ c' = c := ⟨fun h => Nat.ext_div_mod hj h.symm, fun h => h ▸ rfl⟩
      rw [if_pos hj, bitOf_of_byte (hj ▸ (Array.getElem?_eq_getElem hc).trans (congrArg some hx)),
        Nat.testBit_or, Nat.one_shiftLeft, Nat.testBit_two_pow]
      simp only [hcc]
      rfl
    · have hcc : ¬ c' = c := fun h => hj (h ▸ rfl)
      rw [if_neg hj, beq_eq_false_iff_ne.mpr hcc, Bool.or_false]

/-- the search model's `Array Bool` table held in a byte table: one entry per bit -/
def visOf (table : Array Int) : Array Bool := Array.ofFn (n := 8 * table.size) (fun c => bitOf table c.val)

theorem visOf_size (table : Array Int) : (visOf table).size = 8 * table.size := Array.size_ofFn

theorem visOf_getElem (table : Array Int) (j : Nat) (h : j < (visOf table).size) :
    (visOf table)[j] = bitOf table j := Array.getElem_ofFn ..

theorem visited_visOf (table : Array Int) (c : Nat) : visited (visOf table) c = bitOf table c := by
  unfold visited
  by_cases h : c < (visOf table).size
  · rw [Array.getElem?_eq_getElem h, visOf_getElem, Option.getD_some]
  · have h8 : table.size * 8 ≤ c := Nat.mul_comm 8 _ ▸ visOf_size table ▸ Nat.le_of_not_lt h
    rw [Array.getElem?_eq_none (Nat.le_of_not_lt h), Option.getD_none,
      bitOf_out_of_table ((Nat.le_div_iff_mul_le (by decide)).mpr h8)]

theorem visOf_mark (table table' : Array Int) (c : Nat) (hs : table'.size = table.size)
    (h : ∀ c', bitOf table' c' = (bitOf table c' || c' == c)) : visOf table' = mark (visOf table) c := by
  show visOf table' = (visOf table).setIfInBounds c true
  apply Array.ext
  · rw [Array.size_setIfInBounds, visOf_size, visOf_size, hs]
  · intro j h1 h2
    have hj : j < (visOf table).size := Array.size_setIfInBounds ▸ h2
    rw [visOf_getElem, Array.getElem_setIfInBounds hj, visOf_getElem, h]
    by_cases hjc : c = j
    · rw [if_pos hjc, hjc, beq_self_eq_true, Bool.or_true]
    · rw [if_neg hjc, beq_eq_false_iff_ne.mpr (Ne.symm hjc), Bool.or_false]

end Pynn
