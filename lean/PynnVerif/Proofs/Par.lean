import PynnVerif.Model.Par

/-!
# Schedule independence of a non-interfering parallel loop (C05)

Row `r` of the final state depends only on the subsequence of executed operations that target
row `r` (`run_getElem?`).  In an `Owned` loop all of these come from iteration `owner r`, and a merge
keeps each iteration's order, so that subsequence is the same in every schedule
(`merge_filter_owned`) — in particular in the sequential one, which is a merge (`isMerge_flatten`).

The last part of the file holds the concrete loops for `Props/C05.lean`: one that is `Owned`, with an
interleaved `IsMerge` schedule, and one that is not, whose two schedules give different states.
-/
namespace Pynn.Par

theorem IsMerge.cons_nil {α : Type} {ts : List (List α)} {m : List α}
    (h : IsMerge ts m) : IsMerge ([] :: ts) m := by
  induction h with
  | done ts hall => exact IsMerge.done _ (List.forall_mem_cons.2 ⟨rfl, hall⟩)
  | step ts i hi x rest m hget _ ih =>
    exact IsMerge.step ([] :: ts) (i + 1) (Nat.succ_lt_succ hi) x rest m hget ih

theorem IsMerge.prepend {α : Type} (t : List α) {ts : List (List α)} {m : List α}
    (h : IsMerge ([] :: ts) m) : IsMerge (t :: ts) (t ++ m) := by
  induction t with
  | nil => exact h
  | cons x t ih => exact IsMerge.step ((x :: t) :: ts) 0 (Nat.succ_pos _) x t (t ++ m) rfl ih

theorem isMerge_flatten {α : Type} (ts : List (List α)) : IsMerge ts ts.flatten := by
  induction ts with
  | nil => exact IsMerge.done [] (by simp)
  | cons t ts ih =>
    rw [List.flatten_cons]
    exact IsMerge.prepend t (IsMerge.cons_nil ih)

/-- If only thread `k`'s elements can satisfy `p`, the `p`-subsequence of any merge is
the `p`-subsequence of thread `k`. -/
theorem merge_filter_owned {α : Type} (p : α → Bool) (ts : List (List α)) (k : Nat)
    (hk : ∀ i (hi : i < ts.length), i ≠ k → ∀ x ∈ ts[i], p x = false)
    (m : List α) (hm : IsMerge ts m) :
    m.filter p = (ts[k]?.getD []).filter p := by
  induction hm with
  | done ts hall =>
    have : ts[k]?.getD [] = [] := by
      cases hget : ts[k]? with
      | none => rfl
      | some t => exact hall t (List.mem_of_getElem? hget)
    rw [this]
  | step ts i hi x rest m hget _ ih =>
    have hk' : ∀ j (hj : j < (ts.set i rest).length), j ≠ k →
        ∀ y ∈ (ts.set i rest)[j], p y = false := by
      intro j hj hjk y hy
      rw [List.getElem_set] at hy
      split at hy
      next hij =>
        subst hij
        exact hk i hi hjk y (hget ▸ List.mem_cons_of_mem _ hy)
      next => exact hk j (by rwa [List.length_set] at hj) hjk y hy
    have ih' := ih hk'
    by_cases hik : i = k
    · subst hik
      rw [List.getElem?_set_self hi, Option.getD_some] at ih'
      rw [List.getElem?_eq_getElem hi, hget, Option.getD_some, List.filter_cons, List.filter_cons, ih']
    · have hpx : p x = false := hk i hi hik x (hget ▸ List.mem_cons_self)
      rw [List.getElem?_set_ne hik] at ih'
      rw [List.filter_cons, if_neg (Bool.eq_false_iff.1 hpx), ih']

theorem run_cons {R : Type} (s : Array R) (o : Op R) (ops : List (Op R)) :
    run s (o :: ops) = run (s.modify o.row o.act) ops := rfl

theorem run_getElem? {R : Type} (s : Array R) (ops : List (Op R)) (r : Nat) :
    (run s ops)[r]? =
      (s[r]?).map (fun x => (ops.filter (fun o => o.row == r)).foldl (fun x o => o.act x) x) := by
  induction ops generalizing s with
  | nil => exact Option.map_id'.symm
  | cons o ops ih =>
    rw [run_cons, ih, Array.getElem?_modify, List.filter_cons]
    by_cases h : o.row = r
    · simp only [h, beq_self_eq_true, if_true, List.foldl_cons, Option.map_map, Function.comp_def]
    · simp only [h, beq_iff_eq, if_false]

theorem run_size {R : Type} (s : Array R) (ops : List (Op R)) : (run s ops).size = s.size := by
  induction ops generalizing s with
  | nil => rfl
  | cons o ops ih => rw [run_cons, ih, Array.size_modify]

theorem run_eq_of_rowwise {R : Type} (s : Array R) (ops1 ops2 : List (Op R))
    (h : ∀ r, ops1.filter (fun o => o.row == r) = ops2.filter (fun o => o.row == r)) :
    run s ops1 = run s ops2 := by
  apply Array.ext_getElem?
  intro r
  rw [run_getElem?, run_getElem?, h r]

/-- `merge_filter_owned` at `p := (·.row == r)`, `k := owner r` -/
theorem merge_filter_row {R : Type} (owner : Nat → Nat) (its : List (List (Op R)))
    (hown : Owned owner its) (m : List (Op R)) (hm : IsMerge its m) (r : Nat) :
    m.filter (fun o => o.row == r) =
      (its[owner r]?.getD []).filter (fun o => o.row == r) := by
  apply merge_filter_owned (fun o => o.row == r) its (owner r) _ m hm
  intro i hi hne o ho
  exact beq_false_of_ne fun h => hne ((hown i hi o ho).symm.trans (congrArg owner h))

/-- Every schedule of a non-interfering loop yields the state of the sequential loop. -/
theorem schedule_independent {R : Type} (owner : Nat → Nat) (its : List (List (Op R)))
    (hown : Owned owner its) (s : Array R) (m : List (Op R)) (hm : IsMerge its m) :
    run s m = run s its.flatten := by
  apply run_eq_of_rowwise
  intro r
  rw [merge_filter_row owner its hown m hm r,
      merge_filter_row owner its hown its.flatten (isMerge_flatten its) r]

/-- Any two schedules of a non-interfering loop agree. -/
theorem schedules_agree {R : Type} (owner : Nat → Nat) (its : List (List (Op R)))
    (hown : Owned owner its) (s : Array R) (m1 m2 : List (Op R))
    (hm1 : IsMerge its m1) (hm2 : IsMerge its m2) :
    run s m1 = run s m2 := by
  rw [schedule_independent owner its hown s m1 hm1, schedule_independent owner its hown s m2 hm2]

/-! ## A concrete loop: `Owned` and `IsMerge` are inhabited, and the ownership hypothesis matters

Iteration 0 issues `exA1`, `exA2` on row 0; iteration 1 issues `exB1`, `exB2` on row 1. -/

def exA1 : Op Nat := ⟨0, (· + 1)⟩
def exA2 : Op Nat := ⟨0, (· * 2)⟩
def exB1 : Op Nat := ⟨1, (· + 3)⟩
def exB2 : Op Nat := ⟨1, (· * 5)⟩

def exIts : List (List (Op Nat)) := [[exA1, exA2], [exB1, exB2]]
/-- an interleaved schedule, different from `exIts.flatten = [exA1, exA2, exB1, exB2]` -/
def exM : List (Op Nat) := [exB1, exA1, exB2, exA2]

theorem exOwned : Owned id exIts := by
  unfold Owned
  decide

theorem exMerge : IsMerge exIts exM :=
  IsMerge.step _ 1 (by decide) exB1 [exB2] _ rfl <|
  IsMerge.step _ 0 (by decide) exA1 [exA2] _ rfl <|
  IsMerge.step _ 1 (by decide) exB2 [] _ rfl <|
  IsMerge.step _ 0 (by decide) exA2 [] _ rfl <|
  IsMerge.done _ (by decide)

/-- The interleaved order is really a different order (rows of the first ops differ). -/
example : (exM.map (·.row)) ≠ (exIts.flatten.map (·.row)) := by decide

example : run #[0, 0] exM = run #[0, 0] exIts.flatten :=
  schedule_independent id exIts exOwned #[0, 0] exM exMerge

/-- and both are the expected concrete state -/
example : run #[0, 0] exM = #[2, 15] := by decide
example : run #[0, 0] exIts.flatten = #[2, 15] := by decide

/-! The ownership hypothesis matters: two iterations writing the same row with
non-commuting actions give schedule-dependent results. -/

def badC : Op Nat := ⟨0, (· + 1)⟩
def badD : Op Nat := ⟨0, (· * 2)⟩
def badIts : List (List (Op Nat)) := [[badC], [badD]]

theorem badMerge1 : IsMerge badIts [badC, badD] :=
  IsMerge.step _ 0 (by decide) badC [] _ rfl <|
  IsMerge.step _ 1 (by decide) badD [] _ rfl <|
  IsMerge.done _ (by decide)

theorem badMerge2 : IsMerge badIts [badD, badC] :=
  IsMerge.step _ 1 (by decide) badD [] _ rfl <|
  IsMerge.step _ 0 (by decide) badC [] _ rfl <|
  IsMerge.done _ (by decide)

example : run #[1] [badC, badD] = #[4] := by decide
example : run #[1] [badD, badC] = #[3] := by decide
example : run #[1] [badC, badD] ≠ run #[1] [badD, badC] := by decide

/-- hence no owner map makes `badIts` owned -/
example : ¬ ∃ owner, Owned owner badIts := by
  intro ⟨owner, h⟩
  have := schedules_agree owner badIts h #[1] _ _ badMerge1 badMerge2
  exact absurd this (by decide)

end Pynn.Par
