import PynnVerif.Model.Connect
import Mathlib.Data.List.Nodup
import Mathlib.Dynamics.PeriodicPts.Defs
import Mathlib.Logic.Function.Iterate

/-!
# `while` loops with fuel, and the "state seen before → break" guard (the repair of D30)

`plainLoop step cont` is described by the path `s, step s, step (step s), …` (`ExitsIn`).  The guarded loop
`seenLoop step cont` is the plain loop on the pair `(seen, state)` (`seenLoop_eq_plainLoop`), so an exit of it is
described by the same path (`seenLoop_eq_some_iff`); from that characterisation, for an arbitrary deterministic
`step` on an arbitrary state type with decidable equality:

* `seenLoop_terminates` — over a finite state space the guarded loop always exits, after at most `|states|`
  iterations;
* `seenLoop_transparent` — if the unguarded loop exits, the guarded loop exits in the same state after the same
  number of iterations and the guard never fires;
* `seenLoop_break_sound` — if the guard fires, the unguarded loop never exits;
* `seenLoop_on_path` — the state at exit is `step^[r] s0` where `r` is the number of iterations.
-/
namespace Pynn.Connect

variable {S : Type} [DecidableEq S]

/-- the loop exits after exactly `k` iterations in state `s'` -/
def ExitsIn (step : S → S) (cont : S → Bool) (k : Nat) (s s' : S) : Prop :=
  (∀ i < k, cont (step^[i] s) = true) ∧ cont (step^[k] s) = false ∧ s' = step^[k] s

section Plain
omit [DecidableEq S]
variable {T : Type} {step : S → S} {cont : S → Bool}

theorem plainLoop_stop {s : S} (h : cont s = false) (fuel : Nat) : plainLoop step cont fuel s = some s := by
  cases fuel <;> simp [plainLoop, h]

theorem plainLoop_succ {s : S} (h : cont s = true) (fuel : Nat) :
    plainLoop step cont (fuel + 1) s = plainLoop step cont fuel (step s) := by
  simp [plainLoop, h]

theorem plainLoop_zero {s : S} (h : cont s = true) : plainLoop step cont 0 s = none := by
  simp [plainLoop, h]

theorem exitsIn_zero {s s' : S} : ExitsIn step cont 0 s s' ↔ cont s = false ∧ s' = s := by
  simp [ExitsIn]

theorem exitsIn_succ {k : Nat} {s s' : S} :
    ExitsIn step cont (k + 1) s s' ↔ cont s = true ∧ ExitsIn step cont k (step s) s' := by
  constructor
  · rintro ⟨h1, h2, h3⟩
    exact ⟨h1 0 (Nat.succ_pos k), fun i hi => h1 (i + 1) (Nat.succ_lt_succ hi), h2, h3⟩
  · rintro ⟨h0, h1, h2, h3⟩
    refine ⟨fun i hi => ?_, h2, h3⟩
    cases i with
    | zero => exact h0
    | succ i => exact h1 i (Nat.lt_of_succ_lt_succ hi)

/-- if the loop returns, it has exited after some `k ≤ fuel` iterations (the converse is `plainLoop_of_exits`) -/
theorem plainLoop_some {fuel : Nat} {s s' : S} (h : plainLoop step cont fuel s = some s') :
    ∃ k ≤ fuel, ExitsIn step cont k s s' := by
  induction fuel generalizing s with
  | zero =>
    cases hc : cont s
    · rw [plainLoop_stop hc] at h
      exact ⟨0, Nat.le_refl _, exitsIn_zero.mpr ⟨hc, (Option.some.inj h).symm⟩⟩
    · rw [plainLoop_zero hc] at h; cases h
  | succ f ih =>
    cases hc : cont s
    · rw [plainLoop_stop hc] at h
      exact ⟨0, Nat.zero_le _, exitsIn_zero.mpr ⟨hc, (Option.some.inj h).symm⟩⟩
    · rw [plainLoop_succ hc] at h
      obtain ⟨k, hk, hex⟩ := ih h
      exact ⟨k + 1, Nat.succ_le_succ hk, exitsIn_succ.mpr ⟨hc, hex⟩⟩

/-- it is enough that SOME state `u` iterations ahead does not continue: the loop with fuel `u` then exits, at the
first such state (no claim which) -/
theorem plainLoop_of_iterate (u : Nat) (s : S) (h : cont (step^[u] s) = false) :
    ∃ s', plainLoop step cont u s = some s' := by
  induction u generalizing s with
  | zero => exact ⟨s, plainLoop_stop h 0⟩
  | succ u ih =>
    cases hc : cont s
    · exact ⟨s, plainLoop_stop hc _⟩
    · rw [plainLoop_succ hc]; exact ih (step s) h

/-- `I` is an invariant of the body, `μ` a variant that the body lowers under `I` -/
theorem plainLoop_terminates (I : S → Prop) (μ : S → Nat)
    (h : ∀ s, I s → cont s = true → I (step s) ∧ μ (step s) < μ s) (fuel : Nat) (s : S) (hI : I s)
    (hμ : μ s ≤ fuel) : ∃ s', plainLoop step cont fuel s = some s' := by
  induction fuel generalizing s with
  | zero =>
    cases hc : cont s
    · exact ⟨s, plainLoop_stop hc 0⟩
    · exact absurd (Nat.lt_of_lt_of_le (h s hI hc).2 hμ) (Nat.not_lt_zero _)
  | succ f ih =>
    cases hc : cont s
    · exact ⟨s, plainLoop_stop hc _⟩
    · rw [plainLoop_succ hc]
      have := h s hI hc
      exact ih _ this.1 (Nat.le_of_lt_succ (Nat.lt_of_lt_of_le this.2 hμ))

/-- a loop commutes with a map that commutes with its body and its condition -/
theorem plainLoop_map (f : S → T) {step' : T → T} {cont' : T → Bool} (hs : ∀ x, f (step x) = step' (f x))
    (hc : ∀ x, cont x = cont' (f x)) (fuel : Nat) (x : S) :
    (plainLoop step cont fuel x).map f = plainLoop step' cont' fuel (f x) := by
  induction fuel generalizing x with
  | zero =>
    cases h : cont x
    · rw [plainLoop_stop h, plainLoop_stop (hc x ▸ h)]; rfl
    · rw [plainLoop_zero h, plainLoop_zero (hc x ▸ h)]; rfl
  | succ fuel ih =>
    cases h : cont x
    · rw [plainLoop_stop h, plainLoop_stop (hc x ▸ h)]; rfl
    · rw [plainLoop_succ h, plainLoop_succ (hc x ▸ h), ih, hs]

/-- no state occurs twice on a path that exits: had the state at `j` come back at `i ≤ k`, the exit state would,
`k - i` steps on, have occurred at `k - i + j < k` already, where the loop still continues -/
theorem distinct_on_exiting_path {k : Nat} {s s' : S} (h : ExitsIn step cont k s s') {j i : Nat}
    (hji : j < i) (hik : i ≤ k) : step^[j] s ≠ step^[i] s := by
  intro he
  have := h.1 (k - i + j) (Nat.lt_of_lt_of_eq (Nat.add_lt_add_left hji _) (Nat.sub_add_cancel hik))
  rw [Function.iterate_add_apply, he, ← Function.iterate_add_apply, Nat.sub_add_cancel hik, h.2.1] at this
  cases this

end Plain

set_option linter.unusedSectionVars false in
theorem plainLoop_of_exits {step : S → S} {cont : S → Bool} :
    ∀ (k fuel : Nat) (s s' : S), ExitsIn step cont k s s' → k ≤ fuel → plainLoop step cont fuel s = some s' := by
  intro k
  induction k with
  | zero =>
    intro fuel s s' h _
    obtain ⟨hc, rfl⟩ := exitsIn_zero.mp h
    exact plainLoop_stop hc fuel
  | succ k ih =>
    intro fuel s s' h hk
    obtain ⟨hc, hex⟩ := exitsIn_succ.mp h
    cases fuel with
    | zero => cases hk
    | succ f =>
      rw [plainLoop_succ hc]
      exact ih f _ _ hex (Nat.le_of_succ_le_succ hk)

/-! ## the guarded loop is the plain loop on `(seen, state)` -/

variable {step : S → S} {cont : S → Bool}

/-- body of the guarded loop on the pair `(seen, st)` -/
def seenStep (step : S → S) (p : List S × S) : List S × S := (p.2 :: p.1, step p.2)

/-- condition of the guarded loop on the pair `(seen, st)`: continue, and not seen before -/
def seenCont (cont : S → Bool) (p : List S × S) : Bool := cont p.2 && !decide (p.2 ∈ p.1)

theorem seenCont_eq_true {seen : List S} {st : S} :
    seenCont cont (seen, st) = true ↔ cont st = true ∧ st ∉ seen := by
  simp only [seenCont, Bool.and_eq_true, Bool.not_eq_true', decide_eq_false_iff_not]

theorem seenLoop_stop {seen : List S} {st : S} (hk : seenCont cont (seen, st) = false) (fuel : Nat) :
    seenLoop step cont fuel seen st = some (st, cont st, seen.length) := by
  have hk' := seenCont_eq_true.not.mp (Bool.not_eq_true _ ▸ hk)
  cases hc : cont st
  · cases fuel <;> simp only [seenLoop, hc, if_true]
  · have hm : st ∈ seen := Classical.not_not.mp fun hm => hk' ⟨hc, hm⟩
    cases fuel <;> simp only [seenLoop, hc, hm, Bool.true_eq_false, if_false, if_true]

theorem seenLoop_zero {seen : List S} {st : S} (hk : seenCont cont (seen, st) = true) :
    seenLoop step cont 0 seen st = none := by
  obtain ⟨hc, hm⟩ := seenCont_eq_true.mp hk
  simp only [seenLoop, hc, hm, Bool.true_eq_false, if_false]

theorem seenLoop_succ {seen : List S} {st : S} (hk : seenCont cont (seen, st) = true) (fuel : Nat) :
    seenLoop step cont (fuel + 1) seen st = seenLoop step cont fuel (st :: seen) (step st) := by
  obtain ⟨hc, hm⟩ := seenCont_eq_true.mp hk
  simp only [seenLoop, hc, hm, Bool.true_eq_false, if_false]

theorem seenLoop_eq_plainLoop (step : S → S) (cont : S → Bool) (fuel : Nat) (seen : List S) (st : S) :
    seenLoop step cont fuel seen st =
      (plainLoop (seenStep step) (seenCont cont) fuel (seen, st)).map
        fun p => (p.2, cont p.2, p.1.length) := by
  induction fuel generalizing seen st with
  | zero =>
    cases hk : seenCont cont (seen, st)
    · rw [seenLoop_stop hk, plainLoop_stop hk]; rfl
    · rw [seenLoop_zero hk, plainLoop_zero hk]; rfl
  | succ f ih =>
    cases hk : seenCont cont (seen, st)
    · rw [seenLoop_stop hk, plainLoop_stop hk]; rfl
    · rw [seenLoop_succ hk, plainLoop_succ hk]; exact ih _ _

omit [DecidableEq S] in
theorem seenStep_iterate (step : S → S) (s : S) (i : Nat) :
    (seenStep step)^[i] ([], s) = (((List.range i).map fun j => step^[j] s).reverse, step^[i] s) := by
  induction i with
  | zero => rfl
  | succ i ih =>
    rw [Function.iterate_succ_apply', ih, seenStep, List.range_succ, List.map_append, List.reverse_append,
      Function.iterate_succ_apply']
    rfl

theorem seenCont_iterate (i : Nat) (s0 : S) : seenCont cont ((seenStep step)^[i] ([], s0)) = true ↔
    cont (step^[i] s0) = true ∧ ∀ j < i, step^[j] s0 ≠ step^[i] s0 := by
  rw [seenStep_iterate, seenCont_eq_true]
  simp only [List.mem_reverse, List.mem_map, List.mem_range, not_exists, not_and]

/-- **What an exit of the guarded loop means** on the path `s0, step s0, …`: it happens after `r ≤ fuel`
iterations, at the first state that does not continue or has occurred before (then `fired`). -/
theorem seenLoop_eq_some_iff {fuel : Nat} {s0 s : S} {fired : Bool} {r : Nat} :
    seenLoop step cont fuel [] s0 = some (s, fired, r) ↔
      r ≤ fuel ∧ s = step^[r] s0 ∧ fired = cont s ∧
      (∀ i < r, cont (step^[i] s0) = true ∧ ∀ j < i, step^[j] s0 ≠ step^[i] s0) ∧
      ¬ (cont s = true ∧ ∀ j < r, step^[j] s0 ≠ s) := by
  rw [seenLoop_eq_plainLoop, Option.map_eq_some_iff]
  constructor
  · rintro ⟨p, hp, he⟩
    obtain ⟨k, hk, h1, h2, rfl⟩ := plainLoop_some hp
    simp only [seenStep_iterate, List.length_reverse, List.length_map, List.length_range, Prod.mk.injEq] at he
    obtain ⟨rfl, rfl, rfl⟩ := he
    exact ⟨hk, rfl, rfl, fun i hi => (seenCont_iterate i s0).mp (h1 i hi),
      (seenCont_iterate k s0).not.mp (Bool.not_eq_true _ ▸ h2)⟩
  · rintro ⟨hr, rfl, rfl, h1, h2⟩
    refine ⟨(seenStep step)^[r] ([], s0),
      plainLoop_of_exits r fuel _ _ ⟨fun i hi => (seenCont_iterate i s0).mpr (h1 i hi), ?_, rfl⟩ hr, ?_⟩
    · exact Bool.eq_false_iff.mpr ((seenCont_iterate r s0).not.mpr h2)
    · simp [seenStep_iterate]

theorem seenLoop_on_path (fuel : Nat) (s0 s : S) (fired : Bool) (r : Nat)
    (h : seenLoop step cont fuel [] s0 = some (s, fired, r)) :
    s = step^[r] s0 ∧ (∀ i < r, cont (step^[i] s0) = true) ∧ (fired = false → cont s = false) := by
  obtain ⟨_, h1, h2, h3, _⟩ := seenLoop_eq_some_iff.mp h
  exact ⟨h1, fun i hi => (h3 i hi).1, fun hf => h2 ▸ hf⟩

theorem seenLoop_transparent (fuel : Nat) (s0 s' : S) (h : plainLoop step cont fuel s0 = some s') :
    ∃ k ≤ fuel, ∀ fuel' ≥ k, seenLoop step cont fuel' [] s0 = some (s', false, k) := by
  obtain ⟨k, hk, hex⟩ := plainLoop_some h
  have hc : cont s' = false := hex.2.2 ▸ hex.2.1
  refine ⟨k, hk, fun fuel' hf => seenLoop_eq_some_iff.mpr ⟨hf, hex.2.2, hc.symm, fun i hi => ?_, ?_⟩⟩
  · exact ⟨hex.1 i hi, fun j hj => distinct_on_exiting_path hex hj (Nat.le_of_lt hi)⟩
  · rw [hc]; exact fun h => nomatch h.1

theorem seenLoop_break_sound (fuel : Nat) (s0 s : S) (r : Nat)
    (h : seenLoop step cont fuel [] s0 = some (s, true, r)) :
    ∀ fuel', plainLoop step cont fuel' s0 = none := by
  intro fuel'
  cases hp : plainLoop step cont fuel' s0 with
  | none => rfl
  | some s' =>
    -- were the unguarded loop to exit, the guarded one would exit unfired however much fuel it is given; but more
    -- fuel does not change an exit of the guarded loop
    obtain ⟨k, _, hk⟩ := seenLoop_transparent fuel' s0 s' hp
    obtain ⟨hr, hrest⟩ := seenLoop_eq_some_iff.mp h
    have := seenLoop_eq_some_iff.mpr ⟨Nat.le_trans hr (Nat.le_max_left fuel k), hrest⟩
    rw [hk _ (Nat.le_max_right fuel k)] at this
    cases this

theorem seenLoop_terminates (step : S → S) (cont : S → Bool) (univ : List S)
    (hcl : ∀ s ∈ univ, step s ∈ univ) (s0 : S) (h0 : s0 ∈ univ) :
    ∃ r, seenLoop step cont univ.length [] s0 = some r := by
  -- `seen` is a duplicate-free part of `univ` that grows with every iteration
  obtain ⟨p, hp⟩ := plainLoop_terminates (step := seenStep step) (cont := seenCont cont)
    (fun p => p.2 ∈ univ ∧ p.1.Nodup ∧ p.1 ⊆ univ) (fun p => univ.length - p.1.length)
    (by
      rintro ⟨seen, st⟩ ⟨hst, hn, hs⟩ hc
      have hm : st ∉ seen := (seenCont_eq_true.mp hc).2
      have hn' : (st :: seen).Nodup := List.nodup_cons.mpr ⟨hm, hn⟩
      have hs' : st :: seen ⊆ univ := List.cons_subset.mpr ⟨hst, hs⟩
      have := hn'.length_le_of_subset hs'
      exact ⟨⟨hcl st hst, hn', hs'⟩, Nat.sub_lt_sub_left this (Nat.lt_succ_self _)⟩)
    univ.length ([], s0) ⟨h0, List.nodup_nil, List.nil_subset _⟩ (Nat.sub_le _ _)
  exact ⟨_, by rw [seenLoop_eq_plainLoop, hp]; rfl⟩

end Pynn.Connect
