import PynnVerif.Proofs.DescentBasic
import PynnVerif.Proofs.GraphInv

/-! # Row-wise characterisation of the update-application kernels

`init_rp_tree` (`applyBoth`) and `apply_graph_updates_low_memory` (`applyLow T`) touch the
graph only through `pushInto`, and one `pushInto` touches one row.  Consequently a run of counted
pushes is determined row by row (`foldl_stepC_row`, `foldl_stepC_count`, `foldl_stepC_congr`): the
final content of row `r` is `feed g[r] (offersFor r ups)`, the row fed, in update order, with the
offers addressed to it, and the change count is the sum of the per-row numbers of accepted pushes
(`feedCount`).  Thread `r % T` alone serves row `r`, in update order, so the number of threads is
irrelevant.
-/
namespace Pynn
variable {P : Type} [LinearOrder P]

/-! ## `feed` and its change count -/

theorem feed_nil (row : Row P) : feed row [] = row := rfl

theorem feed_cons (row : Row P) (o : P × Int) (os : List (P × Int)) :
    feed row (o :: os) = feed (pushFlagged row o.1 o.2 true).1 os := rfl

theorem feed_append (row : Row P) (a b : List (P × Int)) :
    feed row (a ++ b) = feed (feed row a) b := by
  simp [feed, List.foldl_append]

@[simp] theorem feed_size (row : Row P) (os : List (P × Int)) : (feed row os).size = row.size := by
  induction os generalizing row with
  | nil => rfl
  | cons o os ih => rw [feed_cons, ih, push_size]

/-- number of accepted pushes while feeding `offers` to `row` -/
def feedCount (row : Row P) : List (P × Int) → Nat
  | [] => 0
  | o :: os => (if (pushFlagged row o.1 o.2 true).2 then 1 else 0) +
      feedCount (pushFlagged row o.1 o.2 true).1 os

theorem feedCount_append (row : Row P) (a b : List (P × Int)) :
    feedCount row (a ++ b) = feedCount row a + feedCount (feed row a) b := by
  induction a generalizing row with
  | nil => simp [feedCount, feed_nil]
  | cons o a ih =>
    simp only [List.cons_append, feedCount, feed_cons, ih]
    exact (Nat.add_assoc _ _ _).symm

/-! ## counted pushes; the sequential reference `applySeq` -/

/-- one counted push `(row, d, candidate)`: the body of both branches of the low-memory loop
(`lowStep T t` of `Proofs/DescentBasic.lean` is two of these, each under its test
`… % T = t`: `lowThread_eq_filter`) -/
def stepC (acc : Graph P × Nat) (o : Nat × P × Int) : Graph P × Nat :=
  let r := pushInto acc.1 o.1 o.2.1 o.2.2 true
  (r.1, acc.2 + (if r.2 then 1 else 0))

/-- the pushes an update list asks for, in sequential order: `(d,q)` into row `p`, then `(d,p)`
into row `q` -/
def pushesOf (ups : List (Upd P)) : List (Nat × P × Int) :=
  ups.flatMap (fun u => [(u.p, u.d, (u.q : Int)), (u.q, u.d, (u.p : Int))])

/-- sequential application with change count (what one thread, `T = 1`, does) -/
def applySeq (g : Graph P) (ups : List (Upd P)) : Graph P × Nat :=
  (pushesOf ups).foldl stepC (g, 0)

/-- the offers row `r` receives from a push list (from the pushes of an update list: the model's
`offersFor`, `pushOffers_pushesOf`) -/
def pushOffers (r : Nat) (L : List (Nat × P × Int)) : List (P × Int) :=
  (L.filter (fun o => decide (o.1 = r))).map (·.2)

/-! ## offers and pushes as lists -/

omit [LinearOrder P] in
theorem offersFor_nil (r : Nat) : offersFor r ([] : List (Upd P)) = [] := rfl

section NoOrder
omit [LinearOrder P]

theorem offersFor_cons (r : Nat) (u : Upd P) (ups : List (Upd P)) :
    offersFor r (u :: ups) =
      ((if u.p = r then [(u.d, (u.q : Int))] else []) ++
       (if u.q = r then [(u.d, (u.p : Int))] else [])) ++ offersFor r ups := by
  simp [offersFor]

theorem offersFor_append (r : Nat) (a b : List (Upd P)) :
    offersFor r (a ++ b) = offersFor r a ++ offersFor r b := by
  simp [offersFor]

theorem mem_offersFor (r : Nat) (ups : List (Upd P)) (o : P × Int) :
    o ∈ offersFor r ups ↔
      ∃ u ∈ ups, (u.p = r ∧ o = (u.d, (u.q : Int))) ∨ (u.q = r ∧ o = (u.d, (u.p : Int))) := by
  simp only [offersFor, List.mem_flatMap, List.mem_append, List.mem_ite_nil_right, List.mem_singleton]

theorem offersFor_self (u : Upd P) (h : u.p = u.q) :
    offersFor u.p [u] = [(u.d, (u.p : Int)), (u.d, (u.p : Int))] := by
  simp [offersFor, ← h]

theorem pushesOf_cons (u : Upd P) (ups : List (Upd P)) :
    pushesOf (u :: ups) = (u.p, u.d, (u.q : Int)) :: (u.q, u.d, (u.p : Int)) :: pushesOf ups := by
  simp [pushesOf]

theorem pushOffers_cons (r : Nat) (x : Nat × P × Int) (L : List (Nat × P × Int)) :
    pushOffers r (x :: L) = (if x.1 = r then [x.2] else []) ++ pushOffers r L := by
  unfold pushOffers
  by_cases h : x.1 = r <;> simp [h]

theorem pushOffers_pushesOf (r : Nat) (ups : List (Upd P)) :
    pushOffers r (pushesOf ups) = offersFor r ups := by
  induction ups with
  | nil => rfl
  | cons u ups ih =>
    rw [pushesOf_cons, pushOffers_cons, pushOffers_cons, offersFor_cons, ih, List.append_assoc]

/-- a `flatMap` over `0, …, m-1` to which `a` alone contributes -/
theorem flatMap_range_single {α : Type} (f : Nat → List α) (a m : Nat) (ha : a < m)
    (h : ∀ t, t ≠ a → f t = []) : (List.range m).flatMap f = f a := by
  induction m with
  | zero => exact absurd ha (Nat.not_lt_zero a)
  | succ m ih =>
    rw [List.range_succ, List.flatMap_append, List.flatMap_singleton]
    rcases Nat.lt_succ_iff_lt_or_eq.mp ha with hlt | rfl
    · rw [ih hlt, h m (Nat.ne_of_gt hlt), List.append_nil]
    · rw [List.flatMap_eq_nil_iff.mpr fun t ht => h t (Nat.ne_of_lt (List.mem_range.mp ht)),
        List.nil_append]

/-- thread `r % T` alone serves row `r`, in update order -/
theorem pushOffers_threads (T : Nat) (hT : 0 < T) (L : List (Nat × P × Int)) (r : Nat) :
    pushOffers r ((List.range T).flatMap fun t => L.filter (fun o => decide (o.1 % T = t))) =
      pushOffers r L := by
  unfold pushOffers
  rw [List.filter_flatMap, flatMap_range_single _ (r % T) T (Nat.mod_lt r hT), List.filter_filter]
  · congr 1
    apply List.filter_congr
    intro o _
    by_cases ho : o.1 = r <;> simp [ho]
  · intro t ht
    rw [List.filter_filter, List.filter_eq_nil_iff]
    intro o _
    simp only [Bool.and_eq_true, decide_eq_true_eq]
    rintro ⟨rfl, h⟩
    exact ht h.symm

end NoOrder

/-! ## a run of counted pushes, row by row -/

/-- **Row `r` after a run of pushes is row `r` fed with the offers addressed to it.** -/
theorem foldl_stepC_row (L : List (Nat × P × Int)) (acc : Graph P × Nat) (r : Nat) :
    (L.foldl stepC acc).1[r]? = acc.1[r]?.map (fun row => feed row (pushOffers r L)) := by
  induction L generalizing acc with
  | nil =>
    show acc.1[r]? = _
    cases acc.1[r]? <;> rfl
  | cons x L ih =>
    rw [List.foldl_cons, ih, pushOffers_cons, stepC, pushInto_getElem?]
    by_cases h : r = x.1
    · rw [if_pos h, if_pos h.symm, Option.map_map, h]
      rfl
    · rw [if_neg h, if_neg (Ne.symm h), List.nil_append]

/-- accepted pushes of row `r` (0 for a row that does not exist) -/
def rowCountL (g : Graph P) (L : List (Nat × P × Int)) (r : Nat) : Nat :=
  (g[r]?.map (fun row => feedCount row (pushOffers r L))).getD 0

/-- two summands that differ at `i` only, by `δ` (which vanishes when `i` is out of range) -/
theorem sum_range_bump (f f' : Nat → Nat) (n i δ : Nat) (h : ∀ r, r ≠ i → f r = f' r)
    (hi : f i = δ + f' i) (hδ : n ≤ i → δ = 0) :
    ((List.range n).map f).sum = δ + ((List.range n).map f').sum := by
  induction n with
  | zero => rw [hδ (Nat.zero_le i)]; rfl
  | succ n ih =>
    rw [List.range_succ, List.map_append, List.map_append, List.sum_append, List.sum_append]
    simp only [List.map_cons, List.map_nil, List.sum_cons, List.sum_nil, Nat.add_zero]
    by_cases hin : i = n
    · subst hin
      rw [List.map_congr_left fun r hr => h r (Nat.ne_of_lt (List.mem_range.mp hr)), hi]
      exact Nat.add_left_comm _ _ _
    · rw [ih (fun hn => hδ (Nat.lt_of_le_of_ne hn (Ne.symm hin))), h n (Ne.symm hin)]
      exact Nat.add_assoc _ _ _

theorem foldl_stepC_count (L : List (Nat × P × Int)) (g : Graph P) (c : Nat) :
    (L.foldl stepC (g, c)).2 = c + ((List.range g.size).map (rowCountL g L)).sum := by
  induction L generalizing g c with
  | nil =>
    rw [List.sum_eq_zero_iff_forall_eq_nat.mpr]
    · rfl
    · intro x hx
      obtain ⟨r, _, rfl⟩ := List.mem_map.mp hx
      rw [rowCountL]
      cases g[r]? <;> rfl
  | cons x L ih =>
    -- one push: the count goes up by what row `x.1` accepts, and only that row's share changes
    rw [List.foldl_cons, stepC, ih, pushInto_size, Nat.add_assoc, sum_range_bump (rowCountL g (x :: L))
      _ g.size x.1 (if (pushInto g x.1 x.2.1 x.2.2 true).2 then 1 else 0)]
    · intro i hi
      rw [rowCountL, rowCountL, pushOffers_cons, if_neg (Ne.symm hi), List.nil_append,
        pushInto_getElem?, if_neg hi]
    · rw [rowCountL, rowCountL, pushOffers_cons, if_pos rfl, pushInto_getElem?, if_pos rfl,
        pushInto_snd]
      cases g[x.1]? <;> rfl
    · intro hx
      rw [pushInto_oob g x.1 _ _ true hx]
      rfl

theorem foldl_stepC_congr {L L' : List (Nat × P × Int)} (h : ∀ r, pushOffers r L = pushOffers r L')
    (acc : Graph P × Nat) : L.foldl stepC acc = L'.foldl stepC acc := by
  apply Prod.ext
  · apply Array.ext_getElem?
    intro r
    rw [foldl_stepC_row, foldl_stepC_row, h]
  · have e : rowCountL acc.1 L = rowCountL acc.1 L' := funext fun r => by simp only [rowCountL, h]
    rw [foldl_stepC_count, foldl_stepC_count, e]

/-! ## `applyLow`: the threads one after the other -/

theorem lowThread_eq_filter (T t : Nat) (ups : List (Upd P)) (acc : Graph P × Nat) :
    ups.foldl (lowStep T t) acc =
      ((pushesOf ups).filter (fun o => decide (o.1 % T = t))).foldl stepC acc := by
  -- folding over the filtered list is folding with the other pushes skipped: what `lowStep` does
  rw [List.foldl_filter]
  induction ups generalizing acc with
  | nil => rfl
  | cons u ups ih =>
    rw [List.foldl_cons, ih, pushesOf_cons, List.foldl_cons, List.foldl_cons]
    simp only [decide_eq_true_eq]
    rfl

/-- **`apply_graph_updates_low_memory` with any positive number of threads equals the
sequential application** (graph and change count). -/
theorem applyLow_eq_applySeq (T : Nat) (hT : 0 < T) (g : Graph P) (ups : List (Upd P)) :
    applyLow T g ups = applySeq g ups := by
  -- the threads one after the other make one run of pushes, each thread's share in turn
  rw [applyLow_eq_lowStep]
  simp only [lowThread_eq_filter]
  rw [← List.foldl_flatMap]
  exact foldl_stepC_congr (pushOffers_threads T hT _) _

/-! ## the graph component is the `applyBoth` fold of `init_rp_tree` -/

theorem foldl_stepC_fst (ups : List (Upd P)) (acc : Graph P × Nat) :
    ((pushesOf ups).foldl stepC acc).1 = ups.foldl applyBoth acc.1 := by
  induction ups generalizing acc with
  | nil => rfl
  | cons u ups ih =>
    rw [pushesOf_cons, List.foldl_cons, List.foldl_cons, ih, List.foldl_cons]
    simp only [stepC, applyBoth]

theorem applySeq_fst (g : Graph P) (ups : List (Upd P)) :
    (applySeq g ups).1 = ups.foldl applyBoth g := foldl_stepC_fst ups (g, 0)

theorem applyLow_fst (T : Nat) (hT : 0 < T) (g : Graph P) (ups : List (Upd P)) :
    (applyLow T g ups).1 = ups.foldl applyBoth g := by
  rw [applyLow_eq_applySeq T hT, applySeq_fst]

theorem applyBoth_fold_row (g : Graph P) (ups : List (Upd P)) (r : Nat) :
    (ups.foldl applyBoth g)[r]? = g[r]?.map (fun row => feed row (offersFor r ups)) := by
  rw [← pushOffers_pushesOf, ← foldl_stepC_row (pushesOf ups) (g, 0), foldl_stepC_fst]

theorem applyBoth_row (g : Graph P) (u : Upd P) (r : Nat) :
    (applyBoth g u)[r]? = g[r]?.map (fun row => feed row (offersFor r [u])) :=
  applyBoth_fold_row g [u] r

/-! ## `applyLow`, row by row -/

theorem applyLow_row (T : Nat) (hT : 0 < T) (g : Graph P) (ups : List (Upd P)) (r : Nat) :
    (applyLow T g ups).1[r]? = g[r]?.map (fun row => feed row (offersFor r ups)) := by
  rw [applyLow_fst T hT, applyBoth_fold_row]

@[simp] theorem applyLow_size (T : Nat) (hT : 0 < T) (g : Graph P) (ups : List (Upd P)) :
    (applyLow T g ups).1.size = g.size := by
  rw [applyLow_fst T hT, applyBoth_fold_size]

/-- **The change count of the low-memory application is the sum, over the rows, of the number
of pushes the row's feed accepts** — it depends on the per-row feeds only. -/
theorem applyLow_count (T : Nat) (hT : 0 < T) (g : Graph P) (ups : List (Upd P)) :
    (applyLow T g ups).2 =
      ((List.range g.size).map (fun r =>
        (g[r]?.map (fun row => feedCount row (offersFor r ups))).getD 0)).sum := by
  rw [applyLow_eq_applySeq T hT, applySeq, foldl_stepC_count, Nat.zero_add]
  congr 1
  apply List.map_congr_left
  intro r _
  simp [rowCountL, pushOffers_pushesOf]

/-! ## the self pair `(p, p, 0)` of the local join -/

theorem pushInto_twice (g : Graph P) (r : Nat) (d : P) (q : Int) (f f' : Bool) :
    pushInto (pushInto g r d q f).1 r d q f' = ((pushInto g r d q f).1, false) := by
  have h2 : (pushInto (pushInto g r d q f).1 r d q f').2 = false := by
    rw [pushInto_snd, pushInto_getElem?, if_pos rfl, Option.map_map]
    cases g[r]? with
    | none => rfl
    | some row => exact congrArg Prod.snd (push_twice row d q f f')
  exact Prod.ext (pushInto_reject _ r d q f' h2) h2

/-- **Self pair.**  For `u.p = u.q` (the `(p, p, 0)` updates emitted by the `k ≥ j` enumeration of
the local join) row `p` is offered `(d, p)` twice in a row; the second offer changes neither the
row nor the count. -/
theorem self_pair_noop (row : Row P) (d : P) (p : Int) :
    feed row [(d, p), (d, p)] = feed row [(d, p)] ∧
    feedCount row [(d, p), (d, p)] = feedCount row [(d, p)] := by
  simp [feed, feedCount, push_twice]

/-! ## what a single leaf offers to a row (for `C03.single_leaf_exact`) -/

/-- feeding offers `(d q, q)` is the push fold of `Proofs/TopK.lean` -/
theorem feed_eq_foldl_push (d : Nat → P) (row : Row P) (L : List Nat) :
    feed row (L.map (fun q => (d q, (q : Int)))) =
      (L.map (fun q => (q, true))).foldl (fun h o => (push true h (d o.1) o.1 o.2).1) row := by
  simp [feed, List.foldl_map]

section NoOrder
omit [LinearOrder P]

/-- the offers a row receives from a single leaf over the empty graph: exactly the other members of the leaf, each
with its true distance -/
theorem offersFor_leaf (dist : Nat → Nat → P) (hsymm : ∀ a b, dist a b = dist b a) (V : List Nat)
    (hV : V.Nodup) (p : Nat) (hp : p ∈ V) :
    let ups := (pairsLt V).map (fun pq => (⟨pq.1, pq.2, dist pq.1 pq.2⟩ : Upd P))
    ∃ L : List Nat, (∀ q, q ∈ L ↔ q ∈ V ∧ q ≠ p) ∧ offersFor p ups = L.map (fun q => (dist p q, (q : Int))) := by
  intro ups
  have hmem : ∀ o, o ∈ offersFor p ups ↔ ∃ q ∈ V, q ≠ p ∧ o = (dist p q, (q : Int)) := by
    intro o
    rw [mem_offersFor]
    constructor
    · rintro ⟨u, hu, h⟩
      obtain ⟨⟨a, b⟩, hab, rfl⟩ := List.mem_map.mp hu
      rcases h with ⟨rfl, rfl⟩ | ⟨rfl, rfl⟩
      · exact ⟨b, (mem_pairsLt hab).2, (ne_of_mem_pairsLt hV hab).symm, rfl⟩
      · exact ⟨a, (mem_pairsLt hab).1, ne_of_mem_pairsLt hV hab, by rw [hsymm]⟩
    · rintro ⟨q, hq, hne, rfl⟩
      rcases mem_pairsLt_of_mem hp hq (Ne.symm hne) with h | h
      · exact ⟨⟨p, q, dist p q⟩, List.mem_map.mpr ⟨(p, q), h, rfl⟩, Or.inl ⟨rfl, rfl⟩⟩
      · exact ⟨⟨q, p, dist q p⟩, List.mem_map.mpr ⟨(q, p), h, rfl⟩, Or.inr ⟨rfl, by rw [hsymm]⟩⟩
  refine ⟨(offersFor p ups).map (fun o => o.2.toNat), fun q => ?_, ?_⟩
  · rw [List.mem_map]
    constructor
    · rintro ⟨o, ho, rfl⟩
      obtain ⟨q, hq, hne, rfl⟩ := (hmem o).mp ho
      rw [Int.toNat_natCast]
      exact ⟨hq, hne⟩
    · rintro ⟨hq, hne⟩
      exact ⟨_, (hmem _).mpr ⟨q, hq, hne, rfl⟩, Int.toNat_natCast q⟩
  · rw [List.map_map]
    refine (List.map_id _).symm.trans (List.map_congr_left fun o ho => ?_)
    obtain ⟨q, _, _, rfl⟩ := (hmem o).mp ho
    rw [Function.comp_apply, Int.toNat_natCast]
    rfl

end NoOrder

end Pynn
