import PynnVerif.Proofs.DescentBasic
import PynnVerif.Proofs.GraphInv
import PynnVerif.Proofs.TopK
import PynnVerif.Proofs.HeapSort
import PynnVerif.Proofs.Rank

/-!
# NN-descent preserves the graph invariant, and never makes a row worse

Three instances of the generic lift of `Proofs/DescentBasic.lean` (a graph predicate preserved by
every admissible push is preserved by every kernel of the modelled `nn_descent`): `GraphInv` under
pushes that are in range and truthful, `RankLe g0` and "every row is a max-heap" under arbitrary
pushes; and what the statements about the whole `nn_descent` and about the heaps built from a
supplied `init_graph` need besides.  The file also holds the definitions `RankLe`, `descentIter`,
`startGraph`, `idxRows`, `prioRows` that statements of `Props/C13.lean` use.
-/
namespace Pynn
variable {P : Type} [LinearOrder P]
variable {C : Type} [LE C] [LT C] [DecidableLE C] [DecidableLT C]

theorem pushInto_other (g : Graph P) (r : Nat) (d : P) (q : Int) (f : Bool) (r' : Nat)
    (hne : r' ≠ r) : (pushInto g r d q f).1[r']? = g[r']? := by
  rw [pushInto_getElem?, if_neg hne]

/-! ## the row-level invariant -/

/-- what `GraphInv` says about row `r` -/
structure RowOk (top : P) (n k : Nat) (dist : Nat → Nat → P) (r : Nat) (row : Row P) : Prop where
  size : row.size = k
  heap : IsHeap row
  nodup : ((row.toList.filter (fun e => 0 ≤ e.idx)).map (·.idx)).Nodup
  range : ∀ e ∈ row, (e.idx = -1 ∧ e.prio = top) ∨ (0 ≤ e.idx ∧ e.idx < (n : Int) ∧ e.prio < top)
  truth : ∀ e ∈ row, 0 ≤ e.idx → e.prio = dist r e.idx.toNat

theorem graphInv_iff {top : P} {n k : Nat} {dist : Nat → Nat → P} {g : Graph P} :
    GraphInv top n k dist g ↔
      g.size = n ∧ AllRows (RowOk top n k dist) g := by
  constructor
  · intro h
    refine ⟨h.size, fun r row hr => ?_⟩
    obtain ⟨hlt, rfl⟩ := Array.getElem?_eq_some_iff.mp hr
    exact ⟨h.rowSize r hlt, h.heap r hlt, h.nodup r hlt, h.range r hlt, h.truth r hlt⟩
  · intro h
    have hr : ∀ r (hlt : r < g.size), RowOk top n k dist r g[r] :=
      fun r hlt => h.2 r g[r] (Array.getElem?_eq_getElem hlt)
    exact ⟨h.1, fun r hlt => (hr r hlt).size, fun r hlt => (hr r hlt).heap,
      fun r hlt => (hr r hlt).nodup, fun r hlt => (hr r hlt).range, fun r hlt => (hr r hlt).truth⟩

/-- One `checked_flagged_heap_push` of an in-range candidate with its true distance keeps the
row well-formed.  Accepted: a permutation of the row with the root replaced, the new entry has
`d < root ≤ top` and is not a duplicate (the scan); rejected: unchanged. -/
theorem push_rowOk {top : P} (htop : ∀ x : P, x ≤ top) {n k : Nat} {dist : Nat → Nat → P}
    {r : Nat} {row : Row P} (hrow : RowOk top n k dist r row) {q : Int} (hq0 : 0 ≤ q)
    (hqn : q < (n : Int)) {d : P} (hd : d = dist r q.toNat) (f : Bool) :
    RowOk top n k dist r (pushFlagged row d q f).1 := by
  show RowOk top n k dist r (push true row d q f).1
  rcases push_spec true row d q f with ⟨_, heq⟩ | ⟨_, hk, hlt, hscan, hperm⟩
  · rw [heq]
    exact hrow
  · refine ⟨(push_size ..).trans hrow.size, push_heap true row d q f hrow.heap, ?_, ?_, ?_⟩
    · exact nodup_set_root hperm hq0 hrow.nodup (hscan rfl)
    · intro e he
      rcases push_mem true row d q f e he with rfl | he'
      · exact Or.inr ⟨hq0, hqn, lt_of_lt_of_le hlt (htop _)⟩
      · exact hrow.range e he'
    · intro e he hidx
      rcases push_mem true row d q f e he with rfl | he'
      · exact hd
      · exact hrow.truth e he' hidx

/-- No bound on the row number is needed: out of range, `pushInto` does nothing. -/
theorem pushInto_inv {top : P} (htop : ∀ x : P, x ≤ top) {n k : Nat} {dist : Nat → Nat → P}
    {g : Graph P} (hg : GraphInv top n k dist g) {r : Nat} {q : Int} (hq0 : 0 ≤ q)
    (hqn : q < (n : Int)) {d : P} (hd : d = dist r q.toNat) (f : Bool) :
    GraphInv top n k dist (pushInto g r d q f).1 := by
  rw [graphInv_iff] at hg ⊢
  exact ⟨(pushInto_size ..).trans hg.1, hg.2.pushInto r d q f
    (fun _ _ hrow => push_rowOk htop hrow hq0 hqn hd f) (fun _ _ _ h => h)⟩

/-! ## `clearFlags` -/

theorem rowOk_map_keepsKey {top : P} {n k : Nat} {dist : Nat → Nat → P} {r : Nat} {row : Row P}
    (φ : Entry P → Entry P) (hφ : KeepsKey φ) (h : RowOk top n k dist r row) :
    RowOk top n k dist r (row.map φ) := by
  refine ⟨by simpa using h.size, isHeap_map_keepsKey φ hφ h.heap, ?_, ?_, ?_⟩
  · rw [Array.toList_map, map_keepsKey_filter_idx φ hφ]; exact h.nodup
  · intro e he
    obtain ⟨e0, he0, rfl⟩ := Array.mem_map.mp he
    rw [(hφ e0).1, (hφ e0).2]; exact h.range e0 he0
  · intro e he
    obtain ⟨e0, he0, rfl⟩ := Array.mem_map.mp he
    rw [(hφ e0).1, (hφ e0).2]; exact h.truth e0 he0

omit [LE C] [LT C] [DecidableLE C] [DecidableLT C] in
theorem clearFlags_inv {top : P} {n k : Nat} {dist : Nat → Nat → P} {g : Graph P}
    (hg : GraphInv top n k dist g) (c : Cands C) : GraphInv top n k dist (clearFlags g c) := by
  rw [graphInv_iff] at hg ⊢
  exact ⟨(clearFlags_size g c).trans hg.1,
    hg.2.clearFlags (fun _ _ φ hφ => rowOk_map_keepsKey φ hφ) c⟩

/-! ## the empty graph -/

theorem mkRow_rowOk (top : P) (n k : Nat) (dist : Nat → Nat → P) (r : Nat) :
    RowOk top n k dist r (mkRow top k) := by
  refine ⟨by simp [mkRow], mkRow_isHeap top k, mkRow_nodup top k, ?_, ?_⟩
  · intro e he
    rw [mem_mkRow he]
    exact Or.inl ⟨rfl, rfl⟩
  · intro e he hidx
    rw [mem_mkRow he] at hidx
    exact absurd hidx (by decide : ¬ (0 : Int) ≤ -1)

theorem mkGraph_inv (top : P) (n k : Nat) (dist : Nat → Nat → P) :
    GraphInv top n k dist (mkGraph top n k) := by
  rw [graphInv_iff]
  exact ⟨mkGraph_size top n k, AllRows.mkGraph top n k fun r _ => mkRow_rowOk top n k dist r⟩


/-! ## candidate heaps hold only indices below `n` (any priority type, no order laws) -/

/-- every index stored in the heap `c` (a candidate heap, or the graph it is built from) is below `n` -/
def CandsValid (n : Nat) (c : Cands C) : Prop :=
  ∀ row ∈ c, ∀ e ∈ row, e.idx < (n : Int)

omit [LE C] [LT C] [DecidableLE C] [DecidableLT C] in
theorem emptyCands_valid (n m maxCand : Nat) (ctop : C) :
    CandsValid n (Array.replicate m (mkRow ctop maxCand) : Cands C) := by
  intro row hrow e he
  rw [(Array.mem_replicate.mp hrow).2] at he
  rw [mem_mkRow he]
  exact Int.lt_of_lt_of_le (Int.negSucc_lt_zero 0) (Int.natCast_nonneg n)

theorem pushCand_if_valid {n : Nat} {c : Cands C} (hc : CandsValid n c) (b : Prop) [Decidable b]
    (r : Nat) (d : C) {q : Int} (hq : q < (n : Int)) :
    CandsValid n (if b then pushCand c r d q else c) := by
  split
  · unfold pushCand
    split
    · intro row hrow e he
      rcases Array.mem_or_eq_of_mem_set hrow with h | h
      · exact hc row h e he
      · subst h
        rcases push_mem true _ d q false e he with h | h
        · subst h; exact hq
        · exact hc _ (Array.getElem_mem _) e h
    · exact hc
  · exact hc

omit [LinearOrder P] in
/-- of the graph it reads, `buildThread` needs: at most `n` rows, holding indices below `n` -/
theorem buildThread_valid {n : Nat} (draw : RngState → C × RngState) (g : Graph P)
    (hsz : g.size ≤ n) (hg : CandsValid n g) (T t : Nat) (st : Cands C × Cands C × RngState)
    (hst : CandsValid n st.1 ∧ CandsValid n st.2.1) :
    CandsValid n (buildThread draw g T t st).1 ∧ CandsValid n (buildThread draw g T t st).2.1 := by
  unfold buildThread
  apply List.foldlRecOn (motive := fun st : Cands C × Cands C × RngState => CandsValid n st.1 ∧ CandsValid n st.2.1)
    _ _ hst
  intro st hst i hi
  have hin : (i : Int) < (n : Int) :=
    Int.ofNat_lt.mpr (Nat.lt_of_lt_of_le (List.mem_range.mp hi) hsz)
  dsimp only
  split
  · exact hst
  · rename_i row hrow
    apply List.foldlRecOn (motive := (fun st : Cands C × Cands C × RngState => CandsValid n st.1 ∧ CandsValid n st.2.1))
      _ _ hst
    intro st hst e he
    -- `rw [if_pos/if_neg]`, not `split`: splitting the whole loop body is slow
    by_cases hneg : e.idx < 0
    · rw [if_pos hneg]
      exact hst
    · rw [if_neg hneg]
      have hq : e.idx < (n : Int) := hg row (Array.mem_of_getElem? hrow) e (Array.mem_toList_iff.mp he)
      -- old candidates or new ones, by the flag; each gets `e.idx` and `i`, each under its test
      cases e.flag
      · exact ⟨hst.1, pushCand_if_valid (pushCand_if_valid hst.2 _ _ _ hq) _ _ _ hin⟩
      · exact ⟨pushCand_if_valid (pushCand_if_valid hst.1 _ _ _ hq) _ _ _ hin, hst.2⟩

omit [LE C] [LT C] [DecidableLE C] [DecidableLT C] in
theorem CandsValid.idx_lists {n : Nat} {c : Cands C} (hc : CandsValid n c) :
    ∀ row ∈ c.toList.map (fun r => r.toList.map (·.idx)), ∀ x ∈ row, x < (n : Int) := by
  intro row hrow x hx
  obtain ⟨crow, hcrow, rfl⟩ := List.mem_map.mp hrow
  obtain ⟨e, he, rfl⟩ := List.mem_map.mp hx
  exact hc crow (Array.mem_toList_iff.mp hcrow) e (Array.mem_toList_iff.mp he)

omit [LinearOrder P] in
theorem newBuildCandidates_valid {n : Nat} (ctop : C) (draw : RngState → C × RngState)
    (g : Graph P) (hsz : g.size ≤ n) (hg : CandsValid n g) (maxCand : Nat) (rng : RngState) (T : Nat) :
    (∀ row ∈ (newBuildCandidates ctop draw g maxCand rng T).1.1, ∀ x ∈ row, x < (n : Int)) ∧
    (∀ row ∈ (newBuildCandidates ctop draw g maxCand rng T).1.2, ∀ x ∈ row, x < (n : Int)) := by
  have key := List.foldlRecOn (motive := fun acc : Cands C × Cands C => CandsValid n acc.1 ∧ CandsValid n acc.2)
    (List.range T)
    (fun acc t =>
      let r := buildThread draw g T t (acc.1, acc.2, rng.add (t : Int))
      (r.1, r.2.1))
    (b := (Array.replicate g.size (mkRow ctop maxCand), Array.replicate g.size (mkRow ctop maxCand)))
    ⟨emptyCands_valid n _ _ ctop, emptyCands_valid n _ _ ctop⟩
    (fun acc hacc t _ => buildThread_valid draw g hsz hg T t _ hacc)
  exact ⟨key.1.idx_lists, key.2.idx_lists⟩

theorem GraphInv.candsValid {top : P} {n k : Nat} {dist : Nat → Nat → P} {g : Graph P}
    (hg : GraphInv top n k dist g) : CandsValid n g := by
  intro row hrow e he
  obtain ⟨i, hlt, rfl⟩ := Array.mem_iff_getElem.mp hrow
  rcases hg.range i hlt e he with h | h
  · omega
  · exact h.2.1

/-! ## `GraphInv` under truthful in-range pushes -/

/-- the push `(row r, d, q)` is in range and carries the true distance -/
def TruePush (n : Nat) (dist : Nat → Nat → P) (r : Nat) (d : P) (q : Int) : Prop :=
  0 ≤ q ∧ q < (n : Int) ∧ d = dist r q.toNat

theorem graphInv_pushClosed {top : P} (htop : ∀ x : P, x ≤ top) (n k : Nat)
    (dist : Nat → Nat → P) : PushClosed (GraphInv top n k dist) (TruePush n dist) :=
  fun _ _ _ _ f hg hok => pushInto_inv htop hg hok.1 hok.2.1 hok.2.2 f

omit [LinearOrder P] in
/-- an update `(p, q, dist p q)` with both endpoints `< n` causes two truthful pushes; the
second one, `(row q, d, p)`, is truthful *because the metric is symmetric* -/
theorem updOk_of_truthful {n : Nat} {dist : Nat → Nat → P} (hsymm : ∀ p q, dist p q = dist q p)
    {u : Upd P} (h : u.p < n ∧ u.q < n ∧ u.d = dist u.p u.q) : UpdOk (TruePush n dist) u := by
  obtain ⟨hp, hq, hd⟩ := h
  refine ⟨⟨Int.natCast_nonneg _, Int.ofNat_lt.mpr hq, ?_⟩, ⟨Int.natCast_nonneg _, Int.ofNat_lt.mpr hp, ?_⟩⟩
  · rw [Int.toNat_natCast]; exact hd
  · rw [Int.toNat_natCast, hsymm]; exact hd

section Inv
variable {top : P} (htop : ∀ x : P, x ≤ top) {n k : Nat} {dist : Nat → Nat → P}
  (hsymm : ∀ p q, dist p q = dist q p)
include htop hsymm

theorem applyBoth_fold_inv {g : Graph P} (hg : GraphInv top n k dist g) (ups : List (Upd P))
    (hu : ∀ u ∈ ups, u.p < n ∧ u.q < n ∧ u.d = dist u.p u.q) :
    GraphInv top n k dist (ups.foldl applyBoth g) :=
  applyBoth_fold_lift (graphInv_pushClosed htop n k dist) g ups
    (fun u h => updOk_of_truthful hsymm (hu u h)) hg

theorem applyLow_inv {g : Graph P} (hg : GraphInv top n k dist g) (T : Nat) (ups : List (Upd P))
    (hu : ∀ u ∈ ups, u.p < n ∧ u.q < n ∧ u.d = dist u.p u.q) :
    GraphInv top n k dist (applyLow T g ups).1 :=
  applyLow_lift (graphInv_pushClosed htop n k dist) T g ups
    (fun u h => updOk_of_truthful hsymm (hu u h)) hg

theorem applyHigh_inv {g : Graph P} (hg : GraphInv top n k dist g) (ups : List (Upd P))
    (s : InGraph) (hu : ∀ u ∈ ups, u.p < n ∧ u.q < n ∧ u.d = dist u.p u.q) :
    GraphInv top n k dist (applyHigh g ups s).1.1 :=
  applyHigh_lift (graphInv_pushClosed htop n k dist) g ups s
    (fun u h => updOk_of_truthful hsymm (hu u h)) hg

omit htop in
theorem leafUpdates_ok (thr : Nat → P) (row : List Int) (hrow : ∀ x ∈ row, x < (n : Int)) :
    ∀ u ∈ leafUpdates thr dist row, UpdOk (TruePush n dist) u := by
  intro u hu
  obtain ⟨h1, h2, h3⟩ := leafUpdates_truthful thr dist row u hu
  exact updOk_of_truthful hsymm ⟨Int.ofNat_lt.mp (hrow _ h2), Int.ofNat_lt.mp (hrow _ h3), h1⟩

omit htop in
theorem joinUpdates_ok (thr : Nat → P) (newRow oldRow : List Int)
    (hnew : ∀ x ∈ newRow, x < (n : Int)) (hold : ∀ x ∈ oldRow, x < (n : Int)) :
    ∀ u ∈ joinUpdates thr dist newRow oldRow, UpdOk (TruePush n dist) u := by
  intro u hu
  obtain ⟨h1, h2, h3⟩ := joinUpdates_truthful thr dist newRow oldRow u hu
  exact updOk_of_truthful hsymm
    ⟨Int.ofNat_lt.mp (hnew _ h2), Int.ofNat_lt.mp (h3.elim (hnew _) (hold _)), h1⟩

/-- `init_rp_tree`: leaf entries are `< n` (negative entries are padding) -/
theorem initRpTree_inv {g : Graph P} (hg : GraphInv top n k dist g) (leafArray : List (List Int))
    (blockSize : Nat) (hleaf : ∀ row ∈ leafArray, ∀ x ∈ row, x < (n : Int)) :
    GraphInv top n k dist (initRpTree top dist g leafArray blockSize) :=
  initRpTree_lift (graphInv_pushClosed htop n k dist) top dist g leafArray blockSize
    (fun thr row hrow => leafUpdates_ok hsymm thr row (hleaf row hrow)) hg

theorem processBlocks_inv {g : Graph P} (hg : GraphInv top n k dist g) (cfg : Cfg)
    (newC oldC : List (List Int)) (s : InGraph)
    (hnew : ∀ row ∈ newC, ∀ x ∈ row, x < (n : Int)) (hold : ∀ row ∈ oldC, ∀ x ∈ row, x < (n : Int)) :
    GraphInv top n k dist (processBlocks top dist cfg g newC oldC s).1.1 :=
  processBlocks_lift (graphInv_pushClosed htop n k dist) top dist cfg g newC oldC s
    (fun thr no hno => joinUpdates_ok hsymm thr no.1 no.2
      (hnew _ (List.of_mem_zip hno).1) (hold _ (List.of_mem_zip hno).2)) hg

theorem descentLoop_inv (ctop : C) (draw : RngState → C × RngState) (cfg : Cfg)
    (stop : Nat → Bool) (rng : RngState) (it : Nat) {g : Graph P} (s : InGraph)
    (hg : GraphInv top n k dist g) :
    GraphInv top n k dist (descentLoop top ctop draw dist cfg stop rng it g s) := by
  apply descentLoop_lift (graphInv_pushClosed htop n k dist) top ctop draw dist cfg stop rng
    (fun g c hg => clearFlags_inv hg c) _ it g s hg
  intro g hg thr no hno
  obtain ⟨h1, h2⟩ := newBuildCandidates_valid ctop draw g (Nat.le_of_eq hg.size) hg.candsValid
    cfg.maxCand rng cfg.nThreads
  exact joinUpdates_ok hsymm thr no.1 no.2 (h1 _ (List.of_mem_zip hno).1) (h2 _ (List.of_mem_zip hno).2)

end Inv

/-! ## the final `deheap_sort` -/

/-- the sorted output row: as `RowOk`, with "heap" replaced by "ascending" -/
theorem deheapSort_rowOk {top : P} {n k : Nat} {dist : Nat → Nat → P} {r : Nat} {row : Row P}
    (h : RowOk top n k dist r row) :
    (deheapSort row).size = k ∧
    (∀ i j (hi : i < (deheapSort row).size) (hj : j < (deheapSort row).size), i ≤ j →
        (deheapSort row)[i].prio ≤ (deheapSort row)[j].prio) ∧
    (((deheapSort row).toList.filter (fun e => 0 ≤ e.idx)).map (·.idx)).Nodup ∧
    (∀ e ∈ deheapSort row,
        (e.idx = -1 ∧ e.prio = top) ∨ (0 ≤ e.idx ∧ e.idx < (n : Int) ∧ e.prio < top)) ∧
    (∀ e ∈ deheapSort row, 0 ≤ e.idx → e.prio = dist r e.idx.toNat) := by
  have hperm := deheapSort_perm row
  refine ⟨by rw [hperm.size_eq]; exact h.size, deheapSort_sorted row h.heap, ?_, ?_, ?_⟩
  · have hl := Array.perm_iff_toList_perm.mp hperm
    rw [((hl.filter (fun e => 0 ≤ e.idx)).map (·.idx)).nodup_iff]
    exact h.nodup
  · intro e he; exact h.range e (hperm.mem_iff.mp he)
  · intro e he; exact h.truth e (hperm.mem_iff.mp he)


/-! ## no row ever gets worse — no invariant, arbitrary graphs and updates -/

/-- `g'` has the same shape as `g` and every row of `g'` is rank-wise at least as good as the
row of `g`: for every threshold `t` it holds at least as many entries within `t`. -/
def RankLe (g g' : Graph P) : Prop :=
  g'.size = g.size ∧ ∀ (r : Nat) (row : Row P), g[r]? = some row →
    ∃ row', g'[r]? = some row' ∧ row'.size = row.size ∧ ∀ t, countLe row t ≤ countLe row' t

theorem RankLe.refl (g : Graph P) : RankLe g g :=
  ⟨rfl, fun _ row h => ⟨row, h, rfl, fun _ => Nat.le_refl _⟩⟩

theorem RankLe.trans {g1 g2 g3 : Graph P} (h12 : RankLe g1 g2) (h23 : RankLe g2 g3) :
    RankLe g1 g3 := by
  refine ⟨h23.1.trans h12.1, fun r row hr => ?_⟩
  obtain ⟨row2, h2, hs2, hc2⟩ := h12.2 r row hr
  obtain ⟨row3, h3, hs3, hc3⟩ := h23.2 r row2 h2
  exact ⟨row3, h3, hs3.trans hs2, fun t => Nat.le_trans (hc2 t) (hc3 t)⟩

/-- `pushInto`, any arguments: every row keeps its size and no count decreases. -/
theorem pushInto_rankLe (g : Graph P) (r : Nat) (d : P) (q : Int) (f : Bool) :
    RankLe g (pushInto g r d q f).1 := by
  refine ⟨pushInto_size g r d q f, fun r' row hr' => ?_⟩
  rw [pushInto_getElem?]
  split
  · rename_i heq
    subst heq
    rw [hr']
    exact ⟨_, rfl, push_size _ _ _ _ _, fun t => push_count_le true row d q f t⟩
  · exact ⟨row, hr', rfl, fun _ => Nat.le_refl _⟩

set_option linter.unusedSectionVars false in
/-- `clearFlags` keeps every count *equal*. -/
theorem clearFlags_count (g : Graph P) (c : Cands C) (t : P) :
    ∀ (r' : Nat) (row : Row P), g[r']? = some row →
      ∃ row', (clearFlags g c)[r']? = some row' ∧ row'.size = row.size ∧
        countLe row' t = countLe row t := by
  intro r' row hr'
  obtain ⟨φ, hφ, heq⟩ := clearFlags_getElem? g c r'
  rw [heq, hr']
  exact ⟨_, rfl, by simp, countLe_map_keepsKey φ hφ row t⟩

omit [LE C] [LT C] [DecidableLE C] [DecidableLT C] in
theorem clearFlags_rankLe (g : Graph P) (c : Cands C) : RankLe g (clearFlags g c) := by
  refine ⟨clearFlags_size g c, fun r' row hr' => ?_⟩
  obtain ⟨φ, hφ, heq⟩ := clearFlags_getElem? g c r'
  rw [heq, hr']
  exact ⟨_, rfl, by simp, fun t => Nat.le_of_eq (countLe_map_keepsKey φ hφ row t).symm⟩

theorem rankLe_pushClosed (g0 : Graph P) : PushClosed (RankLe g0) (fun _ _ _ => True) :=
  fun g r d q f hg _ => hg.trans (pushInto_rankLe g r d q f)

omit [LinearOrder P] in
theorem updOk_true (u : Upd P) : UpdOk (fun _ _ _ => True) u := ⟨trivial, trivial⟩

theorem applyBoth_fold_rankLe (g : Graph P) (ups : List (Upd P)) : RankLe g (ups.foldl applyBoth g) :=
  applyBoth_fold_lift (rankLe_pushClosed g) g ups (fun u _ => updOk_true u) (RankLe.refl g)

theorem applyLow_rankLe (T : Nat) (g : Graph P) (ups : List (Upd P)) : RankLe g (applyLow T g ups).1 :=
  applyLow_lift (rankLe_pushClosed g) T g ups (fun u _ => updOk_true u) (RankLe.refl g)

theorem applyHigh_rankLe (g : Graph P) (ups : List (Upd P)) (s : InGraph) :
    RankLe g (applyHigh g ups s).1.1 :=
  applyHigh_lift (rankLe_pushClosed g) g ups s (fun u _ => updOk_true u) (RankLe.refl g)

theorem processBlocks_rankLe (top : P) (dist : Nat → Nat → P) (cfg : Cfg) (g : Graph P)
    (newC oldC : List (List Int)) (s : InGraph) :
    RankLe g (processBlocks top dist cfg g newC oldC s).1.1 :=
  processBlocks_lift (rankLe_pushClosed g) top dist cfg g newC oldC s
    (fun _ _ _ u _ => updOk_true u) (RankLe.refl g)

theorem descentLoop_rankLe (top : P) (ctop : C) (draw : RngState → C × RngState)
    (dist : Nat → Nat → P) (cfg : Cfg) (stop : Nat → Bool) (rng : RngState) (it : Nat)
    (g : Graph P) (s : InGraph) :
    RankLe g (descentLoop top ctop draw dist cfg stop rng it g s) :=
  descentLoop_lift (rankLe_pushClosed g) top ctop draw dist cfg stop rng
    (fun g' c hg' => hg'.trans (clearFlags_rankLe g' c))
    (fun _ _ _ _ _ u _ => updOk_true u) it g s (RankLe.refl g)

/-- `deheap_sort` permutes each row: counts are unchanged, in both directions -/
theorem rankLe_map_deheapSort (g : Graph P) :
    RankLe g (g.map deheapSort) ∧ RankLe (g.map deheapSort) g := by
  refine ⟨⟨by simp, fun r row hr => ?_⟩, ⟨by simp, fun r row hr => ?_⟩⟩
  · exact ⟨deheapSort row, by rw [Array.getElem?_map, hr]; rfl, (deheapSort_perm row).size_eq,
      fun t => Nat.le_of_eq (countLe_perm (deheapSort_perm row) t).symm⟩
  · rw [Array.getElem?_map] at hr
    obtain ⟨row0, hrow, rfl⟩ := Option.map_eq_some_iff.mp hr
    exact ⟨row0, hrow, (deheapSort_perm row0).size_eq.symm,
      fun t => Nat.le_of_eq (countLe_perm (deheapSort_perm row0) t)⟩

/-- so sorting both graphs keeps `RankLe` -/
theorem RankLe.map_deheapSort {g g' : Graph P} (h : RankLe g g') :
    RankLe (g.map deheapSort) (g'.map deheapSort) :=
  (rankLe_map_deheapSort g).2.trans (h.trans (rankLe_map_deheapSort g').1)

/-- `RankLe` with explicit bounds -/
theorem RankLe.getElem {g g' : Graph P} (h : RankLe g g') (p : Nat) (hp : p < g.size)
    (hp' : p < g'.size) (t : P) : g'[p].size = g[p].size ∧ countLe g[p] t ≤ countLe g'[p] t := by
  obtain ⟨row', h1, h2, h3⟩ := h.2 p g[p] (Array.getElem?_eq_getElem hp)
  obtain ⟨_, rfl⟩ := Array.getElem?_eq_some_iff.mp h1
  exact ⟨h2, h3 t⟩


/-! ## the iteration loop is prefix-closed -/

/-- one iteration of the loop body: candidates, flag clearing, local join over all blocks -/
def descentIter (top : P) (ctop : C) (draw : RngState → C × RngState) (dist : Nat → Nat → P)
    (cfg : Cfg) (rng : RngState) (g : Graph P) (s : InGraph) : (Graph P × Nat) × InGraph :=
  let r := newBuildCandidates ctop draw g cfg.maxCand rng cfg.nThreads
  processBlocks top dist cfg r.2 r.1.1 r.1.2 s

theorem descentLoop_succ_eq (top : P) (ctop : C) (draw : RngState → C × RngState)
    (dist : Nat → Nat → P) (cfg : Cfg) (stop : Nat → Bool) (rng : RngState) (it : Nat)
    (g : Graph P) (s : InGraph) :
    descentLoop top ctop draw dist cfg stop rng (it + 1) g s =
      if stop (descentIter top ctop draw dist cfg rng g s).1.2
      then (descentIter top ctop draw dist cfg rng g s).1.1
      else descentLoop top ctop draw dist cfg stop rng it
        (descentIter top ctop draw dist cfg rng g s).1.1 (descentIter top ctop draw dist cfg rng g s).2 :=
  rfl

/-- The loop is prefix-closed (the generator state handed to `new_build_candidates` is the
same in every iteration, and nothing else is carried over but the graph and `in_graph`):
`it + 1` iterations give what `it` iterations give — when the stop test fired before — or
exactly one more iteration applied to it. -/
theorem descentLoop_succ_cases (top : P) (ctop : C) (draw : RngState → C × RngState)
    (dist : Nat → Nat → P) (cfg : Cfg) (stop : Nat → Bool) (rng : RngState) (it : Nat)
    (g : Graph P) (s : InGraph) :
    descentLoop top ctop draw dist cfg stop rng (it + 1) g s =
        descentLoop top ctop draw dist cfg stop rng it g s ∨
    ∃ s', descentLoop top ctop draw dist cfg stop rng (it + 1) g s =
        (descentIter top ctop draw dist cfg rng
          (descentLoop top ctop draw dist cfg stop rng it g s) s').1.1 := by
  induction it generalizing g s with
  | zero =>
    right
    refine ⟨s, ?_⟩
    rw [descentLoop_succ_eq]
    split <;> rfl
  | succ it ih =>
    rw [descentLoop_succ_eq top ctop draw dist cfg stop rng (it + 1) g s,
      descentLoop_succ_eq top ctop draw dist cfg stop rng it g s]
    split
    · exact Or.inl rfl
    · exact ih _ _

theorem descentIter_rankLe (top : P) (ctop : C) (draw : RngState → C × RngState)
    (dist : Nat → Nat → P) (cfg : Cfg) (rng : RngState) (g : Graph P) (s : InGraph) :
    RankLe g (descentIter top ctop draw dist cfg rng g s).1.1 := by
  -- one iteration is the loop run once with a stop test that fires
  have h := descentLoop_rankLe top ctop draw dist cfg (fun _ => true) rng 1 g s
  rwa [descentLoop_succ_eq, if_pos rfl] at h

theorem descentLoop_succ_rankLe (top : P) (ctop : C) (draw : RngState → C × RngState)
    (dist : Nat → Nat → P) (cfg : Cfg) (stop : Nat → Bool) (rng : RngState) (it : Nat)
    (g : Graph P) (s : InGraph) :
    RankLe (descentLoop top ctop draw dist cfg stop rng it g s)
      (descentLoop top ctop draw dist cfg stop rng (it + 1) g s) := by
  rcases descentLoop_succ_cases top ctop draw dist cfg stop rng it g s with h | ⟨s', h⟩
  · rw [h]; exact RankLe.refl _
  · rw [h]; exact descentIter_rankLe ..

/-! ## `nn_descent` as a whole -/

/-- the heap `nn_descent` starts its iterations from -/
def startGraph (top : P) (dist : Nat → Nat → P) (n : Nat) (cfg : Cfg) (rng : RngState)
    (init : Option (Graph P)) (rpTreeInit : Bool) (leafArray : List (List Int)) : Graph P × RngState :=
  match init with
  | some g => (g, rng)
  | none =>
    initRandom cfg.k n dist
      (if rpTreeInit then initRpTree top dist (mkGraph top n cfg.k) leafArray else mkGraph top n cfg.k) rng

/-- `nn_descent` = final sort ∘ iteration loop ∘ start heap -/
theorem nnDescent_eq (top : P) (ctop : C) (draw : RngState → C × RngState) (dist : Nat → Nat → P)
    (n : Nat) (cfg : Cfg) (stop : Nat → Bool) (rng : RngState) (init : Option (Graph P))
    (rp : Bool) (leafArray : List (List Int)) :
    nnDescent top ctop draw dist n cfg stop rng init rp leafArray =
      ((descentLoop top ctop draw dist cfg stop (startGraph top dist n cfg rng init rp leafArray).2
        cfg.nIters (startGraph top dist n cfg rng init rp leafArray).1
        (if cfg.lowMemory then (#[] : InGraph)
         else initInGraph (startGraph top dist n cfg rng init rp leafArray).1)).map deheapSort,
       (startGraph top dist n cfg rng init rp leafArray).2) := by
  unfold nnDescent startGraph
  cases init <;> rfl

/-- the start heap keeps what the empty heap and a supplied heap have and admissible pushes preserve -/
theorem startGraph_lift {I : Graph P → Prop} {ok : Nat → P → Int → Prop} (hI : PushClosed I ok)
    (top : P) (dist : Nat → Nat → P) (n : Nat) (cfg : Cfg) (rng : RngState) (init : Option (Graph P))
    (rp : Bool) (leafArray : List (List Int)) (hinit : ∀ g, init = some g → I g)
    (hmk : I (mkGraph top n cfg.k))
    (hleaf : ∀ thr : Nat → P, ∀ row ∈ leafArray, ∀ u ∈ leafUpdates thr dist row, UpdOk ok u)
    (hrand : ∀ i idx, i < n → idx < n → ok i (dist idx i) (idx : Int)) :
    I (startGraph top dist n cfg rng init rp leafArray).1 := by
  unfold startGraph
  cases init with
  | some g => exact hinit g rfl
  | none =>
    refine initRandom_lift hI cfg.k n dist _ rng hrand ?_
    split
    · exact initRpTree_lift hI top dist _ leafArray _ hleaf hmk
    · exact hmk

theorem startGraph_inv {top : P} (htop : ∀ x : P, x ≤ top) {dist : Nat → Nat → P}
    (hsymm : ∀ p q, dist p q = dist q p) (n : Nat) (cfg : Cfg) (rng : RngState)
    (init : Option (Graph P)) (hinit : ∀ g, init = some g → GraphInv top n cfg.k dist g)
    (rp : Bool) (leafArray : List (List Int))
    (hleaf : ∀ row ∈ leafArray, ∀ x ∈ row, x < (n : Int)) :
    GraphInv top n cfg.k dist (startGraph top dist n cfg rng init rp leafArray).1 :=
  startGraph_lift (graphInv_pushClosed htop n cfg.k dist) top dist n cfg rng init rp leafArray hinit
    (mkGraph_inv top n cfg.k dist) (fun thr row hrow => leafUpdates_ok hsymm thr row (hleaf row hrow))
    (fun i idx _ hidx => ⟨Int.natCast_nonneg _, Int.ofNat_lt.mpr hidx, by rw [Int.toNat_natCast]; exact hsymm idx i⟩)

theorem nnDescent_graphInv {top : P} (htop : ∀ x : P, x ≤ top) (ctop : C)
    (draw : RngState → C × RngState) {dist : Nat → Nat → P}
    (hsymm : ∀ p q, dist p q = dist q p) (n : Nat) (cfg : Cfg) (stop : Nat → Bool) (rng : RngState)
    (init : Option (Graph P)) (hinit : ∀ g, init = some g → GraphInv top n cfg.k dist g)
    (rp : Bool) (leafArray : List (List Int))
    (hleaf : ∀ row ∈ leafArray, ∀ x ∈ row, x < (n : Int)) :
    ∃ g, GraphInv top n cfg.k dist g ∧
      (nnDescent top ctop draw dist n cfg stop rng init rp leafArray).1 = g.map deheapSort :=
  ⟨_, descentLoop_inv htop hsymm ctop draw cfg stop _ cfg.nIters _
        (startGraph_inv htop hsymm n cfg rng init hinit rp leafArray hleaf),
    congrArg Prod.fst (nnDescent_eq top ctop draw dist n cfg stop rng init rp leafArray)⟩

theorem startGraph_some (top : P) (dist : Nat → Nat → P) (n : Nat) (cfg : Cfg) (rng : RngState)
    (g0 : Graph P) (rp : Bool) (leafArray : List (List Int)) :
    (startGraph top dist n cfg rng (some g0) rp leafArray).1 = g0 := rfl

theorem nnDescent_rankLe (top : P) (ctop : C) (draw : RngState → C × RngState)
    (dist : Nat → Nat → P) (n : Nat) (cfg : Cfg) (stop : Nat → Bool) (rng : RngState)
    (g0 : Graph P) (rp : Bool) (leafArray : List (List Int)) :
    RankLe g0 (nnDescent top ctop draw dist n cfg stop rng (some g0) rp leafArray).1 := by
  rw [nnDescent_eq]
  exact (descentLoop_rankLe top ctop draw dist cfg stop _ cfg.nIters g0 _).trans
    (rankLe_map_deheapSort _).1

/-- the loop does not read `cfg.nIters` (the caller passes the count) -/
theorem descentLoop_cfg_nIters (top : P) (ctop : C) (draw : RngState → C × RngState)
    (dist : Nat → Nat → P) (cfg : Cfg) (m : Nat) (stop : Nat → Bool) (rng : RngState) (it : Nat)
    (g : Graph P) (s : InGraph) :
    descentLoop top ctop draw dist { cfg with nIters := m } stop rng it g s =
      descentLoop top ctop draw dist cfg stop rng it g s := by
  induction it generalizing g s with
  | zero => rfl
  | succ it ih =>
    rw [descentLoop_succ_eq, descentLoop_succ_eq, ih]
    -- the two sides differ in the record handed to `descentIter`, which reads no `nIters`
    rfl


/-! ## every row stays a max-heap (any pushes) — so the output rows are ascending -/

theorem isHeap_pushClosed : PushClosed (AllRows (P := P) fun _ => IsHeap) (fun _ _ _ => True) :=
  fun _ r d q f hg _ =>
    hg.pushInto r d q f (fun row _ h => push_heap true row d q f h) (fun _ _ _ h => h)

theorem nnDescent_sorted (top : P) (ctop : C) (draw : RngState → C × RngState)
    (dist : Nat → Nat → P) (n : Nat) (cfg : Cfg) (stop : Nat → Bool) (rng : RngState)
    (g0 : Graph P) (hg0 : AllRows (fun _ => IsHeap) g0) (rp : Bool) (leafArray : List (List Int)) :
    AllRows (fun _ row => ∀ i j (hi : i < row.size) (hj : j < row.size), i ≤ j →
        row[i].prio ≤ row[j].prio)
      (nnDescent top ctop draw dist n cfg stop rng (some g0) rp leafArray).1 := by
  rw [nnDescent_eq]
  exact AllRows.map (R := fun _ => IsHeap)
    (descentLoop_lift isHeap_pushClosed top ctop draw dist cfg stop _
      (fun _ c hg => hg.clearFlags (fun _ _ φ hφ => isHeap_map_keepsKey φ hφ) c)
      (fun _ _ _ _ _ u _ => updOk_true u) cfg.nIters _ _ hg0)
    deheapSort fun _ row => deheapSort_sorted row

/-! ## `update()` re-inserts the old rows -/

/-- the index / distance arrays of a sorted graph, as `update()` hands them back to
`init_from_neighbor_graph` -/
def idxRows (g : Graph P) : List (List Int) := g.toList.map (fun row => row.toList.map (·.idx))
def prioRows (g : Graph P) : List (List P) := g.toList.map (fun row => row.toList.map (·.prio))

theorem rows_shape {α β : Type} {A : Array (Array α)} {g : Array (Array β)} {φ : β → α}
    (h : A.toList.map (·.toList) = g.toList.map (fun row => row.toList.map φ)) :
    A.size = g.size ∧ ∀ r (h1 : r < A.size) (h2 : r < g.size), A[r].size = g[r].size := by
  refine ⟨by simpa using congrArg List.length h, fun r h1 h2 => ?_⟩
  have e := congrArg (fun l => l[r]?.map List.length) h
  simpa [h1, h2] using e


/-! ## heaps built from a supplied `init_graph` satisfy the invariant -/

/-- a push at distance `top` (an `inf` distance, in particular a `(-1, inf)` hole) is a no-op -/
theorem pushInto_top {top : P} (htop : ∀ x : P, x ≤ top) (g : Graph P) (r : Nat) (q : Int)
    (f : Bool) : (pushInto g r top q f).1 = g := by
  unfold pushInto
  split
  · rename_i h
    show g.set r (push true g[r] top q f).1 = g
    rw [push_far true g[r] top q f fun _ => htop _]
    exact Array.set_getElem_self h
  · rfl

/-- `initalize_heap_from_graph_indices` (distances computed with `dist`; `j < 0` skipped):
if the supplied indices are `< n`, the heap satisfies the invariant -/
theorem initFromIndices_inv {top : P} (htop : ∀ x : P, x ≤ top) {n k : Nat}
    {dist : Nat → Nat → P} {g : Graph P} (hg : GraphInv top n k dist g)
    (indices : List (List Int)) (hidx : ∀ row ∈ indices, ∀ j ∈ row, j < (n : Int)) :
    GraphInv top n k dist (initFromIndices g indices dist) := by
  unfold initFromIndices
  apply List.foldlRecOn (motive := (GraphInv top n k dist)) _ _ hg
  intro g' hg' rowi hrowi
  have hrow : rowi.1 ∈ indices := List.fst_mem_of_mem_zipIdx hrowi
  apply List.foldlRecOn (motive := (GraphInv top n k dist)) _ _ hg'
  intro g'' hg'' j hj
  split
  · rename_i h0
    exact pushInto_inv htop hg'' h0 (hidx _ hrow j hj) rfl true
  · exact hg''

/-- `init_from_neighbor_graph` / `initalize_heap_from_graph_indices_and_distances` with a
**truthful** `init_dist`: every supplied pair is at distance `top` (a hole, rejected) or an
in-range index with its true distance.  (Without the truthfulness hypothesis the supplied
distances simply stay in the heap: see C13's example.) -/
theorem initFromNeighborGraph_inv {top : P} (htop : ∀ x : P, x ≤ top) {n k : Nat}
    {dist : Nat → Nat → P} {g : Graph P} (hg : GraphInv top n k dist g)
    (indices : List (List Int)) (dists : List (List P))
    (htrue : ∀ (r : Nat) (isds : List Int × List P), (indices.zip dists)[r]? = some isds →
      ∀ qd ∈ isds.1.zip isds.2,
        qd.2 = top ∨ (0 ≤ qd.1 ∧ qd.1 < (n : Int) ∧ qd.2 = dist r qd.1.toNat)) :
    GraphInv top n k dist (initFromNeighborGraph g indices dists) := by
  unfold initFromNeighborGraph
  apply List.foldlRecOn (motive := (GraphInv top n k dist)) _ _ hg
  intro g' hg' rowi hrowi
  have hrow := List.mem_zipIdx_iff_getElem?.mp hrowi
  apply List.foldlRecOn (motive := (GraphInv top n k dist)) _ _ hg'
  intro g'' hg'' qd hqd
  rcases htrue rowi.2 rowi.1 hrow qd hqd with h | ⟨h0, hn, hd⟩
  · rw [h, pushInto_top htop]
    exact hg''
  · exact pushInto_inv htop hg'' h0 hn hd false

end Pynn
