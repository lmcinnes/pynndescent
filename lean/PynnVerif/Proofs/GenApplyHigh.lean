import PynnVerif.Proofs.GenApply

/-!
# The translated `utils.apply_graph_updates_high_memory` refines the NN-descent model's `applyHigh`

`in_graph` (a list of sets of ints in the Python, used only through `x in in_graph[r]` and `in_graph[r].add(x)`) is
translated as `Array (List Int)` — `add` conses, `in` is list membership — which is literally the model's `InGraph`.
The two loops are proved here (`high_loop0`); the theorem about the kernel is stated and proved from it in
`Props/C12.lean` (`kernel_apply_graph_updates_high_memory_refines`).
-/
namespace Pynn
open GenK
variable {P : Type} [LE P] [LT P] [DecidableLE P] [DecidableLT P]

theorem add_bind {β : Type} (s : InGraph) (r : Nat) (hr : r < s.size) (x : Int) (K : InGraph → Option β) :
    ((rd s (r : Int)).bind fun l => (wr s (r : Int) (x :: l)).bind K) = K (s.add r x) := by
  simp [rd_lt s r hr, wr_lt s r _ hr, InGraph.add, Array.setIfInBounds, hr]

theorem cast_succ_if (c : Nat) (b : Bool) (hb : b = true) : (c : Int) + (if b then (1 : Int) else 0) = ((c + 1 : Nat) : Int) := by
  subst hb; simp

/-- the loop variables `(priorities, indices, flags, n_changes, in_graph)`, in the order in which the generated loops
carry them (see `LSt`) -/
abbrev HSt (P : Type) := Array (Array P) × Array (Array Int) × Array (Array Int) × Int × Array (List Int)

/-- the loop variables hold the model's state -/
inductive HighRep (n k : Nat) : (Graph P × Nat) × InGraph → HSt P → Prop
  | mk (D I F m) (hR : Rep n k D I F m.1.1) (hs : m.2.size = n) : HighRep n k m (D, I, F, (m.1.2 : Int), m.2)

/-! The body of the entry loop of `apply_graph_updates_high_memory` written once, statement by statement, each with
what follows it as the argument `K`.  (The translator copies what follows an `if` into both of its branches.) -/
section blocks
variable {β : Type} (fuel : Nat) (d : P) (K : HSt P → Option β)

/-- `if x in in_graph[r]: pass`, `else: added = checked_flagged_heap_push(…[r], d, x, 1)`;
`if added > 0: in_graph[r].add(x); n_changes += added` -/
def pushNew (r x : Int) : HSt P → Option β
  | (D, I, F, c, s) => do
    if ((← rd s r)).contains x = true then
      K (D, I, F, c, s)
    else
      let (m0, m1, m2, rv) ← checked_flagged_heap_push fuel (← rd D r) (← rd I r) (← rd F r) d x (1 : Int)
      let D ← wr D r m0
      let I ← wr I r m1
      let F ← wr F r m2
      if rv > (0 : Int) then
        let s ← wr s r (x :: (← rd s r))
        K (D, I, F, c + rv, s)
      else
        K (D, I, F, c, s)

/-- `if p == q or p in in_graph[q]: pass else: <push p into row q>` -/
def pushOther (p q : Int) (st : HSt P) : Option β :=
  if p = q then K st else pushNew fuel d K q p st

/-- `if q in in_graph[p] and p in in_graph[q]: continue`, then the statements for row `p` and for row `q` -/
def highBody (p q : Int) (st : HSt P) : Option β := do
  if ((← rd st.2.2.2.2 p)).contains q = true then
    if ((← rd st.2.2.2.2 q)).contains p = true then
      K st
    else
      pushNew fuel d (pushOther fuel d K p q) p q st
  else
    pushNew fuel d (pushOther fuel d K p q) p q st

end blocks

/-- the translated entry loop at `fuel + 1` is one `entryPass` with body `highBody`, by unfolding alone (a theorem of
its own for the reason given at `low_loop2_succ`) -/
theorem high_loop1_succ (updates : Array (Array (Int × Int × P))) (i stop : Int) (fuel : Nat) (s : HSt P) (j : Int) :
    apply_graph_updates_high_memory.loop1 updates i stop (fuel + 1) s.1 s.2.1 s.2.2.1 s.2.2.2.1 s.2.2.2.2 j
      = entryPass updates i stop j (pure (.next (s.1, s.2.1, s.2.2.1, s.2.2.2.1, s.2.2.2.2, j)))
          (fun s => apply_graph_updates_high_memory.loop1 updates i stop fuel s.1 s.2.1 s.2.2.1 s.2.2.2.1 s.2.2.2.2
            (j + 1)) s (highBody fuel) := rfl

section specs
variable {n k : Nat} {m : (Graph P × Nat) × InGraph} {st : HSt P} {fuel : Nat} {β : Type}

omit [LE P] [LT P] [DecidableLE P] [DecidableLT P] in
/-- the test `x in in_graph[r]` of the kernel is the model's -/
theorem HighRep.memb (h : HighRep n k m st) {r : Nat} (hr : r < n) (x : Int) (A B : Option β) :
    ((rd st.2.2.2.2 (r : Int)).bind fun l => if l.contains x = true then A else B)
      = if m.2.has r x = true then A else B := by
  obtain ⟨D, I, F, m, hR, hs⟩ := h
  have hr' : r < m.2.size := hs ▸ hr
  rw [rd_lt m.2 r hr', Option.bind_some, InGraph.has, Array.getElem?_eq_getElem hr']

/-- the push behind its test, with its bookkeeping, is the model's `guardedPush` -/
theorem pushNew_eq (hk : 0 < k) (hf : k < fuel) (h : HighRep n k m st) {r : Nat} (hr : r < n) (d : P) (x : Int) :
    ∃ st', HighRep n k (guardedPush m r d x) st' ∧
      ∀ K : HSt P → Option β, pushNew fuel d K (r : Int) x st = K st' := by
  have hin := h.memb (β := β) hr x
  obtain ⟨D, I, F, m, hR, hs⟩ := h
  cases hx : m.2.has r x
  · obtain ⟨D1, I1, F1, _, _, _, hR1, hK1⟩ := hR.push_bind hk hr d x 1 hf
    rw [guardedPush_neg hx]
    simp only [pushNew, Option.bind_eq_bind, hin, hx, Bool.false_eq_true, if_false, hK1, Int.reduceBNe]
    by_cases hacc : (pushInto m.1.1 r d x true).2 = true
    · rw [if_pos hacc]
      refine ⟨_, HighRep.mk D1 I1 F1 (_, _) hR1 ((InGraph.add_size ..).trans hs), fun K => ?_⟩
      simp only [hacc, if_true, gt_iff_lt, Int.one_pos, add_bind m.2 r (hs ▸ hr), cursor_succ]
    · rw [if_neg hacc]
      refine ⟨_, HighRep.mk D1 I1 F1 (_, _) hR1 hs, fun K => ?_⟩
      simp only [hacc, if_false, Bool.false_eq_true, gt_iff_lt, Int.lt_irrefl]
  · rw [guardedPush_pos hx]
    exact ⟨_, .mk D I F m hR hs, fun K => by rw [pushNew, Option.bind_eq_bind, hin, hx, if_pos rfl]⟩

theorem pushOther_eq (hk : 0 < k) (hf : k < fuel) (h : HighRep n k m st) (p : Nat) {q : Nat} (hq : q < n) (d : P) :
    ∃ st', HighRep n k (if p = q then m else guardedPush m q d (p : Int)) st' ∧
      ∀ K : HSt P → Option β, pushOther fuel d K (p : Int) (q : Int) st = K st' := by
  by_cases hpq : p = q
  · exact ⟨st, by rwa [if_pos hpq], fun K => by rw [pushOther, if_pos (congrArg _ hpq)]⟩
  · obtain ⟨st', h', e⟩ := pushNew_eq hk hf h hq d (p : Int)
    exact ⟨st', by rwa [if_neg hpq], fun K => by rw [pushOther, if_neg (mt Int.natCast_inj.mp hpq), e]⟩

theorem highBody_eq (hk : 0 < k) (hf : k < fuel) (h : HighRep n k m st) {p q : Nat} (hp : p < n) (hq : q < n)
    (d : P) :
    ∃ st', HighRep n k (highStep m ⟨p, q, d⟩) st' ∧
      ∀ K : HSt P → Option β, highBody fuel d K (p : Int) (q : Int) st = K st' := by
  obtain ⟨st1, h1, e1⟩ := pushNew_eq hk hf h hp d (q : Int)
  obtain ⟨st2, h2, e2⟩ := pushOther_eq hk hf h1 p hq d
  cases hA : m.2.has p (q : Int)
  · exact ⟨st2, h2, fun K => by
      rw [highBody, Option.bind_eq_bind, h.memb hp, hA, if_neg Bool.false_ne_true, e1, e2]⟩
  · cases hB : m.2.has q (p : Int)
    · exact ⟨st2, h2, fun K => by
        rw [highBody, Option.bind_eq_bind, h.memb hp, hA, if_pos rfl, h.memb hq, hB,
          if_neg Bool.false_ne_true, e1, e2]⟩
    · refine ⟨st, ?_, fun K => by
        rw [highBody, Option.bind_eq_bind, h.memb hp, hA, if_pos rfl, h.memb hq, hB, if_pos rfl]⟩
      simp only [highStep, guardedPush_pos hA, guardedPush_pos hB, ite_self]
      exact h

end specs

theorem high_loop1 (n k : Nat) (hk : 0 < k) (updates : Array (Array (Int × Int × P))) (i : Nat)
    (hi : i < updates.size) (hok : ∀ x ∈ updates[i].toList, OkTriple n x) :
    ∀ fuel s m, HighRep n k m s → updates[i].size + k < fuel →
      ∃ s', HighRep n k (updates[i].toList.foldl (onTriple highStep) m) s' ∧
        apply_graph_updates_high_memory.loop1 updates (i : Int) (updates[i].size : Int)
          fuel s.1 s.2.1 s.2.2.1 s.2.2.2.1 s.2.2.2.2 0
        = some (.next (s'.1, s'.2.1, s'.2.2.1, s'.2.2.2.1, s'.2.2.2.2, (updates[i].size : Int))) := by
  exact for_entries (fun fuel s j => apply_graph_updates_high_memory.loop1 updates (i : Int) (updates[i].size : Int)
      fuel s.1 s.2.1 s.2.2.1 s.2.2.2.1 s.2.2.2.2 j) (fun s j => (s.1, s.2.1, s.2.2.1, s.2.2.2.1, s.2.2.2.2, j))
    highBody updates i hi (high_loop1_succ updates _ _) n hok _ (HighRep n k) k
    fun fuel s m p q d hp hq h hb => highBody_eq hk hb h hp hq d

theorem high_loop0 (n k : Nat) (hk : 0 < k) (updates : Array (Array (Int × Int × P))) (M : Nat)
    (hM : ∀ b ∈ updates.toList, b.size ≤ M) (hok : ∀ b ∈ updates.toList, ∀ x ∈ b.toList, OkTriple n x) :
    ∀ fuel s m, HighRep n k m s → updates.size + (M + k) < fuel →
      ∃ s', HighRep n k (updates.toList.foldl (fun acc b => b.toList.foldl (onTriple highStep) acc) m) s' ∧
        apply_graph_updates_high_memory.loop0 updates (updates.size : Int) fuel s.1 s.2.1 s.2.2.1 s.2.2.2.1 s.2.2.2.2 0
        = some (.next (s'.1, s'.2.1, s'.2.2.1, s'.2.2.2.1, s'.2.2.2.2, (updates.size : Int))) := by
  refine for_fold (fun fuel s i => apply_graph_updates_high_memory.loop0 updates (updates.size : Int)
      fuel s.1 s.2.1 s.2.2.1 s.2.2.2.1 s.2.2.2.2 i) (fun s j => (s.1, s.2.1, s.2.2.1, s.2.2.2.1, s.2.2.2.2, j))
    updates.toList updates.size Array.length_toList _ (HighRep n k) (M + k) (fun _ _ _ hj => if_neg hj) ?_
  intro fuel s m i hi hR hb
  have hlt : i < updates.size := Array.length_toList ▸ hi
  rw [Array.getElem_toList]
  have hmem := Array.getElem_mem_toList hlt
  obtain ⟨s', hR', e⟩ := high_loop1 n k hk updates i hlt (hok _ hmem) fuel s m hR
    (Nat.lt_of_le_of_lt (Nat.add_le_add_right (hM _ hmem) _) hb)
  refine ⟨s', hR', ?_⟩
  simp only [apply_graph_updates_high_memory.loop0, cursor_lt, hlt, ↓reduceIte, rd_lt updates i hlt,
    Option.bind_eq_bind, Option.bind_some]
  rw [e]
  rfl

end Pynn
