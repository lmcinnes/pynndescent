import PynnVerif.Model.Diversify
import Mathlib.Order.Defs.LinearOrder

/-! # The diversification kernels, `degree_prune_internal`, the pipeline of `_init_search_graph`

The `argsort` form is the primary one: the flag of a position is the verdict of the scan against the
entries retained before it (`csrLoop_decision`); the rule and its draw-independent half are read off
that, and the list form is tied to it by `csrLoop_eq_divLoop`.  The pipeline is followed row by row;
the nearest-neighbour clauses rest on `secondRowD_nearest` and `nearest_of_snd`.

The file also holds the definitions that the statements of `Props/C15` and `Props/C16` use beside the
model: `Rule`, `live`, `Lists`, `ArgsortOk`. -/
namespace Pynn.Div
variable {P : Type} [LinearOrder P]

/-! ## insertion sort -/

section
variable {α : Type} (le : α → α → Bool)

theorem insertBy_perm (x : α) (l : List α) : (insertBy le x l).Perm (x :: l) := by
  induction l with
  | nil => simp [insertBy]
  | cons y ys ih =>
    rw [insertBy]
    split
    · exact List.Perm.refl _
    · exact (ih.cons y).trans (List.Perm.swap x y ys)

theorem isort_perm (l : List α) : (isort le l).Perm l := by
  induction l with
  | nil => simp [isort]
  | cons x l ih =>
    show (insertBy le x (isort le l)).Perm (x :: l)
    exact (insertBy_perm le x _).trans (ih.cons x)

@[simp] theorem mem_isort (l : List α) (a : α) : a ∈ isort le l ↔ a ∈ l :=
  (isort_perm le l).mem_iff

variable (trans : ∀ a b c, le a b = true → le b c = true → le a c = true)
  (total : ∀ a b, le a b = true ∨ le b a = true)
include trans total

theorem insertBy_pairwise (x : α) (l : List α) (h : l.Pairwise (fun a b => le a b = true)) :
    (insertBy le x l).Pairwise (fun a b => le a b = true) := by
  induction l with
  | nil => simp [insertBy]
  | cons y ys ih =>
    obtain ⟨hy, hys⟩ := List.pairwise_cons.mp h
    rw [insertBy]
    split
    next hxy =>
      exact List.pairwise_cons.mpr
        ⟨List.forall_mem_cons.mpr ⟨hxy, fun z hz => trans _ _ _ hxy (hy z hz)⟩, h⟩
    next hxy =>
      refine List.pairwise_cons.mpr ⟨fun z hz => ?_, ih hys⟩
      rcases List.mem_cons.mp ((insertBy_perm le x ys).mem_iff.mp hz) with rfl | hz
      · exact (total z y).resolve_left hxy
      · exact hy z hz

theorem isort_pairwise (l : List α) : (isort le l).Pairwise (fun a b => le a b = true) := by
  induction l with
  | nil => simp [isort]
  | cons x l ih => exact insertBy_pairwise le trans total x _ ih

end

/-- `l` occludes `j`: the test of both kernel forms,
`len l > FLOAT32_EPS and dist(data[nbr j], data[nbr l]) < len j`. -/
def Occ (eps : P) (dist : Int → Int → P) (nbr : Nat → Int) (len : Nat → P) (l j : Nat) : Prop :=
  eps < len l ∧ dist (nbr j) (nbr l) < len j

/-- The occlusion rule for a set `R` of storage positions and a visiting order:
`j ∈ R ↔ ¬ ∃ l ∈ R, l visited before j ∧ eps < len l ∧ dist (nbr j) (nbr l) < len j`.
("visited before `j`" = member of the prefix `pre` of the visiting order that precedes `j`.) -/
def Rule (eps : P) (dist : Int → Int → P) (nbr : Nat → Int) (len : Nat → P) (order : List Nat)
    (R : Nat → Prop) : Prop :=
  ∀ pre j post, order = pre ++ j :: post →
    (R j ↔ ¬ ∃ l ∈ pre, R l ∧ eps < len l ∧ dist (nbr j) (nbr l) < len j)

/-! ## the inner scan

Proved for the scan over `new_*` of the list form; the `retained[]`-filtered scan of the CSR form is
that scan over the retained entries of the visited prefix (`scanCsr_eq_scanNew`). -/

section
variable {eps : P} {dist : Int → Int → P} {draw : Nat → Bool} {nbr : Nat → Int} {len : Nat → P}

/-- every draw stream: a candidate is rejected only by an entry that occludes it -/
theorem scanNew_false_occ {cj : Int} {dj : P} {new : List (Ent P)} {c : Nat}
    (h : (scanNew eps dist draw cj dj new c).1 = false) :
    ∃ e ∈ new, eps < e.2 ∧ dist cj e.1 < dj := by
  induction new generalizing c with
  | nil => cases h
  | cons e new ih =>
    by_cases ho : eps < e.2 ∧ dist cj e.1 < dj
    · exact ⟨e, List.mem_cons_self, ho⟩
    · rw [scanNew, if_neg ho] at h
      obtain ⟨x, hx, hx2⟩ := ih h
      exact ⟨x, List.mem_cons_of_mem _ hx, hx2⟩

/-- probability 1: a candidate is rejected by the first entry that occludes it -/
theorem scanNew_true_iff {cj : Int} {dj : P} {new : List (Ent P)} {c : Nat} :
    (scanNew eps dist (fun _ => true) cj dj new c).1 = true ↔ ∀ e ∈ new, ¬ (eps < e.2 ∧ dist cj e.1 < dj) := by
  induction new generalizing c with
  | nil => exact iff_of_true rfl fun _ h => nomatch h
  | cons e new ih =>
    rw [scanNew, List.forall_mem_cons]
    by_cases ho : eps < e.2 ∧ dist cj e.1 < dj
    · rw [if_pos ho, if_pos rfl]
      exact iff_of_false Bool.false_ne_true fun h => h.1 ho
    · rw [if_neg ho, ih]
      exact (and_iff_right ho).symm

theorem scanNew_prob_zero {cj : Int} {dj : P} {new : List (Ent P)} {c : Nat} :
    (scanNew eps dist (fun _ => false) cj dj new c).1 = true := by
  induction new generalizing c with
  | nil => rfl
  | cons e new ih =>
    rw [scanNew]
    split
    · rw [if_neg Bool.false_ne_true]; exact ih
    · exact ih

/-- entries of length `≤ eps` (the point itself, exact duplicates) reject nothing, whatever the
generator says -/
theorem scanNew_small {cj : Int} {dj : P} {new : List (Ent P)} {c : Nat} (h : ∀ e ∈ new, e.2 ≤ eps) :
    (scanNew eps dist draw cj dj new c).1 = true := by
  cases hs : (scanNew eps dist draw cj dj new c).1
  · obtain ⟨e, he, ho, _⟩ := scanNew_false_occ hs
    exact absurd ho (not_lt.mpr (h e he))
  · rfl

theorem scanCsr_eq_scanNew (ret : Nat → Bool) (j : Nat) (pre : List Nat) (c : Nat) :
    scanCsr eps dist draw nbr len ret j pre c =
      scanNew eps dist draw (nbr j) (len j) ((pre.filter ret).map (fun i => (nbr i, len i))) c := by
  induction pre generalizing c with
  | nil => rfl
  | cons l pre ih =>
    rw [scanCsr]
    by_cases hr : ret l = true
    · rw [if_pos hr, List.filter_cons_of_pos hr, List.map_cons, scanNew, ih, ih]
    · rw [if_neg hr, List.filter_cons_of_neg hr, ih]

/-! ## the outer loop of the CSR form -/

/-- `retained[]` after the step at position `j` whose scan returned `b`: the store `retained[j] = 0`
happens when `b` is false -/
def retainedStep (ret : Nat → Bool) (b : Bool) (j : Nat) : Nat → Bool :=
  if b then ret else fun x => if x = j then false else ret x

theorem csrLoop_cons (pre : List Nat) (j : Nat) (rest : List Nat) (ret : Nat → Bool) (c : Nat) :
    csrLoop eps dist draw nbr len pre (j :: rest) ret c =
      csrLoop eps dist draw nbr len (pre ++ [j]) rest
        (retainedStep ret (scanCsr eps dist draw nbr len ret j pre c).1 j)
        (scanCsr eps dist draw nbr len ret j pre c).2 :=
  rfl

theorem retainedStep_ne {ret : Nat → Bool} {b : Bool} {j x : Nat} (h : x ≠ j) :
    retainedStep ret b j x = ret x := by
  cases b
  · exact if_neg h
  · rfl

theorem retainedStep_self {ret : Nat → Bool} {b : Bool} {j : Nat} (h : ret j = true) :
    retainedStep ret b j j = b := by
  cases b
  · exact if_pos rfl
  · exact h

theorem csrLoop_frame {pre rest : List Nat} {ret : Nat → Bool} {c : Nat} {x : Nat} (hx : x ∉ rest) :
    csrLoop eps dist draw nbr len pre rest ret c x = ret x := by
  induction rest generalizing pre ret c with
  | nil => rfl
  | cons j rest ih =>
    obtain ⟨hxj, hx⟩ := List.ne_and_not_mem_of_not_mem_cons hx
    rw [csrLoop_cons, ih hx, retainedStep_ne hxj]

variable (eps dist draw nbr len) in
/-- **The decision at `j`**, every draw stream: the final flag of `j` is the verdict of the scan of `j`
against the entries visited before it that are retained *at the end* — their flags are final when `j`
is visited (`csrLoop_frame`).  The rule and "only occluded entries are removed" are read off this. -/
theorem csrLoop_decision (pre a : List Nat) (j : Nat) (b : List Nat) (ret : Nat → Bool) (c : Nat)
    (hnd : (pre ++ (a ++ j :: b)).Nodup) (hj : ret j = true) :
    ∃ c', csrLoop eps dist draw nbr len pre (a ++ j :: b) ret c j =
      (scanNew eps dist draw (nbr j) (len j)
        (((pre ++ a).filter (csrLoop eps dist draw nbr len pre (a ++ j :: b) ret c)).map
          (fun i => (nbr i, len i))) c').1 := by
  induction a generalizing pre ret c with
  | nil =>
    obtain ⟨_, hjb, hdis⟩ := List.nodup_append.mp hnd
    have hjb : j ∉ b := (List.nodup_cons.mp hjb).1
    rw [List.nil_append, List.append_nil]
    have hpre : ∀ l ∈ pre, csrLoop eps dist draw nbr len pre (j :: b) ret c l = ret l :=
      fun l hl => csrLoop_frame fun h => hdis l hl l h rfl
    refine ⟨c, ?_⟩
    rw [List.filter_congr hpre, ← scanCsr_eq_scanNew, csrLoop_cons, csrLoop_frame hjb, retainedStep_self hj]
  | cons a0 a ih =>
    have hja0 : j ≠ a0 := fun h =>
      (List.nodup_cons.mp (List.nodup_append.mp hnd).2.1).1 (h ▸ List.mem_append_right _ List.mem_cons_self)
    rw [List.cons_append, csrLoop_cons]
    rw [List.cons_append, List.append_cons] at hnd
    rw [List.append_cons pre a0 a]
    exact ih (pre ++ [a0]) _ _ hnd ((retainedStep_ne hja0).trans hj)

theorem csrLoop_prob_zero (pre rest : List Nat) (ret : Nat → Bool) (c : Nat) :
    csrLoop eps dist (fun _ => false) nbr len pre rest ret c = ret := by
  induction rest generalizing pre ret c with
  | nil => rfl
  | cons j rest ih =>
    rw [csrLoop_cons, scanCsr_eq_scanNew, scanNew_prob_zero]
    exact ih _ _ _

/-! ## agreement of the two forms (any draw stream) -/

/-- one step of the outer loop of the list form on a real entry: the verdict of the scan is the
keep-flag and decides whether the entry is appended -/
theorem divLoop_cons {e : Ent P} {rest new : List (Ent P)} {c : Nat} (he : 0 ≤ e.1) :
    divLoop eps dist draw (e :: rest) new c =
      ((divLoop eps dist draw rest (new ++ if (scanNew eps dist draw e.1 e.2 new c).1 then [e] else [])
          (scanNew eps dist draw e.1 e.2 new c).2).1,
        (scanNew eps dist draw e.1 e.2 new c).1 :: (divLoop eps dist draw rest
          (new ++ if (scanNew eps dist draw e.1 e.2 new c).1 then [e] else [])
          (scanNew eps dist draw e.1 e.2 new c).2).2) := by
  rw [divLoop, if_neg (Int.not_lt.mpr he)]
  cases h : (scanNew eps dist draw e.1 e.2 new c).1
  · simp only [h, Bool.false_eq_true, ↓reduceIte, List.append_nil]
  · simp only [h, ↓reduceIte]

variable (eps dist draw nbr len) in
/-- the two outer loops in step: `new_*` of the list form is the retained part of the visited prefix
`pre`; the positions of `rest` are still untouched (`htrue`) and hold no `-1` (`hreal`: there the list
form would stop) -/
theorem csrLoop_eq_divLoop (pre rest : List Nat) (ret : Nat → Bool) (c : Nat) (hnd : (pre ++ rest).Nodup)
    (htrue : ∀ x ∈ rest, ret x = true) (hreal : ∀ x ∈ rest, 0 ≤ nbr x) :
    divLoop eps dist draw (rest.map (fun i => (nbr i, len i)))
        ((pre.filter ret).map (fun i => (nbr i, len i))) c =
      (((pre ++ rest).filter (csrLoop eps dist draw nbr len pre rest ret c)).map (fun i => (nbr i, len i)),
        rest.map (csrLoop eps dist draw nbr len pre rest ret c)) := by
  induction rest generalizing pre ret c with
  | nil =>
    rw [List.append_nil]
    rfl
  | cons j rest ih =>
    obtain ⟨_, hjr, hdis⟩ := List.nodup_append.mp hnd
    have hjr : j ∉ rest := (List.nodup_cons.mp hjr).1
    obtain ⟨hj, htrue⟩ := List.forall_mem_cons.mp htrue
    obtain ⟨hrj, hreal⟩ := List.forall_mem_cons.mp hreal
    rw [List.map_cons, divLoop_cons (e := (nbr j, len j)) hrj, ← scanCsr_eq_scanNew, csrLoop_cons]
    generalize scanCsr eps dist draw nbr len ret j pre c = r
    -- the positions of `pre` keep their flags, `j` gets the verdict, `rest` is still untouched
    have hfil : ((pre ++ [j]).filter (retainedStep ret r.1 j)).map (fun i => (nbr i, len i)) =
        (pre.filter ret).map (fun i => (nbr i, len i)) ++ if r.1 = true then [(nbr j, len j)] else [] := by
      rw [List.filter_append, List.map_append, List.filter_congr (fun x hx => retainedStep_ne
        (fun h => hdis x hx j List.mem_cons_self h)), List.filter_cons, List.filter_nil, retainedStep_self hj]
      cases r.1 <;> rfl
    rw [← hfil, ih (pre ++ [j]) _ r.2 (List.append_cons pre j rest ▸ hnd)
      (fun x hx => (retainedStep_ne fun (h : x = j) => hjr (h ▸ hx)).trans (htrue x hx)) hreal,
      List.map_cons, csrLoop_frame hjr, retainedStep_self hj, List.append_assoc, List.singleton_append]

/-! ## top level: the `argsort` form -/

/-- the first visited position goes through the loop like the others: its scan is over no entries -/
theorem diversifyCsr_eq_csrLoop (order : List Nat) :
    diversifyCsr eps dist draw nbr len order = csrLoop eps dist draw nbr len [] order (fun _ => true) 0 := by
  cases order <;> rfl

theorem diversifyCsr_first {o : Nat} {rest : List Nat} (hnd : (o :: rest).Nodup) :
    diversifyCsr eps dist draw nbr len (o :: rest) o = true := by
  simp only [diversifyCsr]
  rw [csrLoop_frame (List.nodup_cons.mp hnd).1]

variable (eps dist draw nbr len) in
theorem diversifyCsr_decision (order : List Nat) (hnd : order.Nodup) (pre : List Nat) (j : Nat)
    (post : List Nat) (hsplit : order = pre ++ j :: post) :
    ∃ c', diversifyCsr eps dist draw nbr len order j =
      (scanNew eps dist draw (nbr j) (len j)
        ((pre.filter (diversifyCsr eps dist draw nbr len order)).map (fun i => (nbr i, len i))) c').1 := by
  subst hsplit
  rw [diversifyCsr_eq_csrLoop]
  exact csrLoop_decision eps dist draw nbr len [] pre j post (fun _ => true) 0 hnd rfl

variable (eps dist nbr len) in
theorem diversifyCsr_rule (order : List Nat) (hnd : order.Nodup) :
    Rule eps dist nbr len order
      (fun j => diversifyCsr eps dist (fun _ => true) nbr len order j = true) := by
  intro pre j post hsplit
  obtain ⟨c', h⟩ := diversifyCsr_decision eps dist (fun _ => true) nbr len order hnd pre j post hsplit
  show diversifyCsr eps dist (fun _ => true) nbr len order j = true ↔ _
  rw [h, scanNew_true_iff, List.forall_mem_map, List.forall_mem_filter]
  simp only [not_exists, not_and]

/-- **every draw stream**: a position that is not retained is occluded by a *retained* position
visited before it (the converse needs the draw to say "prune": `diversifyCsr_rule`) -/
theorem diversifyCsr_false_occ {order : List Nat} (hnd : order.Nodup) {pre : List Nat} {j : Nat}
    {post : List Nat} (hsplit : order = pre ++ j :: post)
    (h : diversifyCsr eps dist draw nbr len order j = false) :
    ∃ l ∈ pre, diversifyCsr eps dist draw nbr len order l = true ∧
        eps < len l ∧ dist (nbr j) (nbr l) < len j := by
  obtain ⟨c', h'⟩ := diversifyCsr_decision eps dist draw nbr len order hnd pre j post hsplit
  rw [h'] at h
  obtain ⟨_, he, ho⟩ := scanNew_false_occ h
  obtain ⟨l, hl, rfl⟩ := List.mem_map.mp he
  exact ⟨l, (List.mem_filter.mp hl).1, (List.mem_filter.mp hl).2, ho⟩

theorem diversifyCsr_prob_zero {order : List Nat} {j : Nat} :
    diversifyCsr eps dist (fun _ => false) nbr len order j = true := by
  rw [diversifyCsr_eq_csrLoop, csrLoop_prob_zero]

/-- a removed position is one of the visited positions (the write-back loop over `order`
reaches every removed entry) -/
theorem diversifyCsr_false_mem {order : List Nat} {x : Nat}
    (h : diversifyCsr eps dist draw nbr len order x = false) : x ∈ order := by
  by_contra hx
  rw [diversifyCsr_eq_csrLoop, csrLoop_frame hx] at h
  cases h

/-! ## uniqueness of the rule -/

theorem rule_unique_mem {order : List Nat} {R R' : Nat → Prop} (h : Rule eps dist nbr len order R)
    (h' : Rule eps dist nbr len order R') :
    ∀ j ∈ order, (R j ↔ R' j) := by
  intro j hj
  obtain ⟨pre, post, hsplit⟩ := List.append_of_mem hj
  clear hj
  -- induction on the number of positions visited before `j`
  induction hn : pre.length using Nat.strongRecOn generalizing pre j post with
  | _ n ih =>
    rw [h pre j post hsplit, h' pre j post hsplit]
    refine not_congr (exists_congr fun l => and_congr_right fun hl => and_congr_left fun _ => ?_)
    obtain ⟨s, t, rfl⟩ := List.append_of_mem hl
    exact ih s.length (by simp at hn; omega) l s (t ++ j :: post) (by simp [hsplit]) rfl

/-! ## the list-append form -/

/-- the stored positions the list form looks at: position 0 and the following entries up to the
first negative index (`break`) -/
def live (row : List (Ent P)) : List (Ent P) :=
  match row with
  | [] => []
  | e :: rest => e :: rest.takeWhile (fun e => decide (0 ≤ e.1))

theorem divLoop_takeWhile (rest new : List (Ent P)) (c : Nat) :
    divLoop eps dist draw rest new c =
      ((divLoop eps dist draw (rest.takeWhile (fun e => decide (0 ≤ e.1))) new c).1,
       (divLoop eps dist draw (rest.takeWhile (fun e => decide (0 ≤ e.1))) new c).2 ++
         List.replicate (rest.length - (rest.takeWhile (fun e => decide (0 ≤ e.1))).length) false) := by
  induction rest generalizing new c with
  | nil => simp [divLoop]
  | cons e rest ih =>
    by_cases he : 0 ≤ e.1
    · rw [List.takeWhile_cons_of_pos (p := fun e : Ent P => decide (0 ≤ e.1)) (decide_eq_true he),
        divLoop_cons he, divLoop_cons he, ih]
      simp
    · simp [divLoop, Int.not_le.mp he, he]

/-- entries from the first `-1` on are neither looked at nor kept -/
theorem diversifyList_live (row : List (Ent P)) :
    (diversifyList eps dist draw row).1 = (diversifyList eps dist draw (live row)).1 ∧
    (diversifyList eps dist draw row).2 = (diversifyList eps dist draw (live row)).2 ++
      List.replicate (row.length - (live row).length) false := by
  cases row with
  | nil => simp [diversifyList, live]
  | cons e rest =>
    simp only [diversifyList, live]
    rw [divLoop_takeWhile]
    simp

omit [LinearOrder P] in
theorem live_tail_real (row : List (Ent P)) : ∀ e ∈ (live row).tail, 0 ≤ e.1 := by
  cases row with
  | nil => simp [live]
  | cons e rest => exact fun x hx => of_decide_eq_true (List.all_eq_true.mp List.all_takeWhile x hx)

variable (eps dist draw) in
theorem divLoop_sublist (rest new : List (Ent P)) (c : Nat) :
    ∃ ext, ext.Sublist rest ∧ (divLoop eps dist draw rest new c).1 = new ++ ext := by
  induction rest generalizing new c with
  | nil => exact ⟨[], List.Sublist.refl _, (List.append_nil _).symm⟩
  | cons e rest ih =>
    by_cases he : e.1 < 0
    · rw [divLoop, if_pos he]
      exact ⟨[], List.nil_sublist _, (List.append_nil _).symm⟩
    · rw [divLoop_cons (Int.not_lt.mp he)]
      generalize scanNew eps dist draw e.1 e.2 new c = r
      obtain ⟨ext, hs, h⟩ := ih (new ++ if r.1 then [e] else []) r.2
      refine ⟨(if r.1 then [e] else []) ++ ext, ?_, by rw [h, List.append_assoc]⟩
      cases r.1
      · exact hs.cons e
      · exact hs.cons_cons e

variable (eps dist draw) in
theorem diversifyList_sublist (row : List (Ent P)) :
    (diversifyList eps dist draw row).1.Sublist row := by
  cases row with
  | nil => exact List.Sublist.refl _
  | cons e rest =>
    obtain ⟨ext, hs, h⟩ := divLoop_sublist eps dist draw rest [e] 0
    rw [diversifyList, h]
    exact hs.cons_cons e

variable (eps dist draw) in
/-- an entry preceded only by entries of length `≤ eps` (the point itself, exact duplicates) is
appended whatever the generator says -/
theorem divLoop_keeps (a b new : List (Ent P)) (x : Ent P) (c : Nat) (hx : 0 ≤ x.1)
    (ha : ∀ e ∈ a, 0 ≤ e.1 ∧ e.2 ≤ eps) (hnew : ∀ e ∈ new, e.2 ≤ eps) :
    x ∈ (divLoop eps dist draw (a ++ x :: b) new c).1 := by
  induction a generalizing new c with
  | nil =>
    rw [List.nil_append, divLoop_cons hx, scanNew_small hnew, if_pos rfl]
    obtain ⟨ext, _, h⟩ := divLoop_sublist eps dist draw b (new ++ [x]) (scanNew eps dist draw x.1 x.2 new c).2
    rw [h]; simp
  | cons e a ih =>
    obtain ⟨he, ha⟩ := List.forall_mem_cons.mp ha
    rw [List.cons_append, divLoop_cons he.1, scanNew_small hnew, if_pos rfl]
    exact ih _ _ ha (List.forall_mem_append.mpr ⟨hnew, List.forall_mem_singleton.mpr he.2⟩)

variable (eps dist draw) in
theorem diversifyList_keeps (pre post : List (Ent P)) (x : Ent P) (hx : 0 ≤ x.1)
    (hpre : ∀ e ∈ pre, 0 ≤ e.1 ∧ e.2 ≤ eps) :
    x ∈ (diversifyList eps dist draw (pre ++ x :: post)).1 := by
  cases pre with
  | nil =>
    obtain ⟨ext, _, h⟩ := divLoop_sublist eps dist draw post [x] 0
    simp [diversifyList, h]
  | cons e pre =>
    obtain ⟨he, hpre⟩ := List.forall_mem_cons.mp hpre
    exact divLoop_keeps eps dist draw pre post [e] x 0 hx hpre (List.forall_mem_singleton.mpr he.2)

/-- `a` does not occlude `b` -/
def NonOcc (eps : P) (dist : Int → Int → P) (a b : Ent P) : Prop := ¬ (eps < a.2 ∧ dist b.1 a.1 < b.2)

variable (eps dist) in
/-- with probability 1 the appended entries are pairwise non-occluding, earlier against later -/
theorem divLoop_pairwise (rest new : List (Ent P)) (c : Nat) (h : new.Pairwise (NonOcc eps dist)) :
    (divLoop eps dist (fun _ => true) rest new c).1.Pairwise (NonOcc eps dist) := by
  induction rest generalizing new c with
  | nil => exact h
  | cons e rest ih =>
    by_cases he : e.1 < 0
    · rw [divLoop, if_pos he]; exact h
    · rw [divLoop_cons (Int.not_lt.mp he)]
      apply ih
      cases hs : (scanNew eps dist (fun _ => true) e.1 e.2 new c).1
      · rw [if_neg Bool.false_ne_true, List.append_nil]; exact h
      · rw [if_pos rfl, List.pairwise_append]
        refine ⟨h, List.pairwise_singleton _ _, fun a ha b hb ho => ?_⟩
        rw [List.mem_singleton.mp hb] at ho
        exact scanNew_true_iff.mp hs a ha ho

variable (eps dist) in
theorem diversifyList_pairwise (row : List (Ent P)) :
    (diversifyList eps dist (fun _ => true) row).1.Pairwise (NonOcc eps dist) := by
  cases row with
  | nil => exact List.Pairwise.nil
  | cons e rest => exact divLoop_pairwise eps dist rest [e] 0 (List.pairwise_singleton _ _)

variable (eps dist draw nbr len) in
/-- **agreement of the two forms** for one visiting order and any draw stream -/
theorem diversifyList_eq_csr (order : List Nat) (hnd : order.Nodup) (hreal : ∀ x ∈ order.tail, 0 ≤ nbr x) :
    (diversifyList eps dist draw (order.map (fun i => (nbr i, len i)))).2 =
        order.map (diversifyCsr eps dist draw nbr len order) ∧
    (diversifyList eps dist draw (order.map (fun i => (nbr i, len i)))).1 =
        (order.filter (diversifyCsr eps dist draw nbr len order)).map (fun i => (nbr i, len i)) := by
  cases order with
  | nil => simp [diversifyList]
  | cons o rest =>
    have h := csrLoop_eq_divLoop eps dist draw nbr len [o] rest (fun _ => true) 0
      hnd (fun _ _ => rfl) hreal
    rw [List.map_cons, diversifyList, show [(nbr o, len o)] = ([o].filter fun _ => true).map
      (fun i => (nbr i, len i)) from rfl, h, List.map_cons, List.singleton_append,
      diversifyCsr_first hnd]
    exact ⟨rfl, rfl⟩

omit [LinearOrder P] in
/-- a stored row is the table of its accessors -/
theorem row_eq_map (dflt : P) (row : List (Ent P)) :
    row = (List.range row.length).map (fun i => (nbrOf row i, lenOf dflt row i)) := by
  apply List.ext_getElem
  · simp
  · intro i h1 h2
    simp [nbrOf, lenOf, h1]

omit [LinearOrder P] in
theorem nbrOf_of_getElem? {row : List (Ent P)} {j : Nat} {e : Ent P} (h : row[j]? = some e) :
    nbrOf row j = e.1 := by
  simp [nbrOf, h]

omit [LinearOrder P] in
theorem lenOf_of_getElem? {dflt : P} {row : List (Ent P)} {j : Nat} {e : Ent P} (h : row[j]? = some e) :
    lenOf dflt row j = e.2 := by
  simp [lenOf, h]

/-- the rule for visiting order = storage order, by position -/
theorem rule_range {n : Nat} {R : Nat → Prop} (h : Rule eps dist nbr len (List.range n) R) (j : Nat)
    (hj : j < n) :
    (R j ↔ ¬ ∃ l, l < j ∧ R l ∧ eps < len l ∧ dist (nbr j) (nbr l) < len j) := by
  obtain ⟨k, rfl⟩ := Nat.exists_eq_add_of_lt hj
  obtain ⟨post, hp⟩ : ∃ post, List.range (j + k + 1) = List.range j ++ j :: post :=
    ⟨_, by rw [Nat.add_assoc, List.range_add, List.range_succ_eq_map, List.map_cons]; rfl⟩
  rw [h _ _ _ hp]
  simp only [List.mem_range]

variable (eps dist draw) in
/-- the list form on a stored row is the `argsort` form visiting the positions in storage order -/
theorem diversifyList_eq_csr_range (row : List (Ent P)) (hreal : ∀ e ∈ row.tail, 0 ≤ e.1) :
    (diversifyList eps dist draw row).2 = (List.range row.length).map
        (diversifyCsr eps dist draw (nbrOf row) (lenOf eps row) (List.range row.length)) ∧
    (diversifyList eps dist draw row).1 = ((List.range row.length).filter
        (diversifyCsr eps dist draw (nbrOf row) (lenOf eps row) (List.range row.length))).map
          (fun j => (nbrOf row j, lenOf eps row j)) := by
  rw [row_eq_map eps row, ← List.map_tail, List.forall_mem_map] at hreal
  have h := diversifyList_eq_csr eps dist draw (nbrOf row) (lenOf eps row) (List.range row.length)
    List.nodup_range hreal
  rwa [← row_eq_map eps row] at h

end

/-! ## zeros and the `<= 0 → EPS` protection -/

theorem isZero_zero (zero : P) : isZero zero zero = true := by simp [isZero]

theorem isZero_of_pos {zero x : P} (h : zero < x) : isZero zero x = false := by
  simp [isZero, not_le.mpr h]

theorem mem_elimZeros (zero : P) (row : List (Ent P)) (e : Ent P) :
    e ∈ elimZeros zero row ↔ e ∈ row ∧ isZero zero e.2 = false := by
  simp only [elimZeros, List.mem_filter, Bool.not_eq_eq_eq_not, Bool.not_true]

theorem protect_pos (zero eps x : P) (hze : zero < eps) : zero < protect zero eps x := by
  unfold protect
  split
  · exact hze
  next h => exact not_le.mp h

theorem protect_gt {zero eps x : P} (h : eps < protect zero eps x) : protect zero eps x = x ∧ eps < x := by
  unfold protect at h ⊢
  split at h
  · exact absurd h (lt_irrefl _)
  next hx => exact ⟨if_neg hx, h⟩

/-! ## `degree_prune_internal` -/

theorem sortP_perm (l : List P) : (sortP l).Perm l := isort_perm _ _

theorem sortP_sorted (l : List P) : (sortP l).Pairwise (· ≤ ·) := by
  have := isort_pairwise (fun a b : P => decide (a ≤ b))
    (by intro a b c; simp only [decide_eq_true_eq]; exact le_trans)
    (by intro a b; simp only [decide_eq_true_eq]; exact le_total a b) l
  simpa [sortP] using this

theorem sorted_count (s : List P) (hs : s.Pairwise (· ≤ ·)) (i : Nat) (x : P) (hi : s[i]? = some x) :
    s.countP (fun y => decide (y < x)) ≤ i ∧ i < s.countP (fun y => decide (y ≤ x)) := by
  induction s generalizing i with
  | nil => cases hi
  | cons a s ih =>
    obtain ⟨ha, hs⟩ := List.pairwise_cons.mp hs
    cases i with
    | zero =>
      cases hi
      refine ⟨Nat.le_of_eq (List.countP_eq_zero.mpr fun y hy => ?_),
        List.countP_pos_iff.mpr ⟨x, List.mem_cons_self, decide_eq_true (le_refl x)⟩⟩
      rcases List.mem_cons.mp hy with rfl | hy
      · exact fun h => lt_irrefl _ (of_decide_eq_true h)
      · exact fun h => not_lt.mpr (ha y hy) (of_decide_eq_true h)
    | succ i =>
      rw [List.getElem?_cons_succ] at hi
      obtain ⟨h1, h2⟩ := ih hs i hi
      rw [List.countP_cons, List.countP_cons, if_pos (decide_eq_true (ha x (List.mem_of_getElem? hi)))]
      refine ⟨Nat.add_le_add h1 ?_, Nat.succ_lt_succ h2⟩
      split
      · exact Nat.le_refl 1
      · exact Nat.zero_le 1

theorem cutValue_mem {m : Nat} {lens : List P} {cut : P} (h : cutValue m lens = some cut) : cut ∈ lens := by
  unfold cutValue at h
  split at h
  · exact (sortP_perm lens).mem_iff.mp (List.mem_of_getLast? h)
  · exact (sortP_perm lens).mem_iff.mp (List.mem_of_getElem? h)

theorem exists_cutValue_eq_some (m : Nat) (lens : List P) (hm : m < lens.length) : ∃ cut, cutValue m lens = some cut := by
  have hl : m < (sortP lens).length := (sortP_perm lens).length_eq ▸ hm
  unfold cutValue
  split
  · exact ⟨_, List.getLast?_eq_some_getLast (List.ne_nil_of_length_pos (Nat.zero_lt_of_lt hl))⟩
  · exact ⟨_, List.getElem?_eq_getElem (Nat.lt_of_le_of_lt (Nat.sub_le m 1) hl)⟩

/-- fewer than `m` lengths are strictly below `np.sort(row_data)[m - 1]`, at least `m` are not above it -/
theorem cutValue_counts {m : Nat} (hm : 0 < m) {lens : List P} {cut : P} (h : cutValue m lens = some cut) :
    lens.countP (fun y => decide (y < cut)) < m ∧ m ≤ lens.countP (fun y => decide (y ≤ cut)) := by
  rw [cutValue, if_neg (Nat.ne_of_gt hm)] at h
  obtain ⟨h1, h2⟩ := sorted_count (sortP lens) (sortP_sorted lens) (m - 1) cut h
  rw [(sortP_perm lens).countP_eq] at h1 h2
  exact ⟨Nat.lt_of_le_of_lt h1 (Nat.sub_lt hm Nat.one_pos), Nat.le_of_pred_lt h2⟩

/-- the pruned row: a row of at most `m` entries only loses its zeros; a longer one has a cut value and
keeps, of its non-zero entries, those not longer than it -/
theorem prune_cases (zero : P) (m : Nat) (row : List (Ent P)) :
    (row.length ≤ m ∧ elimZeros zero (degreePrune zero m row) = elimZeros zero row) ∨
    (m < row.length ∧ ∃ cut, cutValue m (row.map (·.2)) = some cut ∧
      elimZeros zero (degreePrune zero m row) = (elimZeros zero row).filter (fun e => decide (¬ cut < e.2))) := by
  by_cases hm : m < row.length
  · obtain ⟨cut, hc⟩ := exists_cutValue_eq_some m (row.map (·.2)) (by rwa [List.length_map])
    refine Or.inr ⟨hm, cut, hc, ?_⟩
    -- zeroing and `eliminate_zeros()` together: an entry longer than the cut becomes a zero and goes,
    -- the others are not touched
    simp only [degreePrune, if_pos hm, hc, elimZeros]
    rw [List.filter_map, List.filter_filter, List.filter_congr (q := fun e => decide (¬ cut < e.2) &&
      !isZero zero e.2) fun e _ => ?_, List.map_congr_left (g := id) fun e he => ?_, List.map_id]
    · exact if_neg (of_decide_eq_true (Bool.and_eq_true_iff.mp (List.mem_filter.mp he).2).1)
    · by_cases h : cut < e.2
      · rw [Function.comp, if_pos h, isZero_zero, decide_eq_false fun hn => hn h]
        rfl
      · rw [Function.comp, if_neg h, decide_eq_true h, Bool.true_and]
  · exact Or.inl ⟨Nat.not_lt.mp hm, by rw [degreePrune, if_neg hm]⟩

theorem prune_sublist (zero : P) (m : Nat) (row : List (Ent P)) :
    (elimZeros zero (degreePrune zero m row)).Sublist row := by
  rcases prune_cases zero m row with ⟨_, h⟩ | ⟨_, cut, _, h⟩
  · rw [h]; exact List.filter_sublist
  · rw [h]; exact List.filter_sublist.trans List.filter_sublist

theorem prune_mem_of_le {zero : P} {m : Nat} {row : List (Ent P)} {e : Ent P} (he : e ∈ row)
    (hnz : isZero zero e.2 = false)
    (hle : ∀ cut, cutValue m (row.map (·.2)) = some cut → e.2 ≤ cut) :
    e ∈ elimZeros zero (degreePrune zero m row) := by
  have hez := (mem_elimZeros zero row e).mpr ⟨he, hnz⟩
  rcases prune_cases zero m row with ⟨_, h⟩ | ⟨_, cut, hc, h⟩
  · rwa [h]
  · rw [h]
    exact List.mem_filter.mpr ⟨hez, decide_eq_true (not_lt.mpr (hle cut hc))⟩

theorem prune_mem_of_min {zero : P} {m : Nat} {row : List (Ent P)} {e : Ent P} (he : e ∈ row)
    (hmin : ∀ e' ∈ row, e.2 ≤ e'.2) (hnz : isZero zero e.2 = false) :
    e ∈ elimZeros zero (degreePrune zero m row) := by
  refine prune_mem_of_le he hnz fun cut hc => ?_
  obtain ⟨e', he', h⟩ := List.mem_map.mp (cutValue_mem hc)
  exact h ▸ hmin e' he'

theorem exists_min_len {row : List (Ent P)} (h : row ≠ []) : ∃ e ∈ row, ∀ e' ∈ row, e.2 ≤ e'.2 := by
  induction row with
  | nil => exact absurd rfl h
  | cons a row ih =>
    by_cases hr : row = []
    · subst hr; exact ⟨a, List.mem_cons_self, by simp⟩
    · obtain ⟨e, he, hmin⟩ := ih hr
      rcases le_total a.2 e.2 with hae | hea
      · exact ⟨a, List.mem_cons_self,
          List.forall_mem_cons.mpr ⟨le_refl _, fun e' he' => le_trans hae (hmin e' he')⟩⟩
      · exact ⟨e, List.mem_cons_of_mem _ he, List.forall_mem_cons.mpr ⟨hea, hmin⟩⟩

/-- an entry that the pruning removes has at least `m` kept entries strictly shorter than itself
(`x` is explicit: its length stands under a binder in the conclusion, and left to unification the
match against a goal that names the length fails only after unfolding the pruned row) -/
theorem prune_removed_count {zero : P} {m : Nat} (hm : 0 < m) {row : List (Ent P)}
    (hnz : ∀ e ∈ row, isZero zero e.2 = false) (x : Ent P) (hx : x ∈ row)
    (hrem : x ∉ elimZeros zero (degreePrune zero m row)) :
    m ≤ ((elimZeros zero (degreePrune zero m row)).filter (fun e => decide (e.2 < x.2))).length := by
  have he : elimZeros zero row = row := List.filter_eq_self.mpr fun e he => by rw [hnz e he]; rfl
  rcases prune_cases zero m row with ⟨_, h⟩ | ⟨_, cut, hc, h⟩
  · rw [h, he] at hrem
    exact absurd hx hrem
  · rw [h, he] at hrem ⊢
    have hcut : cut < x.2 := Classical.not_not.mp fun hn => hrem (List.mem_filter.mpr ⟨hx, decide_eq_true hn⟩)
    -- the `≥ m` entries not longer than the cut are kept and shorter than `x`
    rw [List.filter_filter, ← List.countP_eq_length_filter]
    refine Nat.le_trans (cutValue_counts hm hc).2 ?_
    rw [List.countP_map]
    refine List.countP_mono_left fun e _ he => ?_
    have he : e.2 ≤ cut := of_decide_eq_true he
    exact Bool.and_eq_true_iff.mpr ⟨decide_eq_true (lt_of_le_of_lt he hcut), decide_eq_true (not_lt.mpr he)⟩

/-! ## single rows: forward pass, second pass, transposition, union, diagonal -/

section
variable {zero eps top : P} {dist : Int → Int → P} {argsort : List P → List Nat} {draw : Nat → Bool}

/-- an edge of the first CSR form is an entry the forward pass appended to `new_*` -/
theorem forwardRowD_mem_new {row : List (Ent P)} {e : Ent P} (he : e ∈ forwardRowD zero eps top dist draw row) :
    ∃ y ∈ (diversifyList eps dist draw row).1, y.1 ≠ -1 ∧ e.1 = y.1 ∧ e.2 = protect zero eps y.2 := by
  simp only [forwardRowD, diversifyRow, mem_elimZeros, List.mem_map, List.mem_append,
    List.mem_replicate] at he
  obtain ⟨⟨_, ⟨y, hy, rfl⟩, rfl⟩, hz⟩ := he
  by_cases h1 : y.1 = -1
  · rw [if_pos h1, isZero_zero] at hz
    cases hz
  · rw [if_neg h1]
    rcases hy with hy | ⟨_, rfl⟩
    · exact ⟨y, hy, h1, rfl, rfl⟩
    · exact absurd rfl h1

/-- an edge of the first CSR form comes from a stored entry of the row, with the protected length -/
theorem forwardRowD_mem {row : List (Ent P)} {e : Ent P} (he : e ∈ forwardRowD zero eps top dist draw row) :
    e.1 ≠ -1 ∧ ∃ d, (e.1, d) ∈ row ∧ e.2 = protect zero eps d := by
  obtain ⟨y, hy, h1, h2, h3⟩ := forwardRowD_mem_new he
  rw [h2]
  exact ⟨h1, y.2, (diversifyList_sublist eps dist draw row).subset hy, h3⟩

variable (zero eps top dist draw) in
theorem forwardRowD_keeps (hze : zero < eps) (pre post : List (Ent P)) (x : Ent P) (hx : 0 ≤ x.1)
    (hpre : ∀ e ∈ pre, 0 ≤ e.1 ∧ e.2 ≤ eps) :
    (x.1, protect zero eps x.2) ∈ forwardRowD zero eps top dist draw (pre ++ x :: post) := by
  simp only [forwardRowD, diversifyRow, mem_elimZeros, List.mem_map, List.mem_append]
  exact ⟨⟨_, ⟨x, Or.inl (diversifyList_keeps eps dist _ pre post x hx hpre), rfl⟩,
    if_neg fun h => absurd (h ▸ hx) (by decide)⟩, isZero_of_pos (protect_pos zero eps x.2 hze)⟩

theorem forwardRowD_pos (hze : zero < eps)
    {row : List (Ent P)} {e : Ent P} (he : e ∈ forwardRowD zero eps top dist draw row) : zero < e.2 := by
  obtain ⟨_, d, _, h⟩ := forwardRowD_mem he
  rw [h]; exact protect_pos zero eps d hze

theorem secondRowD_mem {row : List (Ent P)} {e : Ent P}
    (he : e ∈ secondRowD zero eps dist argsort draw row) : e ∈ row := by
  simp only [secondRowD, mem_elimZeros, List.mem_map] at he
  obtain ⟨⟨⟨x, j⟩, hx, rfl⟩, hz⟩ := he
  split at hz
  next hk =>
    rw [if_pos hk]
    exact List.mem_of_getElem? (List.mem_zipIdx_iff_getElem?.mp hx)
  · rw [isZero_zero] at hz
    cases hz

theorem secondRowD_of_keep {row : List (Ent P)} {j : Nat} {e : Ent P} (hj : row[j]? = some e)
    (hnz : isZero zero e.2 = false)
    (hk : diversifyCsr eps dist draw (nbrOf row) (lenOf eps row) (argsort (row.map (·.2))) j = true) :
    e ∈ secondRowD zero eps dist argsort draw row := by
  simp only [secondRowD, mem_elimZeros, List.mem_map]
  exact ⟨⟨(e, j), List.mem_zipIdx_iff_getElem?.mpr hj, if_pos hk⟩, hnz⟩

end

omit [LinearOrder P] in
theorem revRow_mem {n : Nat} {A : Graph P} {v : Nat} {e : Ent P} :
    e ∈ revRow n A v ↔ ∃ u, u < n ∧ e.1 = (u : Int) ∧ ((v : Int), e.2) ∈ A.row u := by
  unfold revRow
  simp only [List.mem_flatMap, List.mem_range, List.mem_map, List.mem_filter, decide_eq_true_eq]
  constructor
  · rintro ⟨u, hu, x, ⟨hx, hxv⟩, rfl⟩
    exact ⟨u, hu, rfl, by simpa [← hxv] using hx⟩
  · rintro ⟨u, hu, he1, hmem⟩
    exact ⟨u, hu, ((v : Int), e.2), ⟨hmem, rfl⟩, by simp [← he1]⟩

omit [LinearOrder P] in
theorem valAt_some {row : List (Ent P)} {v : Int} {w : P} (h : valAt row v = some w) : (v, w) ∈ row := by
  obtain ⟨x, hx, rfl⟩ := Option.map_eq_some_iff.mp h
  have hv := List.find?_some hx
  rw [← of_decide_eq_true hv]
  exact List.mem_of_find?_eq_some hx

omit [LinearOrder P] in
theorem valAt_of_mem {row : List (Ent P)} {v : Int} {w : P} (h : (v, w) ∈ row) :
    ∃ w0, valAt row v = some w0 ∧ (v, w0) ∈ row := by
  cases hf : valAt row v with
  | none =>
    unfold valAt at hf
    simp only [Option.map_eq_none_iff, List.find?_eq_none, decide_eq_true_eq] at hf
    exact absurd rfl (hf _ h)
  | some w0 => exact ⟨w0, rfl, valAt_some hf⟩

theorem le_maxP_left (a b : P) : a ≤ maxP a b := by
  unfold maxP; split
  next h => exact le_of_lt h
  · exact le_refl _

theorem unionRow_mem {zero : P} {n : Nat} {a b : List (Ent P)} {e : Ent P} (he : e ∈ unionRow zero n a b) :
    (∃ v : Nat, v < n ∧ e.1 = (v : Int)) ∧ isZero zero e.2 = false ∧
      ((∃ w, (e.1, w) ∈ a) ∨ (∃ w, (e.1, w) ∈ b)) := by
  obtain ⟨v, hv, h⟩ := List.mem_filterMap.mp he
  have hv := List.mem_range.mp hv
  split at h
  · cases h
  next hne =>
    dsimp only at h
    split at h
    · cases h
    next hz =>
      cases h
      refine ⟨⟨v, hv, rfl⟩, Bool.eq_false_iff.mpr hz, ?_⟩
      -- one of the two rows stores column `v`
      cases ha : valAt a (v : Int) with
      | some x => exact Or.inl ⟨x, valAt_some ha⟩
      | none =>
        cases hb : valAt b (v : Int) with
        | some y => exact Or.inr ⟨y, valAt_some hb⟩
        | none => exact (hne ha hb).elim

/-- the union keeps every positive entry of its left operand, with a length at least as large -/
theorem unionRow_keeps (zero : P) (n : Nat) (a b : List (Ent P)) (v : Nat) (w : P) (hv : v < n)
    (hpos : ∀ e ∈ a, zero < e.2) (h : ((v : Int), w) ∈ a) :
    ∃ w0 w', ((v : Int), w0) ∈ a ∧ w0 ≤ w' ∧ ((v : Int), w') ∈ unionRow zero n a b := by
  obtain ⟨w0, hw0, hmem⟩ := valAt_of_mem h
  have hp : zero < w0 := hpos _ hmem
  refine ⟨w0, maxP w0 ((valAt b (v : Int)).getD zero), hmem, le_maxP_left _ _, ?_⟩
  refine List.mem_filterMap.mpr ⟨v, List.mem_range.mpr hv, ?_⟩
  have hnz : isZero zero (maxP w0 ((valAt b (v : Int)).getD zero)) = false :=
    isZero_of_pos (lt_of_lt_of_le hp (le_maxP_left _ _))
  rw [hw0]
  simp [hnz]

omit [LinearOrder P] in
theorem mem_dropDiag (u : Nat) (row : List (Ent P)) (e : Ent P) :
    e ∈ dropDiag u row ↔ e ∈ row ∧ e.1 ≠ (u : Int) := by
  simp only [dropDiag, List.mem_filter, decide_eq_true_eq]

/-! ## the second pass keeps the nearest neighbour -/

/-- the hypotheses the theorems put on `argsort` (every position once, ascending values) -/
def ArgsortOk (argsort : List P → List Nat) : Prop :=
  (∀ lens, ∀ i ∈ argsort lens, i < lens.length) ∧ (∀ lens, (argsort lens).Nodup) ∧
  (∀ lens, (argsort lens).Pairwise (fun a b => ∀ p q, lens[a]? = some p → lens[b]? = some q → p ≤ q))

section
variable {zero eps top : P} {dist : Int → Int → P} {argsort : List P → List Nat}

variable (dist) in
/-- **the second pass in terms of entries**, every draw stream, every ascending `argsort`: an entry of
the row survives, or it is occluded by an entry that survives and is not longer (it was visited
earlier).  `diversifyCsr_false_occ` with the storage positions read back as entries. -/
theorem secondRowD_mem_or_occluded (hze : zero < eps) (hok : ArgsortOk argsort) (draw : Nat → Bool)
    {row : List (Ent P)} {e : Ent P} (he : e ∈ row) (hnz : isZero zero e.2 = false) :
    e ∈ secondRowD zero eps dist argsort draw row ∨
      ∃ e' ∈ secondRowD zero eps dist argsort draw row, eps < e'.2 ∧ e'.2 ≤ e.2 ∧ dist e.1 e'.1 < e.2 := by
  obtain ⟨hbound, hnd, hsorted⟩ := hok
  obtain ⟨j, hget?⟩ := List.getElem?_of_mem he
  cases hk : diversifyCsr eps dist draw (nbrOf row) (lenOf eps row) (argsort (row.map (·.2))) j with
  | true => exact Or.inl (secondRowD_of_keep hget? hnz hk)
  | false =>
    obtain ⟨opre, opost, hsplit⟩ := List.append_of_mem (diversifyCsr_false_mem hk)
    obtain ⟨l, hl, hkl, heps, hdist⟩ := diversifyCsr_false_occ (hnd _) hsplit hk
    have hllt : l < row.length := by
      have := hbound (row.map (·.2)) l (hsplit ▸ List.mem_append_left _ hl)
      rwa [List.length_map] at this
    have hgl? : row[l]? = some row[l] := List.getElem?_eq_getElem hllt
    -- `l` is visited before `j`, so its length is not larger
    have hs := hsorted (row.map (·.2))
    rw [hsplit] at hs
    have hle : row[l].2 ≤ e.2 := (List.pairwise_append.mp hs).2.2 l hl j List.mem_cons_self _ _
      (by rw [List.getElem?_map, hgl?]; rfl) (by rw [List.getElem?_map, hget?]; rfl)
    rw [lenOf_of_getElem? hgl?] at heps
    rw [nbrOf_of_getElem? hget?, nbrOf_of_getElem? hgl?, lenOf_of_getElem? hget?]
      at hdist
    exact Or.inr ⟨row[l], secondRowD_of_keep hgl?
      (isZero_of_pos (lt_trans hze heps)) hkl, heps, hle, hdist⟩

variable (top dist) in
/-- **both passes, every draw stream of either**: under the invariants of a real neighbour row (`hpre`:
only entries of length `≤ eps` before `x`; `hpost`: nothing shorter after it) and for every ascending
`argsort`, the entry `x` survives both passes — or the second pass removes it for an entry `y` that
the forward pass appended, stored after `x` at the same length and strictly closer to `x`'s point
than the row's own point is (`dist(data[x], data[y]) < len x`, the test the second kernel evaluates
with `x` as candidate), and then `y` survives.  Every other potential occluder is excluded by the
order of the visit: it would have to be visited before `x` with a length `> eps`. -/
theorem secondRowD_nearest (hze : zero < eps) (hok : ArgsortOk argsort) (draw1 draw2 : Nat → Bool)
    {pre post : List (Ent P)} (x : Ent P) (hx : 0 ≤ x.1) (hpre : ∀ e ∈ pre, 0 ≤ e.1 ∧ e.2 ≤ eps)
    (hpost : ∀ e ∈ post, x.2 ≤ e.2) :
    (x.1, protect zero eps x.2) ∈
        secondRowD zero eps dist argsort draw2 (forwardRowD zero eps top dist draw1 (pre ++ x :: post)) ∨
      ∃ y ∈ (diversifyList eps dist draw1 (pre ++ x :: post)).1, y ∈ post ∧ y ≠ x ∧ y.2 = x.2 ∧ eps < x.2 ∧
        dist x.1 y.1 < x.2 ∧ (y.1, protect zero eps x.2) ∈
          secondRowD zero eps dist argsort draw2 (forwardRowD zero eps top dist draw1 (pre ++ x :: post)) := by
  rcases secondRowD_mem_or_occluded dist hze hok draw2
      (forwardRowD_keeps zero eps top dist draw1 hze pre post x hx hpre)
      (isZero_of_pos (protect_pos zero eps x.2 hze)) with h | ⟨e', he', heps, hle, hdist⟩
  · exact Or.inl h
  · -- the occluder was appended by the forward pass as some `y`, longer than `eps`, not longer than `x`
    obtain ⟨y, hynew, _, hy1, hy2⟩ := forwardRowD_mem_new (secondRowD_mem he')
    obtain rfl : e' = (y.1, protect zero eps y.2) := Prod.ext hy1 hy2
    obtain ⟨hpy, hepsy⟩ := protect_gt heps
    obtain ⟨hpx, hepsx⟩ := protect_gt (lt_of_lt_of_le heps hle)
    rw [hpy, hpx] at hle
    rw [hpx] at hdist
    by_cases hyx : y = x
    · rw [hyx] at he'
      exact Or.inl he'
    · -- `y` is stored in the row: not before `x` (too long for that), so after it, hence tied
      rcases List.mem_append.mp ((diversifyList_sublist eps dist _ _).subset hynew) with hy | hy
      · exact absurd hepsy (not_lt.mpr (hpre y hy).2)
      · have hy := (List.mem_cons.mp hy).resolve_left hyx
        have hyx2 : y.2 = x.2 := le_antisymm hle (hpost y hy)
        rw [hyx2] at he'
        exact Or.inr ⟨y, hynew, hy, hyx, hyx2, hepsx, hdist, he'⟩

theorem pairwise_or {α : Type} {R : α → α → Prop} {l : List α} (h : l.Pairwise R) {a b : α}
    (ha : a ∈ l) (hb : b ∈ l) (hne : a ≠ b) : R a b ∨ R b a :=
  List.Pairwise.forall_of_forall_of_flip (R := fun a b => a ≠ b → R a b ∨ R b a)
    (fun _ _ h => absurd rfl h) (h.imp fun h _ => .inl h) (h.imp fun h _ => .inr h) ha hb hne

variable (top) in
/-- **second pass after a forward pass with probability 1** (any draw stream in the second pass):
under a symmetric table a tied later entry that is closer to `x`'s point would have been occluded
by `x` in the forward pass, so the second case of `secondRowD_nearest` does not occur. -/
theorem secondRowD_keeps_fwd1 (hze : zero < eps) (hsym : ∀ a b, dist a b = dist b a)
    (hok : ArgsortOk argsort) (draw2 : Nat → Bool) {pre post : List (Ent P)} (x : Ent P) (hx : 0 ≤ x.1)
    (hpre : ∀ e ∈ pre, 0 ≤ e.1 ∧ e.2 ≤ eps) (hpost : ∀ e ∈ post, x.2 ≤ e.2) :
    (x.1, protect zero eps x.2) ∈
      secondRowD zero eps dist argsort draw2
        (forwardRowD zero eps top dist (fun _ => true) (pre ++ x :: post)) := by
  rcases secondRowD_nearest top dist hze hok (fun _ => true) draw2 x hx hpre
    hpost with h | ⟨y, hynew, _, hyx, hyx2, hepsx, hdist, _⟩
  · exact h
  · exfalso
    have hxnew := diversifyList_keeps eps dist (fun _ => true) pre post x hx hpre
    have hpw := diversifyList_pairwise eps dist (pre ++ x :: post)
    rcases pairwise_or hpw hxnew hynew (fun h => hyx h.symm) with h | h
    · exact h ⟨hepsx, by rw [hsym y.1 x.1, hyx2]; exact hdist⟩
    · exact h ⟨by rw [hyx2]; exact hepsx, hdist⟩

end

/-! ## the stages of `_init_search_graph` as tables of rows -/

omit [LinearOrder P] in
theorem row_tab (n : Nat) (f : Nat → List (Ent P)) (u : Nat) :
    Graph.row ((Array.range n).map f) u = if u < n then f u else [] := by
  unfold Graph.row
  by_cases h : u < n
  · simp [Array.getD, h]
  · simp [Array.getD, h]

omit [LinearOrder P] in
/-- every stage of the pipeline is such a table of rows (`fwdRowsD` … `finalRowsD` unfold to it) -/
theorem mem_row_tab {n : Nat} {f : Nat → List (Ent P)} {u : Nat} {e : Ent P} :
    e ∈ Graph.row ((Array.range n).map f) u ↔ u < n ∧ e ∈ f u := by
  rw [row_tab]
  split <;> simp [*]

/-- point `u` lists `v` in the neighbour graph -/
def Lists (N : List (List (Ent P))) (u : Nat) (v : Int) : Prop := ∃ d, (v, d) ∈ N.getD u []

section
variable {zero eps top : P} {dist : Int → Int → P} {argsort : List P → List Nat} {N : List (List (Ent P))}
  {draw1 draw2 : Nat → Nat → Bool} {m : Nat}

theorem fwdRowsD_row (u : Nat) :
    (fwdRowsD zero eps top dist N draw1).row u =
      if u < N.length then forwardRowD zero eps top dist (draw1 u) (N.getD u []) else [] := row_tab _ _ _

theorem sndRowsD_row (u : Nat) :
    (sndRowsD zero eps top dist argsort N draw1 draw2).row u =
      if u < N.length then
        secondRowD zero eps dist argsort (draw2 u) ((fwdRowsD zero eps top dist N draw1).row u)
      else [] :=
  row_tab _ _ _

theorem uniRowsD_row (u : Nat) :
    (uniRowsD zero eps top dist argsort N draw1 draw2).row u =
      if u < N.length then
        dropDiag u (unionRow zero N.length ((sndRowsD zero eps top dist argsort N draw1 draw2).row u)
          (revRow N.length (sndRowsD zero eps top dist argsort N draw1 draw2) u))
      else [] := row_tab _ _ _

theorem finalRowsD_row (u : Nat) :
    (finalRowsD zero eps top dist argsort m N draw1 draw2).row u =
      if u < N.length then
        elimZeros zero (degreePrune zero m ((uniRowsD zero eps top dist argsort N draw1 draw2).row u))
      else [] := row_tab _ _ _

theorem sndRowsD_row_lt {u : Nat} (hu : u < N.length) :
    (sndRowsD zero eps top dist argsort N draw1 draw2).row u =
      secondRowD zero eps dist argsort (draw2 u) (forwardRowD zero eps top dist (draw1 u) (N.getD u [])) := by
  rw [sndRowsD_row, fwdRowsD_row, if_pos hu, if_pos hu]

theorem sndRowsD_lists {u : Nat} {e : Ent P}
    (he : e ∈ (sndRowsD zero eps top dist argsort N draw1 draw2).row u) : u < N.length ∧ Lists N u e.1 := by
  have hu := (mem_row_tab.mp he).1
  rw [sndRowsD_row_lt hu] at he
  obtain ⟨_, d, hd, _⟩ := forwardRowD_mem (secondRowD_mem he)
  exact ⟨hu, d, hd⟩

theorem sndRowsD_pos (hze : zero < eps)
    {u : Nat} {e : Ent P}
    (he : e ∈ (sndRowsD zero eps top dist argsort N draw1 draw2).row u) : zero < e.2 := by
  rw [sndRowsD_row_lt (mem_row_tab.mp he).1] at he
  exact forwardRowD_pos hze (secondRowD_mem he)

theorem searchGraphD_mem {u : Nat} {v : Int} :
    (u, v) ∈ searchGraphD zero eps top dist argsort m N draw1 draw2 ↔
      u < N.length ∧ ∃ w, (v, w) ∈ (finalRowsD zero eps top dist argsort m N draw1 draw2).row u := by
  unfold searchGraphD
  simp only [List.mem_flatMap, List.mem_range, List.mem_map, Prod.mk.injEq]
  constructor
  · rintro ⟨u', hu', e, he, rfl, rfl⟩
    exact ⟨hu', e.2, he⟩
  · rintro ⟨hu, w, hw⟩
    exact ⟨u, hu, (v, w), hw, rfl, rfl⟩

theorem finalRowsD_sub_uni {u : Nat} {e : Ent P}
    (he : e ∈ (finalRowsD zero eps top dist argsort m N draw1 draw2).row u) :
    e ∈ (uniRowsD zero eps top dist argsort N draw1 draw2).row u :=
  (prune_sublist zero m _).subset (mem_row_tab.mp he).2

theorem mem_uniRowsD_row {u : Nat} {e : Ent P} :
    e ∈ (uniRowsD zero eps top dist argsort N draw1 draw2).row u ↔
      u < N.length ∧ e.1 ≠ (u : Int) ∧
        e ∈ unionRow zero N.length ((sndRowsD zero eps top dist argsort N draw1 draw2).row u)
          (revRow N.length (sndRowsD zero eps top dist argsort N draw1 draw2) u) :=
  mem_row_tab.trans (and_congr_right fun _ => (mem_dropDiag _ _ _).trans and_comm)

theorem uniRowsD_nonzero {u : Nat} {e : Ent P}
    (he : e ∈ (uniRowsD zero eps top dist argsort N draw1 draw2).row u) : isZero zero e.2 = false :=
  (unionRow_mem (mem_uniRowsD_row.mp he).2.2).2.1

theorem uniRowsD_spec {u : Nat} {e : Ent P} (he : e ∈ (uniRowsD zero eps top dist argsort N draw1 draw2).row u) :
    u < N.length ∧ e.1 ≠ (u : Int) ∧ ∃ v : Nat, v < N.length ∧ e.1 = (v : Int) ∧
      (Lists N u e.1 ∨ Lists N v (u : Int)) := by
  obtain ⟨hu, hne, hmem⟩ := mem_uniRowsD_row.mp he
  obtain ⟨⟨v, hv, hev⟩, _, hor⟩ := unionRow_mem hmem
  refine ⟨hu, hne, v, hv, hev, ?_⟩
  rcases hor with ⟨w, hw⟩ | ⟨w, hw⟩
  · exact Or.inl (sndRowsD_lists hw).2
  · obtain ⟨u', hu', h1, h2⟩ := revRow_mem.mp hw
    obtain rfl : u' = v := Int.ofNat_inj.mp (h1.symm.trans hev)
    exact Or.inr (sndRowsD_lists h2).2

/-- an edge of the search graph joins two different points of which one lists the other -/
theorem searchGraphD_edge {u : Nat} {v : Int}
    (h : (u, v) ∈ searchGraphD zero eps top dist argsort m N draw1 draw2) :
    u < N.length ∧ v ≠ (u : Int) ∧ ∃ v' : Nat, v' < N.length ∧ v = (v' : Int) ∧
      (Lists N u v ∨ Lists N v' (u : Int)) := by
  obtain ⟨_, w, hw⟩ := searchGraphD_mem.mp h
  exact uniRowsD_spec (finalRowsD_sub_uni hw)

/-! ## from the second pass to the final graph (no generator involved) -/

/-- symmetrisation, diagonal removal, degree pruning and binarisation of an entry `(v, w)`, `v ≠ u`,
that row `u` holds after the second pass: it stays in the candidate row with some length `w'`, the
final row holds a shortest entry of the candidate row, and `(u, v)` itself is an edge unless at
least `m` kept edges are strictly shorter than `w'` -/
theorem nearest_of_snd (hze : zero < eps) (hm : 0 < m) {u v : Nat} {w : P} (hu : u < N.length)
    (hv : v < N.length) (hne : v ≠ u)
    (hsnd : ((v : Int), w) ∈ (sndRowsD zero eps top dist argsort N draw1 draw2).row u) :
    ∃ w', ((v : Int), w') ∈ (uniRowsD zero eps top dist argsort N draw1 draw2).row u ∧
      (∃ e ∈ (finalRowsD zero eps top dist argsort m N draw1 draw2).row u,
          ∀ e' ∈ (uniRowsD zero eps top dist argsort N draw1 draw2).row u, e.2 ≤ e'.2) ∧
      ((u, (v : Int)) ∈ searchGraphD zero eps top dist argsort m N draw1 draw2 ∨
        m ≤ (((finalRowsD zero eps top dist argsort m N draw1 draw2).row u).filter
          (fun e => decide (e.2 < w'))).length) := by
  obtain ⟨w0, w', _, _, hw'⟩ := unionRow_keeps zero N.length _
    (revRow N.length (sndRowsD zero eps top dist argsort N draw1 draw2) u) v _ hv
    (fun e he => sndRowsD_pos hze he) hsnd
  have huni : ((v : Int), w') ∈ (uniRowsD zero eps top dist argsort N draw1 draw2).row u :=
    mem_uniRowsD_row.mpr ⟨hu, fun h => hne (Int.ofNat_inj.mp h), hw'⟩
  rw [finalRowsD_row, if_pos hu]
  refine ⟨w', huni, ?_, ?_⟩
  · obtain ⟨e, he, hmin⟩ := exists_min_len (List.ne_nil_of_mem huni)
    exact ⟨e, prune_mem_of_min he hmin (uniRowsD_nonzero he), hmin⟩
  · -- if `(u, v)` is no edge, the pruning removed `(v, w')`
    refine Classical.or_iff_not_imp_left.mpr fun hnot => ?_
    refine prune_removed_count hm (fun _ he => uniRowsD_nonzero he) ((v : Int), w') huni fun hk => ?_
    exact hnot (searchGraphD_mem.mpr ⟨hu, w', by rw [finalRowsD_row, if_pos hu]; exact hk⟩)

end

/-! ## the instances for `diversify_prob = 1`

`forwardRow`, `secondRow`, `fwdRows` … `searchGraph` are the `…D` functions at the draw streams that always
say "prune"; each theorem here is its `…D` namesake above at those streams. -/

theorem forwardRow_mem_new (zero eps top : P) (dist : Int → Int → P) (row : List (Ent P)) (e : Ent P)
    (he : e ∈ forwardRow zero eps top dist row) :
    ∃ y ∈ (diversifyList eps dist (fun _ => true) row).1, e.1 = y.1 ∧ e.2 = protect zero eps y.2 := by
  obtain ⟨y, hy, _, h⟩ := forwardRowD_mem_new he
  exact ⟨y, hy, h⟩

theorem forwardRow_mem (zero eps top : P) (dist : Int → Int → P) (row : List (Ent P)) (e : Ent P)
    (he : e ∈ forwardRow zero eps top dist row) :
    e.1 ≠ -1 ∧ ∃ d, (e.1, d) ∈ row ∧ e.2 = protect zero eps d :=
  forwardRowD_mem he

theorem forwardRow_keeps (zero eps top : P) (hze : zero < eps) (dist : Int → Int → P)
    (pre post : List (Ent P)) (x : Ent P) (hx : 0 ≤ x.1) (hpre : ∀ e ∈ pre, 0 ≤ e.1 ∧ e.2 ≤ eps) :
    (x.1, protect zero eps x.2) ∈ forwardRow zero eps top dist (pre ++ x :: post) :=
  forwardRowD_keeps zero eps top dist _ hze pre post x hx hpre

theorem forwardRow_pos (zero eps top : P) (hze : zero < eps) (dist : Int → Int → P) (row : List (Ent P))
    (e : Ent P) (he : e ∈ forwardRow zero eps top dist row) : zero < e.2 :=
  forwardRowD_pos hze he

theorem secondRow_mem (zero eps : P) (dist : Int → Int → P) (argsort : List P → List Nat)
    (row : List (Ent P)) (e : Ent P) (he : e ∈ secondRow zero eps dist argsort row) : e ∈ row :=
  secondRowD_mem he

theorem secondRow_of_keep (zero eps : P) (dist : Int → Int → P) (argsort : List P → List Nat)
    (row : List (Ent P)) (j : Nat) (e : Ent P) (hj : row[j]? = some e) (hnz : isZero zero e.2 = false)
    (hk : diversifyCsr eps dist (fun _ => true) (nbrOf row) (lenOf eps row)
      (argsort (row.map (·.2))) j = true) :
    e ∈ secondRow zero eps dist argsort row :=
  secondRowD_of_keep hj hnz hk

/-- `secondRowD_keeps_fwd1` for `diversify_prob = 1` in both passes -/
theorem secondRow_keeps (zero eps top : P) (hze : zero < eps) (dist : Int → Int → P)
    (hsym : ∀ a b, dist a b = dist b a) (argsort : List P → List Nat)
    (hbound : ∀ lens, ∀ i ∈ argsort lens, i < lens.length) (hnd : ∀ lens, (argsort lens).Nodup)
    (hsorted : ∀ lens, (argsort lens).Pairwise
      (fun a b => ∀ p q, lens[a]? = some p → lens[b]? = some q → p ≤ q))
    (pre post : List (Ent P)) (x : Ent P) (hx : 0 ≤ x.1) (hpre : ∀ e ∈ pre, 0 ≤ e.1 ∧ e.2 ≤ eps)
    (hpost : ∀ e ∈ post, x.2 ≤ e.2) :
    (x.1, protect zero eps x.2) ∈
      secondRow zero eps dist argsort (forwardRow zero eps top dist (pre ++ x :: post)) :=
  secondRowD_keeps_fwd1 top hze hsym ⟨hbound, hnd, hsorted⟩ _ x hx hpre hpost

theorem fwdRows_row (zero eps top : P) (dist : Int → Int → P) (N : List (List (Ent P))) (u : Nat) :
    (fwdRows zero eps top dist N).row u =
      if u < N.length then forwardRow zero eps top dist (N.getD u []) else [] := row_tab _ _ _

theorem sndRows_row (zero eps top : P) (dist : Int → Int → P) (argsort : List P → List Nat)
    (N : List (List (Ent P))) (u : Nat) :
    (sndRows zero eps top dist argsort N).row u =
      if u < N.length then secondRow zero eps dist argsort ((fwdRows zero eps top dist N).row u) else [] :=
  row_tab _ _ _

theorem uniRows_row (zero eps top : P) (dist : Int → Int → P) (argsort : List P → List Nat)
    (N : List (List (Ent P))) (u : Nat) :
    (uniRows zero eps top dist argsort N).row u =
      if u < N.length then
        dropDiag u (unionRow zero N.length ((sndRows zero eps top dist argsort N).row u)
          (revRow N.length (sndRows zero eps top dist argsort N) u))
      else [] := row_tab _ _ _

theorem finalRows_row (zero eps top : P) (dist : Int → Int → P) (argsort : List P → List Nat) (m : Nat)
    (N : List (List (Ent P))) (u : Nat) :
    (finalRows zero eps top dist argsort m N).row u =
      if u < N.length then
        elimZeros zero (degreePrune zero m ((uniRows zero eps top dist argsort N).row u))
      else [] := row_tab _ _ _

theorem sndRows_lists (zero eps top : P) (dist : Int → Int → P) (argsort : List P → List Nat)
    (N : List (List (Ent P))) (u : Nat) (e : Ent P)
    (he : e ∈ (sndRows zero eps top dist argsort N).row u) : u < N.length ∧ Lists N u e.1 :=
  sndRowsD_lists he

theorem sndRows_pos (zero eps top : P) (hze : zero < eps) (dist : Int → Int → P)
    (argsort : List P → List Nat) (N : List (List (Ent P))) (u : Nat) (e : Ent P)
    (he : e ∈ (sndRows zero eps top dist argsort N).row u) : zero < e.2 :=
  sndRowsD_pos hze he

theorem searchGraph_mem (zero eps top : P) (dist : Int → Int → P) (argsort : List P → List Nat) (m : Nat)
    (N : List (List (Ent P))) (u : Nat) (v : Int) :
    (u, v) ∈ searchGraph zero eps top dist argsort m N ↔
      u < N.length ∧ ∃ w, (v, w) ∈ (finalRows zero eps top dist argsort m N).row u :=
  searchGraphD_mem

theorem finalRows_sub_uni (zero eps top : P) (dist : Int → Int → P) (argsort : List P → List Nat) (m : Nat)
    (N : List (List (Ent P))) (u : Nat) (e : Ent P)
    (he : e ∈ (finalRows zero eps top dist argsort m N).row u) :
    e ∈ (uniRows zero eps top dist argsort N).row u :=
  finalRowsD_sub_uni he

theorem uniRows_spec (zero eps top : P) (dist : Int → Int → P) (argsort : List P → List Nat)
    (N : List (List (Ent P))) (u : Nat) (e : Ent P)
    (he : e ∈ (uniRows zero eps top dist argsort N).row u) :
    u < N.length ∧ e.1 ≠ (u : Int) ∧ ∃ v : Nat, v < N.length ∧ e.1 = (v : Int) ∧
      (Lists N u e.1 ∨ Lists N v (u : Int)) :=
  uniRowsD_spec he

/-! ## the hypotheses on `argsort` are satisfiable -/

/-- an insertion-sort based argsort is an ascending arrangement of all positions, whenever the
comparison is total, transitive and refines the order of the values -/
theorem argsortBy_ok (le : P × Nat → P × Nat → Bool)
    (trans : ∀ a b c, le a b = true → le b c = true → le a c = true)
    (total : ∀ a b, le a b = true ∨ le b a = true)
    (hle : ∀ a b, le a b = true → a.1 ≤ b.1) :
    ArgsortOk (fun lens : List P => (isort le lens.zipIdx).map (·.2)) := by
  have hmem : ∀ lens : List P, ∀ a ∈ isort le lens.zipIdx, lens[a.2]? = some a.1 :=
    fun lens a ha => List.mem_zipIdx_iff_getElem?.mp ((mem_isort le _ a).mp ha)
  refine ⟨fun lens i hi => ?_, fun lens => ?_, fun lens => ?_⟩
  · obtain ⟨a, ha, rfl⟩ := List.mem_map.mp hi
    exact (List.getElem?_eq_some_iff.mp (hmem lens a ha)).1
  · rw [((isort_perm le _).map _).nodup_iff, List.zipIdx_map_snd]
    exact List.nodup_range'
  · rw [List.pairwise_map]
    refine (isort_pairwise le trans total lens.zipIdx).imp_of_mem fun ha hb hab p q hp hq => ?_
    rw [hmem lens _ ha] at hp; rw [hmem lens _ hb] at hq
    cases hp; cases hq
    exact hle _ _ hab

theorem stableArgsort_ok : ArgsortOk (stableArgsort (P := P)) :=
  argsortBy_ok (fun a b : P × Nat => decide (a.1 ≤ b.1))
    (by intro a b c; simp only [decide_eq_true_eq]; exact le_trans)
    (by intro a b; simp only [decide_eq_true_eq]; exact le_total _ _)
    (by intro a b; simp only [decide_eq_true_eq]; exact id)

theorem revStableArgsort_ok : ArgsortOk (revStableArgsort (P := P)) :=
  argsortBy_ok
    (fun a b : P × Nat => decide (a.1 < b.1 ∨ (a.1 ≤ b.1 ∧ b.2 ≤ a.2)))
    (by
      intro a b c; simp only [decide_eq_true_eq]
      rintro (h1 | ⟨h1, h1'⟩) (h2 | ⟨h2, h2'⟩)
      · exact Or.inl (lt_trans h1 h2)
      · exact Or.inl (lt_of_lt_of_le h1 h2)
      · exact Or.inl (lt_of_le_of_lt h1 h2)
      · exact Or.inr ⟨le_trans h1 h2, Nat.le_trans h2' h1'⟩)
    (by
      intro a b; simp only [decide_eq_true_eq]
      rcases lt_trichotomy a.1 b.1 with h | h | h
      · exact Or.inl (Or.inl h)
      · rcases Nat.le_total b.2 a.2 with h' | h'
        · exact Or.inl (Or.inr ⟨le_of_eq h, h'⟩)
        · exact Or.inr (Or.inr ⟨le_of_eq h.symm, h'⟩)
      · exact Or.inr (Or.inl h))
    (by
      intro a b; simp only [decide_eq_true_eq]
      rintro (h | ⟨h, _⟩)
      · exact le_of_lt h
      · exact h)

end Pynn.Div
