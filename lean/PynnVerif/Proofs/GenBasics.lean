import PynnVerif.Gen.Kernels

/-! # Loads, stores and cursors of the translated kernels

What every proof about a translated kernel needs of `rd` / `wr` (`Gen/Kernels.lean`), and the view
`At` of an integer cursor running through an array as a position in the list it holds, which the
proofs about the merge kernels and the search graph use (`Proofs/GenMerge.lean`,
`Proofs/GenSearchGraph.lean`; the other `Gen*` files index with casts of naturals and `rd_lt`). -/
namespace Pynn.GenK

/-! ### `rd` / `wr` at natural-number cursors -/

theorem rd_natCast {α : Type} (a : Array α) (k : Nat) : rd a (k : Int) = a[k]? := by
  simp [rd]

theorem rd_lt {α : Type} (a : Array α) (k : Nat) (h : k < a.size) : rd a (k : Int) = some a[k] := by
  rw [rd_natCast, Array.getElem?_eq_getElem h]

theorem rd_ge {α : Type} (a : Array α) (k : Nat) (h : a.size ≤ k) : rd a (k : Int) = none := by
  rw [rd_natCast, Array.getElem?_eq_none h]

/-- the same at the literal `0 : Int` of the generated code, which is not syntactically `((0 : Nat) : Int)`
(likewise `wr_zero`) -/
theorem rd_zero {α : Type} (a : Array α) (h : 0 < a.size) : rd a (0 : Int) = some a[0] :=
  rd_lt a 0 h

theorem rd_empty {α : Type} (a : Array α) (h : a.size = 0) (i : Int) : rd a i = none := by
  unfold rd
  split
  · exact Array.getElem?_eq_none (h ▸ Nat.zero_le _)
  · rfl

theorem wr_lt {α : Type} (a : Array α) (k : Nat) (v : α) (h : k < a.size) :
    wr a (k : Int) v = some (a.setIfInBounds k v) := by
  simp [wr, h]

theorem wr_zero {α : Type} (a : Array α) (v : α) (h : 0 < a.size) :
    wr a (0 : Int) v = some (a.setIfInBounds 0 v) :=
  wr_lt a 0 v h

/-- `A.shape[1]` of an array with a row -/
theorem ncols_eq {α : Type} (a : Array (Array α)) (h : 0 < a.size) : ncols a = a[0].size := by
  simp [ncols, h]

theorem setIfInBounds_getElem_self {α : Type} (a : Array α) (j : Nat) (hj : j < a.size) :
    a.setIfInBounds j a[j] = a := by
  rw [Array.setIfInBounds, dif_pos hj, Array.set_getElem_self]

/-! ### the cursor view

A loop that walks an array with a cursor `i : Int` is, for the model, a recursion on the list of
what is still ahead.  `At l i rest` ties the two; a loop lemma quantifies over `rest` and takes
`At l i rest` as hypothesis, so that the range test is `At.lt` / `At.not_lt`, a load is `At.get`
and the recursive call is at `At.next` — no arithmetic on the cursor anywhere. -/

/-- the cursor `i` stands in the list `l` with `rest` still ahead of it -/
def At {β : Type} (l : List β) (i : Int) (rest : List β) : Prop := 0 ≤ i ∧ l.drop i.toNat = rest

section At
variable {β γ : Type} {l t : List β} {i : Int} {x y : β}

theorem At.zero (l : List β) : At l 0 l := ⟨Int.le_refl 0, rfl⟩

theorem At.length_le {rest : List β} (h : At l i rest) : rest.length ≤ l.length := by
  rw [← h.2, List.length_drop]; exact Nat.sub_le _ _

theorem At.not_lt (h : At l i []) : ¬ i < (l.length : Int) := fun c =>
  Nat.not_lt.2 (List.drop_eq_nil_iff.1 h.2) ((Int.toNat_lt h.1).2 c)

theorem At.lt (h : At l i (x :: t)) : i < (l.length : Int) :=
  (Int.toNat_lt h.1).1 (Nat.lt_of_not_le fun c => List.cons_ne_nil x t (h.2 ▸ List.drop_eq_nil_of_le c))

theorem At.next (h : At l i (x :: t)) : At l (i + 1) t := by
  refine ⟨Int.add_nonneg h.1 (by decide), ?_⟩
  rw [Int.toNat_add h.1 (by decide), ← List.drop_drop, h.2]
  rfl

/-- `i < len - 1`, the form of the range test in a loop that loads the next cell before it tests -/
theorem At.lt_pred (h : At l i (x :: y :: t)) : i < (l.length : Int) - 1 :=
  Int.lt_sub_right_of_add_lt h.next.lt

theorem At.not_lt_pred (h : At l i [x]) : ¬ i < (l.length : Int) - 1 := fun c =>
  h.next.not_lt (Int.add_lt_of_lt_sub_right c)

/-- the load at the cursor, from an array given as the image of the list -/
theorem At.get (h : At l i (x :: t)) (f : β → γ) : rd (l.map f).toArray i = some (f x) := by
  have e : l[i.toNat]? = some x := by
    rw [← Nat.add_zero i.toNat, ← List.getElem?_drop, h.2]
    rfl
  rw [rd, if_pos h.1, List.getElem?_toArray, List.getElem?_map, e]
  rfl

/-- the loads at the cursor of two parallel arrays, seen as the list of their pairs -/
theorem At.get_zip {a : Array β} {b : Array γ} (hs : a.size = b.size) {y : γ} {t : List (β × γ)}
    (h : At (a.toList.zip b.toList) i ((x, y) :: t)) : rd a i = some x ∧ rd b i = some y := by
  have hl : a.toList.length = b.toList.length := by simpa using hs
  have h1 := h.get (·.1)
  have h2 := h.get (·.2)
  rw [List.map_fst_zip (Nat.le_of_eq hl)] at h1
  rw [List.map_snd_zip (Nat.le_of_eq hl.symm)] at h2
  exact ⟨h1, h2⟩

/-- Induction for a loop that walks one list with its cursor: a claim `P fuel i rest` about the loop
entered at `i` with `rest` ahead holds with more fuel than `rest.length` passes and the `m` that the
callees of one pass have to exceed (the convention of `range_loop`) once one pass carries it from the
tail back and it holds at the exit. -/
theorem At.loop {m : Nat} {P : Nat → Int → List β → Prop}
    (step : ∀ fuel i x t, At l i (x :: t) → m < fuel → P fuel (i + 1) t → P (fuel + 1) i (x :: t))
    (stop : ∀ fuel i, At l i [] → P (fuel + 1) i []) :
    ∀ fuel i rest, At l i rest → rest.length + m < fuel → P fuel i rest := by
  intro fuel
  induction fuel with
  | zero => intro i rest _ hf; exact absurd hf (Nat.not_lt_zero _)
  | succ fuel ih =>
    intro i rest h hf
    rcases rest with _ | ⟨x, t⟩
    · exact stop fuel i h
    · rw [List.length_cons, Nat.succ_add] at hf
      have hf' : t.length + m < fuel := Nat.lt_of_succ_lt_succ hf
      exact step fuel i x t h (Nat.lt_of_le_of_lt (Nat.le_add_left m _) hf') (ih _ t h.next hf')

end At

end Pynn.GenK
