import Lean.Meta.Tactic.Simp.RegisterCommand

/-- One iteration of a translated `for i in range(n)` loop at a cursor in range: the range test,
the loads at the cursor, the specification folds moved on by one element.  Its members:
`cursor_lt`, `cursor_succ` (`Proofs/RangeLoop.lean`) and what `Proofs/GenMetrics.lean` tags (its load
lemma `rd_lt`, its fold-step lemmas, the `Option` bind equations).  Only `Proofs/GenMetrics.lean` calls the set; the
proofs about the other translated kernels list the lemmas they use. -/
register_simp_attr loop_simp
