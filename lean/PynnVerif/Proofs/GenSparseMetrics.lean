import PynnVerif.Gen.SparseMetricKernels
import PynnVerif.Proofs.GenMerge
import PynnVerif.Proofs.GenLoop

/-! # The translated sparse metric kernels (wrappers over the merges) refine the model

`Gen/SparseMetricKernels.lean` (namespace `Pynn.GenSM`) is regenerated from the source text of
`pynndescent/sparse.py` by `harness/translate_sparsemetrics.py`; its kernels CALL the translated
`sparse_sum` of `Gen/Kernels.lean`.  Here: on the arrays of any two model rows (no sortedness) and
with fuel `≥ n1 + n2 + 1` each translated kernel is `some` (no out-of-bounds access in the
callee or in its own loop, enough fuel) of what the model of `Model/Sparse.lean` computes on the
rows — over every carrier with `0`, decidable `=` / `<`, `+`, `-·`, `*` (no arithmetic law). -/
namespace Pynn.GenSparseMetricProofs
open Pynn.Sparse Pynn.GenK Pynn.GenSM Pynn.GenMerge

theorem negArr_valArr {α : Type} [Neg α] (b : SVec α) : negArr (valArr b) = valArr (negate b) := by
  simp [valArr, vals, negArr, negate]

theorem indArr_negate {α : Type} [Neg α] (b : SVec α) : indArr (negate b) = indArr b := by
  simp [indArr, inds, negate]

section Kernels
variable {α : Type} [Zero α] [DecidableEq α] [Add α] [Neg α]

/-- the translated `sparse_diff` is `sparse_sum` on the negated second data array -/
theorem sparse_diff_model (a b : SVec α) (fuel : Nat) (hf : a.length + b.length + 1 ≤ fuel) :
    GenSM.sparse_diff fuel (indArr a) (valArr a) (indArr b) (valArr b) =
      some (indArr (sparseDiff a b), valArr (sparseDiff a b)) := by
  rw [GenSM.sparse_diff, ← indArr_negate b, negArr_valArr,
    sparse_sum_model a (negate b) fuel (by rwa [negate, List.length_map])]
  rfl

/-- The loop of a metric kernel over the values of `sparse_diff`'s result: a translated
`for i in range(len(x)): r = g r x[i]`, whatever its name: `loop` is any function with that loop's defining
equation.  It asks for the whole equation (range test, load, pass and exit in one), because that is the generated text
of a loop whose body loads `x[i]` once: such a loop is an instance by `rfl` (`GenMetrics.zip_loop`, for two arrays,
takes the loads as hypotheses instead). -/
theorem fold_diff {ρ : Type} (a b : SVec α) (g : α → α → α)
    (loop : Nat → α → Int → Option (LoopOut (α × Int) ρ))
    (hloop : ∀ fuel r i, loop (fuel + 1) r i =
      if i < ((valArr (sparseDiff a b)).size : Int) then
        (rd (valArr (sparseDiff a b)) i).bind fun v => loop fuel (g r v) (i + 1)
      else some (.next (r, i)))
    (fuel : Nat) (hf : a.length + b.length + 1 ≤ fuel) :
    loop fuel 0 0 = some (.next ((sparseDiff a b).foldl (fun r p => g r p.2) 0,
      ((valArr (sparseDiff a b)).size : Int))) := by
  have hd := valArr_size (sparseDiff a b)
  obtain ⟨_, rfl, h⟩ := for_fold loop (fun s j => (s, j)) (sparseDiff a b) _ hd.symm (fun r p => g r p.2)
    Eq 0 (fun fuel s j hj => by rw [hloop, if_neg hj])
    (fun fuel s m j hj hs _ => ⟨_, rfl, by
      rw [← hs, hloop, if_pos (Int.ofNat_lt.2 (hd ▸ hj)), rd_lt _ j (hd ▸ hj), Option.bind_some]
      simp only [valArr, vals, List.getElem_toArray, List.getElem_map]⟩)
    fuel 0 0 rfl (hd ▸ Nat.lt_of_le_of_lt (length_sparseDiff_le a b) hf)
  exact h

section
variable [Mul α]

omit [Zero α] [DecidableEq α] [Neg α] in
/-- not `rfl`: the source reads `aux_data[i] * aux_data[i]`, two loads (two binds) where `fold_diff` asks for one -/
theorem sqeuclidean_step (x : Array α) (stop : Int) (fuel : Nat) (r : α) (i : Int) :
    sparse_squared_euclidean.loop0 x stop (fuel + 1) r i =
      if i < stop then (rd x i).bind fun v => sparse_squared_euclidean.loop0 x stop fuel (r + v * v) (i + 1)
      else some (.next (r, i)) := by
  rw [sparse_squared_euclidean.loop0]; cases rd x i <;> rfl

omit [Zero α] [DecidableEq α] [Neg α] in
set_option smartUnfolding false in
/-- the loop of `sparse_euclidean` is the same term (see `SameLoop` in `Proofs/GenMetrics.lean`) -/
theorem euclidean_loop_eq : @sparse_euclidean.loop0 α _ _ = sparse_squared_euclidean.loop0 := rfl

theorem sparse_squared_euclidean_model (a b : SVec α) (fuel : Nat) (hf : a.length + b.length + 1 ≤ fuel) :
    GenSM.sparse_squared_euclidean fuel (indArr a) (valArr a) (indArr b) (valArr b)
      = some (sqEuclidean a b) := by
  simp only [GenSM.sparse_squared_euclidean, sparse_diff_model a b fuel hf,
    fold_diff a b (fun r v => r + v * v) _ (sqeuclidean_step _ _) fuel hf,
    Option.bind_eq_bind, Option.bind_some, Option.pure_def]
  rfl

theorem sparse_euclidean_model (sqrt : α → α) (a b : SVec α) (fuel : Nat)
    (hf : a.length + b.length + 1 ≤ fuel) :
    GenSM.sparse_euclidean sqrt fuel (indArr a) (valArr a) (indArr b) (valArr b)
      = some (sqrt (sqEuclidean a b)) := by
  simp only [GenSM.sparse_euclidean, sparse_diff_model a b fuel hf, euclidean_loop_eq,
    fold_diff a b (fun r v => r + v * v) _ (sqeuclidean_step _ _) fuel hf,
    Option.bind_eq_bind, Option.bind_some, Option.pure_def]
  rfl

end

variable [LT α] [DecidableLT α]

theorem sparse_manhattan_model (a b : SVec α) (fuel : Nat) (hf : a.length + b.length + 1 ≤ fuel) :
    GenSM.sparse_manhattan fuel (indArr a) (valArr a) (indArr b) (valArr b)
      = some (manhattan a b) := by
  simp only [GenSM.sparse_manhattan, sparse_diff_model a b fuel hf,
    fold_diff a b (fun r v => r + absV v) (sparse_manhattan.loop0 _ _) (fun _ _ _ => rfl) fuel hf,
    Option.bind_eq_bind, Option.bind_some, Option.pure_def]
  rfl

theorem sparse_chebyshev_model (a b : SVec α) (fuel : Nat) (hf : a.length + b.length + 1 ≤ fuel) :
    GenSM.sparse_chebyshev fuel (indArr a) (valArr a) (indArr b) (valArr b)
      = some (chebyshev a b) := by
  simp only [GenSM.sparse_chebyshev, sparse_diff_model a b fuel hf,
    fold_diff a b (fun r v => maxV r (absV v)) (sparse_chebyshev.loop0 _ _) (fun _ _ _ => rfl) fuel hf,
    Option.bind_eq_bind, Option.bind_some, Option.pure_def]
  rfl

end Kernels

section
set_option linter.unusedSectionVars false
variable {α : Type} [Zero α] [DecidableEq α] [Add α] [Neg α]

theorem toSVec_length' (ind : Array Int) (data : Array α) (h : ind.size = data.size) :
    (toSVec ind data).length = ind.size := toSVec_length ind data h

end

end Pynn.GenSparseMetricProofs
