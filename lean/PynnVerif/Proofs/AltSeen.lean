import PynnVerif.Proofs.Connect
import PynnVerif.Proofs.SeenLoop
import Mathlib.Data.List.Sublists
import Mathlib.Order.Basic

/-!
# The repaired alternating loop of `find_component_connection_edge` (cycle guard) over ANY search

* the loop keys reachable from the initial seeds form a finite set (`altUniv`): every later index array is
  `np.unique` of point numbers `< N`, i.e. a sublist of `range N`;
* hence `altLoopSeen` exits (`C20.alternating_loop_terminates`) whatever the restricted search returns — approximate,
  tie-breaking by heap position, anything deterministic;
* the exact-nearest-neighbour abstraction `altLoop nn` is the unguarded loop for the search
  `fun side q _ => q.map (nn side)` (`altLoop_eq_plainLoop_key`);
* best-edge bookkeeping: the two nested loops are one scan (`bestRound_eq_foldl`, `foldl_better_mem`,
  `foldl_better_le`).

The file also holds definitions that the statements of Props/C20 use: `altUniv`, `nnSearch` (and `bools`).
-/
namespace Pynn.Connect

theorem uniq_mem_sublists (N : Nat) (l : List Nat) (hb : ∀ x ∈ l, x < N) :
    uniq l ∈ (List.range N).sublists := by
  have hsub : uniq l ⊆ List.range N := fun x hx => List.mem_range.mpr (hb x ((mem_uniq x l).mp hx))
  have hs := sorted_uniq l
  exact List.mem_sublists.mpr (List.sublist_of_subperm_of_pairwise
    (List.subperm_of_subset (hs.imp Nat.ne_of_lt) hsub) hs List.pairwise_lt_range)

def bools : List Bool := [false, true]

theorem mem_bools (b : Bool) : b ∈ bools := by cases b <;> simp [bools]

/-- every key the loop can reach from the seeds `i0`, `i1` when the search returns point numbers `< N` -/
def altUniv (N : Nat) (i0 i1 : List Nat) : List AltKey :=
  (i0 :: (List.range N).sublists).flatMap fun a =>
  (i1 :: (List.range N).sublists).flatMap fun b =>
  bools.flatMap fun sd => bools.flatMap fun c0 => bools.flatMap fun c1 =>
  bools.flatMap fun t0 => bools.map fun t1 => ((⟨a, b, sd, c0, c1⟩ : AltState), t0, t1)

theorem mem_altUniv_iff (N : Nat) (i0 i1 : List Nat) (k : AltKey) : k ∈ altUniv N i0 i1 ↔
    (k.1.idx0 = i0 ∨ k.1.idx0 ∈ (List.range N).sublists) ∧
    (k.1.idx1 = i1 ∨ k.1.idx1 ∈ (List.range N).sublists) := by
  obtain ⟨⟨a, b, sd, c0, c1⟩, t0, t1⟩ := k
  simp only [altUniv, List.mem_flatMap, List.mem_map, List.mem_cons]
  constructor
  · rintro ⟨a', ha, b', hb, _, _, _, _, _, _, _, _, _, _, h⟩
    cases h
    exact ⟨ha, hb⟩
  · rintro ⟨ha, hb⟩
    exact ⟨a, ha, b, hb, sd, mem_bools _, c0, mem_bools _, c1, mem_bools _, t0, mem_bools _, t1, mem_bools _, rfl⟩

/-- a step keeps one index array and replaces the other by `np.unique` of what the search returns -/
theorem altKeyStep_idx (srch : Bool → List Nat → List Nat → List Nat) (k : AltKey) :
    ((altKeyStep srch k).1.idx0 = k.1.idx0 ∧ (altKeyStep srch k).1.idx1 = uniq (srch false k.1.idx0 k.1.idx1)) ∨
    ((altKeyStep srch k).1.idx0 = uniq (srch true k.1.idx1 k.1.idx0) ∧ (altKeyStep srch k).1.idx1 = k.1.idx1) := by
  show ((altStepG srch k.1).idx0 = _ ∧ (altStepG srch k.1).idx1 = _) ∨
    ((altStepG srch k.1).idx0 = _ ∧ (altStepG srch k.1).idx1 = _)
  unfold altStepG
  by_cases h : k.1.side = false
  · rw [if_pos h]; exact Or.inl ⟨rfl, rfl⟩
  · rw [if_neg h]; exact Or.inr ⟨rfl, rfl⟩

theorem altUniv_closed (srch : Bool → List Nat → List Nat → List Nat) (N : Nat)
    (hs : ∀ side q c, ∀ x ∈ srch side q c, x < N) (i0 i1 : List Nat) :
    ∀ k ∈ altUniv N i0 i1, altKeyStep srch k ∈ altUniv N i0 i1 := by
  intro k hk
  obtain ⟨h0, h1⟩ := (mem_altUniv_iff N i0 i1 k).mp hk
  rw [mem_altUniv_iff]
  rcases altKeyStep_idx srch k with ⟨e0, e1⟩ | ⟨e0, e1⟩
  · rw [e0, e1]; exact ⟨h0, Or.inr (uniq_mem_sublists N _ (hs _ _ _))⟩
  · rw [e0, e1]; exact ⟨Or.inr (uniq_mem_sublists N _ (hs _ _ _)), h1⟩

/-- one iteration keeps `indices[0]` in the first and `indices[1]` in the second component -/
theorem altKeyStep_in_components (srch : Bool → List Nat → List Nat → List Nat) (A B : Nat → Prop)
    (hcl0 : ∀ q c, (∀ x ∈ q, A x) → ∀ y ∈ srch false q c, B y)
    (hcl1 : ∀ q c, (∀ x ∈ q, B x) → ∀ y ∈ srch true q c, A y)
    (k : AltKey) (h : (∀ x ∈ k.1.idx0, A x) ∧ (∀ x ∈ k.1.idx1, B x)) :
    (∀ x ∈ (altKeyStep srch k).1.idx0, A x) ∧ (∀ x ∈ (altKeyStep srch k).1.idx1, B x) := by
  rcases altKeyStep_idx srch k with ⟨e0, e1⟩ | ⟨e0, e1⟩
  · rw [e0, e1]; exact ⟨h.1, fun x hx => hcl0 _ _ h.1 x ((mem_uniq x _).mp hx)⟩
  · rw [e0, e1]; exact ⟨fun x hx => hcl1 _ _ h.2 x ((mem_uniq x _).mp hx), h.2⟩

/-! ## the exact-nearest-neighbour abstraction is an instance -/

/-- the search of the abstraction: every query point is answered with its `nn`, the seeds are ignored -/
def nnSearch (nn : Bool → Nat → Nat) : Bool → List Nat → List Nat → List Nat := fun side q _ => q.map (nn side)

theorem altStepG_nnSearch (nn : Bool → Nat → Nat) (st : AltState) : altStepG (nnSearch nn) st = altStep nn st := by
  unfold altStepG altStep nnSearch
  split <;> rfl

theorem altLoop_eq_plainLoop_key (nn : Bool → Nat → Nat) (fuel : Nat) (st : AltState) (t0 t1 : Bool) :
    altLoop nn fuel st = (plainLoop (altKeyStep (nnSearch nn)) altKeyCont fuel (st, t0, t1)).map (·.1) := by
  rw [altLoop_eq_plainLoop]
  exact (plainLoop_map (cont := altKeyCont) Prod.fst (fun k => altStepG_nnSearch nn k.1) (fun _ => rfl) fuel
    (st, t0, t1)).symm

section Best
variable {P : Type}

/-- the rows of one round as one list of offers `(query point, result, distance)`, in scan order -/
def offers (rows : List (Int × List (Int × P))) : List (Int × Int × P) :=
  rows.flatMap fun r => r.2.map fun e => (r.1, e.1, e.2)

/-- `if d < best_dist: best_dist, best_edge = d, (q, v)` -/
def better [LT P] [DecidableLT P] (b : Best P) (o : Int × Int × P) : Best P :=
  if o.2.2 < b.dist then ⟨o.2.2, o.1, o.2.1⟩ else b

theorem mem_offers {rows : List (Int × List (Int × P))} {o : Int × Int × P} :
    o ∈ offers rows ↔ ∃ r ∈ rows, ∃ e ∈ r.2, o = (r.1, e.1, e.2) := by
  simp only [offers, List.mem_flatMap, List.mem_map, eq_comm]

theorem bestRow_eq_foldl [LT P] [DecidableLT P] (q : Int) (row : List (Int × P)) (b : Best P) :
    bestRow q row b = (row.map fun e => (q, e.1, e.2)).foldl better b := by
  induction row generalizing b with
  | nil => rfl
  | cons e rest ih => exact ih _

/-- the two nested loops are one scan over the offers of the round -/
theorem bestRound_eq_foldl [LT P] [DecidableLT P] (rows : List (Int × List (Int × P))) (b : Best P) :
    bestRound rows b = (offers rows).foldl better b := by
  induction rows generalizing b with
  | nil => rfl
  | cons r rest ih =>
    rw [offers, List.flatMap_cons, List.foldl_append, ← bestRow_eq_foldl]
    exact ih _

theorem foldl_better_mem [LT P] [DecidableLT P] (l : List (Int × Int × P)) (b : Best P) :
    l.foldl better b = b ∨ ∃ o ∈ l, l.foldl better b = ⟨o.2.2, o.1, o.2.1⟩ := by
  induction l generalizing b with
  | nil => exact Or.inl rfl
  | cons o rest ih =>
    rw [List.foldl_cons]
    rcases ih (better b o) with h | ⟨o', ho', h⟩
    · rw [h, better]
      split
      · exact Or.inr ⟨o, List.mem_cons_self, rfl⟩
      · exact Or.inl rfl
    · exact Or.inr ⟨o', List.mem_cons_of_mem _ ho', h⟩

theorem foldl_better_le [LinearOrder P] (l : List (Int × Int × P)) (b : Best P) :
    (l.foldl better b).dist ≤ b.dist ∧ ∀ o ∈ l, (l.foldl better b).dist ≤ o.2.2 := by
  induction l generalizing b with
  | nil => exact ⟨le_refl _, nofun⟩
  | cons o rest ih =>
    rw [List.foldl_cons]
    obtain ⟨h1, h2⟩ := ih (better b o)
    have hb : (better b o).dist ≤ b.dist ∧ (better b o).dist ≤ o.2.2 := by
      unfold better
      split
      · next h => exact ⟨le_of_lt h, le_refl _⟩
      · next h => exact ⟨le_refl _, not_lt.mp h⟩
    refine ⟨le_trans h1 hb.1, fun o' ho' => ?_⟩
    rcases List.mem_cons.mp ho' with rfl | ho'
    · exact le_trans h1 hb.2
    · exact h2 o' ho'

end Best

end Pynn.Connect
