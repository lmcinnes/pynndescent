import PynnVerif.Proofs.GenBasics
import PynnVerif.Proofs.HeapBasic

/-! # Rows of 2-D arrays and rows held in parallel arrays

What the translated kernels do to one row: `A[i, j] = v`, the views `A[i, :j]`, the three-statement
swap, and how `Array.zipWith` (the abstraction from parallel arrays to a row of entries) commutes with
stores and swaps. -/
namespace Pynn
open GenK

namespace GenK

theorem wr2_lt {α} (a : Array (Array α)) (i j : Nat) (v : α) (hi : i < a.size) (hj : j < a[i].size) :
    wr2 a (i : Int) (j : Int) v = some (a.setIfInBounds i (a[i].setIfInBounds j v)) := by
  simp only [wr2, rd_lt a i hi, wr_lt _ j v hj, wr_lt a i _ hi, Option.bind_eq_bind, Option.bind_some]

theorem take_le {α} (a : Array α) (n : Nat) (h : n ≤ a.size) : take a (n : Int) = some (a.extract 0 n) :=
  if_pos ⟨Int.natCast_nonneg n, h⟩

theorem wrPrefix_ok {α} (a : Array (Array α)) (i j : Nat) (pre : Array α) (hi : i < a.size) (hj : j ≤ a[i].size)
    (hp : pre.size = j) :
    wrPrefix a (i : Int) (j : Int) pre = some (a.setIfInBounds i (pre ++ a[i].extract j a[i].size)) := by
  simp [wrPrefix, rd, wr, hi, hj, hp]

/-- the same into the view `A[i, :j]` of a row `R` that has just been stored at `i` -/
theorem wrPrefix_set {α} (A : Array (Array α)) (i j : Nat) (R pre : Array α) (hi : i < A.size) (hj : j ≤ R.size)
    (hp : pre.size = j) :
    wrPrefix (A.setIfInBounds i R) (i : Int) (j : Int) pre
      = some (A.setIfInBounds i (pre ++ R.extract j R.size)) := by
  have hi' : i < (A.setIfInBounds i R).size := by rwa [Array.size_setIfInBounds]
  rw [wrPrefix_ok _ i j pre hi' (by rwa [Array.getElem_setIfInBounds_self]) hp, Array.getElem_setIfInBounds_self,
    Array.setIfInBounds_setIfInBounds]

theorem rd_set_self {α} (A : Array α) (i : Nat) (R : α) (hi : i < A.size) :
    rd (A.setIfInBounds i R) (i : Int) = some R := by
  rw [rd_natCast, Array.getElem?_setIfInBounds_self_of_lt hi]

/-- the swap as the kernels write it, two stores followed by any continuation `K` -/
theorem wr_swap {α β} (a : Array α) (i j : Nat) (hi : i < a.size) (hj : j < a.size) (K : Array α → Option β) :
    ((wr a (i : Int) a[j]).bind fun a1 => (wr a1 (j : Int) a[i]).bind K) = K (a.swap i j hi hj) := by
  simp [wr, hi, hj, swap_eq_set_set]

/-- the same swap in row `i` of a 2-D array, written with two `A[i, ·] = ·` stores, for slot `c` and the literal slot
`0 : Int` of `deheap_sort`.  `R` is the row after the swap; it comes with the equation `hR` so that a caller can keep it
a variable while it runs the rest of the loop body. -/
theorem wr2_swap {α β} (A : Array (Array α)) (i c : Nat) (hi : i < A.size) (h0 : 0 < A[i].size)
    (hc : c < A[i].size) {R : Array α} (hR : R = A[i].swap 0 c h0 hc) (K : Array (Array α) → Option β) :
    ((wr2 A (i : Int) (0 : Int) A[i][c]).bind fun A1 => (wr2 A1 (i : Int) (c : Int) A[i][0]).bind K)
      = K (A.setIfInBounds i R) := by
  rw [show wr2 A (i : Int) (0 : Int) A[i][c] = _ from wr2_lt A i 0 _ hi h0, Option.bind_some,
    wr2_lt _ i c _ (by simpa using hi) (by simpa using hc), Option.bind_some, hR]
  simp [swap_eq_set_set]

end GenK

theorem extract_append_rest {α} (a : Array α) (m : Nat) : a.extract 0 m ++ a.extract m a.size = a := by
  rw [Array.extract_append_extract, Nat.zero_min, Array.extract_eq_self_of_le (Nat.le_max_right ..)]

/-- what holds of every entry and of `v` holds of every entry after `v` is stored (a rectangular 2-D array stays
rectangular, a table of bytes stays a table of bytes) -/
theorem forall_getElem_set {α} {Q : α → Prop} {a : Array α} (ha : ∀ j (h : j < a.size), Q a[j]) (i : Nat) {v : α}
    (hv : Q v) : ∀ j (h : j < (a.setIfInBounds i v).size), Q (a.setIfInBounds i v)[j] := by
  intro j h
  rw [Array.getElem_setIfInBounds (by simpa using h)]
  split
  · exact hv
  · exact ha j (by simpa using h)

theorem size_append_extract {α} (a R : Array α) (m : Nat) (ha : a.size = m) (hm : m ≤ R.size) :
    (a ++ R.extract m R.size).size = R.size := by
  rw [Array.size_append, Array.size_extract, Nat.min_self, ha, Nat.add_sub_cancel' hm]

theorem zipWith_setIfInBounds {α β γ} (g : α → β → γ) (a : Array α) (b : Array β) (k : Nat) (x : α) (y : β) :
    Array.zipWith g (a.setIfInBounds k x) (b.setIfInBounds k y) = (Array.zipWith g a b).setIfInBounds k (g x y) := by
  apply Array.ext
  · simp
  · intro j h1 h2
    rw [Array.size_setIfInBounds] at h2
    have h := Nat.lt_min.mp (Array.size_zipWith ▸ h2)
    rw [Array.getElem_zipWith, Array.getElem_setIfInBounds h.1, Array.getElem_setIfInBounds h.2,
      Array.getElem_setIfInBounds h2]
    split
    · rfl
    · exact (Array.getElem_zipWith ..).symm

theorem zipWith_swap {α β γ} (g : α → β → γ) (a : Array α) (b : Array β) (i j : Nat) (hi : i < a.size)
    (hj : j < a.size) (hi' : i < b.size) (hj' : j < b.size) :
    Array.zipWith g (a.swap i j hi hj) (b.swap i j hi' hj')
      = (Array.zipWith g a b).swap i j (Array.size_zipWith ▸ Nat.lt_min.mpr ⟨hi, hi'⟩)
          (Array.size_zipWith ▸ Nat.lt_min.mpr ⟨hj, hj'⟩) := by
  simp only [← swap_eq_set_set, zipWith_setIfInBounds, Array.getElem_zipWith]

end Pynn
