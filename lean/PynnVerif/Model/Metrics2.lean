import PynnVerif.Model.Metrics
/-!
# The remaining dense kernels of `pynndescent/distances.py`, and the guarded (`Option`) kernels

Part 1 continues `Model/Metrics.lean` (same conventions: a vector is a `List α`, one fold per
independent accumulator, `v ** 2` is `v * v`, integer accumulators are counted in `Nat` and converted
with `ofNat`; float rounding and `fastmath` re-association are not modelled): `standardised_euclidean`,
`weighted_minkowski`, `mahalanobis`, `haversine`, `tsss`, `jensen_shannon_divergence`,
`symmetric_kl_divergence`, `wasserstein_1d`, `rankdata` (method `"average"`) / `spearmanr`,
`bit_hamming`, `bit_jaccard`.  `haversine` and `tsss` need `sin`, `cos`, `arcsin`, which `Arith` does
not have: they come through the separate class `Trig`.

Part 2 is the *guardedness under rounding* formulation of DESIGN C07: the class `RArith` assumes of
the carrier only sign / order facts that `ℝ` and IEEE arithmetic on finite non-NaN values share (and
that survive `fastmath` re-association and reciprocal-multiplication); the partial operations return
`Option` (`safeSqrt`, `safeDiv`, `safeLog`, `safeArccos`, `safeArcsin`), and the kernels that contain
a partial operation behind a guard or a clamp are rewritten over them (`…G`).  `Props/C07bGuarded.lean`
proves `kernelG x y ≠ none` on the domain for every `RArith` carrier.

Literals: `0.5` is `1 / ofNat 2`, `FLOAT32_EPS = 2⁻²³` is `1 / ofNat 8388608` (both quotients are exact
in binary floating point), `np.radians(10)` is `10 * (π / 180)` (numba's `x * (pi / 180)`).
-/
namespace Pynn.Metrics
open Arith

/-- the trigonometric operations of `haversine` / `tsss` -/
class Trig (α : Type) where
  /-- `np.sin` -/
  sin : α → α
  /-- `np.cos` -/
  cos : α → α
  /-- `np.arcsin` -/
  arcsin : α → α

open Trig

section Kernels2
variable {α : Type} [Arith α]

/-- `0.5` -/
def half : α := 1 / ofNat 2

/-- `FLOAT32_EPS = np.finfo(np.float32).eps = 2⁻²³` -/
def f32eps : α := 1 / ofNat 8388608

/-- `acc = 0.0; for i in range(dim): acc += f(x[i], y[i], s[i])` -/
def sumBy3 (f : α → α → α → α) (x y s : List α) : α :=
  ((x.zip y).zip s).foldl (fun r p => r + f p.1.1 p.1.2 p.2) 0

/-! ## standardised / weighted Minkowski family -/

/-- `standardised_euclidean(x, y, sigma)`: `result += ((x[i] - y[i]) ** 2) / sigma[i]`; `sqrt` -/
def standardisedEuclidean (x y sigma : List α) : α :=
  sqrt (sumBy3 (fun a b s => ((a - b) * (a - b)) / s) x y sigma)

/-- `weighted_minkowski(x, y, w, p)`: `result += w[i] * np.abs(x[i] - y[i]) ** p` (`**` binds tighter
than `*`); `result ** (1.0 / p)` -/
def weightedMinkowski (x y w : List α) (p : α) : α :=
  pow (sumBy3 (fun a b wi => wi * pow (abs (a - b)) p) x y w) (1 / p)

/-- `diff[i] = x[i] - y[i]` -/
def vecDiff (x y : List α) : List α := List.zipWith (fun a b => a - b) x y

/-- the double loop of `mahalanobis`:
`for i: tmp = 0.0; for j: tmp += vinv[i, j] * diff[j]; result += tmp * diff[i]`
(`vinv` as the list of its rows) -/
def quadForm (vinv : List (List α)) (diff : List α) : α :=
  (vinv.zip diff).foldl (fun r p => r + dotProd p.1 diff * p.2) 0

/-- `mahalanobis(x, y, vinv)` -/
def mahalanobis (x y : List α) (vinv : List (List α)) : α := sqrt (quadForm vinv (vecDiff x y))

/-! ## haversine -/

/-- the argument of the `np.sqrt` of `haversine`:
`sin_lat**2 + np.cos(x[0]) * np.cos(y[0]) * sin_long**2` -/
def haversineRadicand [Trig α] (x0 x1 y0 y1 : α) : α :=
  let sin_lat := sin (half * (x0 - y0))
  let sin_long := sin (half * (x1 - y1))
  sin_lat * sin_lat + cos x0 * cos y0 * (sin_long * sin_long)

/-- the body of `haversine` once `x = (x0, x1)`, `y = (y0, y1)` (latitude, longitude), with the
clamp `min(result, 1.0)` the repository now has -/
def haversineCore [Trig α] (x0 x1 y0 y1 : α) : α :=
  let result := sqrt (haversineRadicand x0 x1 y0 y1)
  ofNat 2 * arcsin (min result 1)

/-- `haversine(x, y)`: `none` is the `ValueError` for `x.shape[0] != 2` (the code does not look at
`y.shape`; a `y` of another length is outside the model: `none` as well) -/
def haversine [Trig α] (x y : List α) : Option α :=
  match x, y with
  | [x0, x1], [y0, y1] => some (haversineCore x0 x1 y0 y1)
  | _, _ => none

/-! ## tsss -/

/-- `np.radians(10)` -/
def radians10 : α := ofNat 10 * (pi / ofNat 180)

/-- `d_cos = min(max(d_cos, -1.0), 1.0)` -/
def clampCos (c : α) : α := min (max c (-1)) 1

/-- `tsss(x, y)` (no guard against zero vectors in the code: `d_cos /= norm_x * norm_y` raises
`ZeroDivisionError` there — recorded finding D7g; the cosine is clamped to `[-1, 1]`) -/
def tsss [Trig α] (x y : List α) : α :=
  let d_euc_squared := sumBy sqDiff x y
  let d_cos := dotProd x y
  let norm_x := sqrt (normSq x)
  let norm_y := sqrt (normSq y)
  let magnitude_difference := abs (norm_x - norm_y)
  let d_cos := d_cos / (norm_x * norm_y)
  let d_cos := clampCos d_cos
  let theta := arccos d_cos + radians10
  let sector := ((sqrt d_euc_squared + magnitude_difference) *
    (sqrt d_euc_squared + magnitude_difference)) * theta
  let triangle := norm_x * norm_y * sin theta / ofNat 2
  triangle * sector

/-! ## smoothed divergences -/

/-- `l1_norm_x += FLOAT32_EPS * dim; pdf_x = (x + FLOAT32_EPS) / l1_norm_x` (`dim = x.shape[0]` for
both arguments) -/
def smoothedPdf (x : List α) (dim : Nat) : List α :=
  let l1_norm_x := l1 x + f32eps * ofNat dim
  x.map (fun v => (v + f32eps) / l1_norm_x)

/-- one term of `jensen_shannon_divergence`: `m[i] = 0.5 * (pdf_x[i] + pdf_y[i])`,
`0.5 * (pdf_x[i] * np.log(pdf_x[i] / m[i]) + pdf_y[i] * np.log(pdf_y[i] / m[i]))` -/
def jsTerm (px py : α) : α :=
  let m := half * (px + py)
  half * (px * log (px / m) + py * log (py / m))

/-- `jensen_shannon_divergence(x, y)` -/
def jensenShannon (x y : List α) : α :=
  sumBy jsTerm (smoothedPdf x x.length) (smoothedPdf y x.length)

/-- one term of `symmetric_kl_divergence`:
`pdf_x[i] * np.log(pdf_x[i] / pdf_y[i]) + pdf_y[i] * np.log(pdf_y[i] / pdf_x[i])` -/
def sklTerm (px py : α) : α := px * log (px / py) + py * log (py / px)

/-- `symmetric_kl_divergence(x, y)` -/
def symmetricKL (x y : List α) : α :=
  sumBy sklTerm (smoothedPdf x x.length) (smoothedPdf y x.length)

/-! ## wasserstein_1d -/

/-- `for i in range(1, n): cdf[i] += cdf[i - 1]` from position 1 on, `prev = cdf[i - 1]` -/
def cumsumGo (prev : α) : List α → List α
  | [] => []
  | b :: t => (b + prev) :: cumsumGo (b + prev) t

/-- the in-place running sum of `wasserstein_1d` -/
def cumsum : List α → List α
  | [] => []
  | a :: t => a :: cumsumGo a t

/-- `wasserstein_1d(x, y, p)`: `x_cdf = x / x_sum`, running sums, `minkowski(x_cdf, y_cdf, p)` -/
def wasserstein1d (x y : List α) (p : α) : α :=
  let x_sum := l1 x
  let y_sum := l1 y
  minkowski (cumsum (x.map (fun v => v / x_sum))) (cumsum (y.map (fun v => v / y_sum))) p

/-! ## spearmanr -/

/-- the RESULT of `rankdata(a)` (method `"average"`) on NaN-free input, not its steps (argsort,
`obs`, `cumsum`, `count`): `count[dense]` is the number of entries `≤ a[i]`, `count[dense - 1]` the
number of entries `< a[i]`, and the rank is `0.5 * (count[dense] + count[dense - 1] + 1)`.  (The
unstable `quicksort` argsort permutes tied entries only, which changes neither count.) -/
def rankAverage (a : List α) : List α :=
  a.map (fun v => half *
    ofNat (a.countP (fun u => decide (u ≤ v)) + a.countP (fun u => decide (u < v)) + 1))

/-- `spearmanr(x, y) = correlation(rankdata(x), rankdata(y))` -/
def spearmanr (x y : List α) : α := correlation (rankAverage x) (rankAverage y)

/-! ## bit kernels (a byte is a `Nat < 256`) -/

/-- `bin(b).count('1')` over `f` binary digits -/
def popcntFuel : Nat → Nat → Nat
  | 0, _ => 0
  | f + 1, b => b % 2 + popcntFuel f (b / 2)

/-- the table `popcnt[b]`, `b < 256` -/
def popcnt (b : Nat) : Nat := popcntFuel 8 b

/-- `result += popcnt[x[i] ^ y[i]]` -/
def bitXorCount (x y : List Nat) : Nat := (x.zip y).foldl (fun r p => r + popcnt (p.1 ^^^ p.2)) 0
/-- `result += popcnt[x[i] & y[i]]` -/
def bitAndCount (x y : List Nat) : Nat := (x.zip y).foldl (fun r p => r + popcnt (p.1 &&& p.2)) 0
/-- `denom += popcnt[x[i] | y[i]]` -/
def bitOrCount (x y : List Nat) : Nat := (x.zip y).foldl (fun r p => r + popcnt (p.1 ||| p.2)) 0

/-- `bit_hamming(x, y)` (the float32 accumulator adds small integers: exact below 2²⁴) -/
def bitHamming (x y : List Nat) : α := ofNat (bitXorCount x y)

/-- `bit_jaccard`: `0.0` for `denom == 0.0` (both empty — the branch the repository now has),
otherwise `-np.log(result / denom)` (`+inf` in IEEE arithmetic for disjoint non-empty sets) -/
def bitJaccardOfCounts (result denom : α) : α :=
  if denom == 0 then 0 else -(log (result / denom))
def bitJaccard (x y : List Nat) : α :=
  bitJaccardOfCounts (ofNat (bitAndCount x y)) (ofNat (bitOrCount x y))

end Kernels2

/-! ## the `Float` instance of `Trig` (driver) -/

instance : Trig Float where
  sin := Float.sin
  cos := Float.cos
  arcsin := Float.asin

/-! # Part 2 — guardedness under rounding -/

/-- What the guardedness theorems assume of the arithmetic: sign and order facts only, each true in
`ℝ` AND of IEEE-754 arithmetic on finite non-NaN values whatever the rounding mode, and stable under
`fastmath` (re-association of sums, `a / b` computed as `a * (1 / b)`).  Deliberately absent:
`a ≤ b → a / b ≤ 1`, `a - a = 0`, `(a / b) * b = a`, `sqrt (a * a) = a`, Cauchy–Schwarz — everything
that needs exactness.  Overflow to `±inf` (then `inf - inf`) is outside the scope: the carrier is to
be read as the finite values. -/
class RArith (α : Type) extends Arith α, Trig α where
  le_refl : ∀ a : α, a ≤ a
  le_trans : ∀ {a b c : α}, a ≤ b → b ≤ c → a ≤ c
  /-- comparisons are total on the carrier (no NaN) -/
  lt_of_not_le : ∀ {a b : α}, ¬ a ≤ b → b < a
  le_of_lt : ∀ {a b : α}, a < b → a ≤ b
  /-- `d > 0` excludes `d == 0` -/
  pos_ne_zero : ∀ {a : α}, 0 < a → (a == 0) = false
  /-- `a ≥ 0` and not `a == 0` is `a > 0` -/
  pos_of_nonneg_of_ne : ∀ {a : α}, 0 ≤ a → (a == 0) = false → 0 < a
  zero_le_one : (0 : α) ≤ 1
  neg_one_le_zero : (-1 : α) ≤ 0
  pi_pos : (0 : α) < Arith.pi
  /-- a positive integer literal / dimension is a positive value -/
  ofNat_pos : ∀ {n : Nat}, 0 < n → (0 : α) < Arith.ofNat n
  add_nonneg : ∀ {a b : α}, 0 ≤ a → 0 ≤ b → 0 ≤ a + b
  mul_nonneg : ∀ {a b : α}, 0 ≤ a → 0 ≤ b → 0 ≤ a * b
  mul_self_nonneg : ∀ a : α, 0 ≤ a * a
  /-- the divisor is POSITIVE: in IEEE arithmetic `0/0` is NaN and `a / -0.0` is `-inf` -/
  div_nonneg : ∀ {a b : α}, 0 ≤ a → 0 < b → 0 ≤ a / b
  abs_nonneg : ∀ a : α, 0 ≤ Arith.abs a
  sqrt_nonneg : ∀ {a : α}, 0 ≤ a → 0 ≤ Arith.sqrt a
  /-- a correctly rounded `sqrt` of a positive value is positive (it cannot underflow) -/
  sqrt_pos : ∀ {a : α}, 0 < a → 0 < Arith.sqrt a
  le_max_left : ∀ a b : α, a ≤ Arith.max a b
  le_max_right : ∀ a b : α, b ≤ Arith.max a b
  min_le_left : ∀ a b : α, Arith.min a b ≤ a
  min_le_right : ∀ a b : α, Arith.min a b ≤ b
  le_min : ∀ {a b c : α}, c ≤ a → c ≤ b → c ≤ Arith.min a b

/-- the two facts that hold in IEEE arithmetic only when the result does not UNDERFLOW to zero
(`1e-30f * 1e-30f = 0`): needed exactly where the code guards the *factors* (`norm_x == 0`,
`l1_norm_x == 0`) and then divides by `sqrt` of their *product*. -/
class RArithNU (α : Type) extends RArith α where
  mul_pos : ∀ {a b : α}, 0 < a → 0 < b → 0 < a * b
  div_pos : ∀ {a b : α}, 0 < a → 0 < b → 0 < a / b

section Guarded
variable {α : Type} [RArith α]

/-- `np.sqrt`, defined for `a ≥ 0` -/
def safeSqrt (a : α) : Option α := if 0 ≤ a then some (sqrt a) else none
/-- `a / b`, defined for `b != 0` (numba's `error_model='python'` raises `ZeroDivisionError`) -/
def safeDiv (a b : α) : Option α := if b == 0 then none else some (a / b)
/-- `np.log`, defined for `a > 0` -/
def safeLog (a : α) : Option α := if 0 < a then some (log a) else none
/-- `np.arccos`, defined on `[-1, 1]` -/
def safeArccos (a : α) : Option α := if -1 ≤ a ∧ a ≤ 1 then some (arccos a) else none
/-- `np.arcsin`, defined on `[-1, 1]` -/
def safeArcsin (a : α) : Option α := if -1 ≤ a ∧ a ≤ 1 then some (arcsin a) else none

/-- `acc = 0.0; for i: acc += f(x[i], y[i])` where `f` contains a partial operation -/
def sumByG (f : α → α → Option α) (x y : List α) : Option α :=
  (x.zip y).foldlM (fun r p => (f p.1 p.2).map (fun t => r + t)) 0

/-- `hellinger` with the clamp `max(1 - r/s, 0.0)` -/
def hellingerG (x y : List α) : Option α := do
  let result ← sumByG (fun a b => safeSqrt (a * b)) x y
  let l1_norm_x := l1 x
  let l1_norm_y := l1 y
  if l1_norm_x == 0 && l1_norm_y == 0 then some 0
  else if l1_norm_x == 0 || l1_norm_y == 0 then some 1
  else do
    let s ← safeSqrt (l1_norm_x * l1_norm_y)
    let q ← safeDiv result s
    safeSqrt (max (1 - q) 0)

/-- the PRE-repair shape of `hellinger`: `np.sqrt(1 - result / np.sqrt(l1_norm_x * l1_norm_y))` -/
def hellingerUnclampedG (x y : List α) : Option α := do
  let result ← sumByG (fun a b => safeSqrt (a * b)) x y
  let l1_norm_x := l1 x
  let l1_norm_y := l1 y
  if l1_norm_x == 0 && l1_norm_y == 0 then some 0
  else if l1_norm_x == 0 || l1_norm_y == 0 then some 1
  else do
    let s ← safeSqrt (l1_norm_x * l1_norm_y)
    let q ← safeDiv result s
    safeSqrt (1 - q)

/-- `correct_alternative_hellinger(d) = sqrt(max(1.0 - pow(2.0, -d), 0.0))` -/
def correctAlternativeHellingerG (d : α) : Option α := safeSqrt (max (1 - pow (ofNat 2) (-d)) 0)

/-- `cosine` -/
def cosineG (x y : List α) : Option α :=
  let result := dotProd x y
  let norm_x := normSq x
  let norm_y := normSq y
  if norm_x == 0 && norm_y == 0 then some 0
  else if norm_x == 0 || norm_y == 0 then some 1
  else do
    let s ← safeSqrt (norm_x * norm_y)
    let q ← safeDiv result s
    some (1 - q)

/-- `true_angular` with the clamp `min(c, 1.0)` -/
def trueAngularG (x y : List α) : Option α :=
  let result := dotProd x y
  let norm_x := normSq x
  let norm_y := normSq y
  if norm_x == 0 && norm_y == 0 then some 0
  else if norm_x == 0 || norm_y == 0 then some f32max
  else if result ≤ 0 then some f32max
  else do
    let s ← safeSqrt (norm_x * norm_y)
    let q ← safeDiv result s
    let t ← safeArccos (min q 1)
    let r ← safeDiv t pi
    some (1 - r)

/-- `correlation`: the division is behind `dot_product == 0.0`, not behind a test of the norms -/
def correlationG (x y : List α) : Option α := do
  let n := ofNat x.length
  let mu_x ← safeDiv (l1 x) n
  let mu_y ← safeDiv (l1 y) n
  let norm_x := sum1 (fun v => (v - mu_x) * (v - mu_x)) x
  let norm_y := sum1 (fun v => (v - mu_y) * (v - mu_y)) y
  let dot_product := sumBy (fun a b => (a - mu_x) * (b - mu_y)) x y
  if norm_x == 0 && norm_y == 0 then some 0
  else if dot_product == 0 then some 1
  else do
    let s ← safeSqrt (norm_x * norm_y)
    let q ← safeDiv dot_product s
    some (1 - q)

/-- `tsss`: `arccos` behind `min(max(·, -1.0), 1.0)`; the division `d_cos /= norm_x * norm_y` has no
guard in the code -/
def tsssG (x y : List α) : Option α := do
  let d_euc_squared := sumBy sqDiff x y
  let d_cos := dotProd x y
  let norm_x ← safeSqrt (normSq x)
  let norm_y ← safeSqrt (normSq y)
  let magnitude_difference := abs (norm_x - norm_y)
  let d_cos ← safeDiv d_cos (norm_x * norm_y)
  let d_cos := clampCos d_cos
  let theta := (← safeArccos d_cos) + radians10
  let ed ← safeSqrt d_euc_squared
  let sector := ((ed + magnitude_difference) * (ed + magnitude_difference)) * theta
  let triangle ← safeDiv (norm_x * norm_y * sin theta) (ofNat 2)
  some (triangle * sector)

/-- `haversine` with the clamp `min(result, 1.0)` -/
def haversineG (x0 x1 y0 y1 : α) : Option α := do
  let result ← safeSqrt (haversineRadicand x0 x1 y0 y1)
  let a ← safeArcsin (min result 1)
  some (ofNat 2 * a)

/-- the PRE-repair shape of `haversine`: `2.0 * np.arcsin(result)` -/
def haversineUnclampedG (x0 x1 y0 y1 : α) : Option α := do
  let result ← safeSqrt (haversineRadicand x0 x1 y0 y1)
  let a ← safeArcsin result
  some (ofNat 2 * a)

/-- `canberra`: each division behind `denominator > 0` -/
def canberraG (x y : List α) : Option α :=
  (x.zip y).foldlM (fun r p =>
    let denominator := abs p.1 + abs p.2
    if 0 < denominator then (safeDiv (abs (p.1 - p.2)) denominator).map (fun t => r + t)
    else some r) 0

/-- `bray_curtis`: the division behind `denominator > 0.0` -/
def brayCurtisG (x y : List α) : Option α :=
  let numerator := sumBy (fun a b => abs (a - b)) x y
  let denominator := sumBy (fun a b => abs (a + b)) x y
  if 0 < denominator then safeDiv numerator denominator else some 0

/-- `bit_jaccard` over the two counts: the division behind `denom == 0.0`; the logarithm has no
guard (disjoint non-empty inputs evaluate `-log(0)`) -/
def bitJaccardOfCountsG (result denom : α) : Option α :=
  if denom == 0 then some 0 else do
    let q ← safeDiv result denom
    let l ← safeLog q
    some (-l)

/-- `bit_jaccard` up to the division (what the `denom == 0.0` branch protects) -/
def bitJaccardQuotientG (result denom : α) : Option α :=
  if denom == 0 then some 0 else safeDiv result denom

end Guarded

end Pynn.Metrics
