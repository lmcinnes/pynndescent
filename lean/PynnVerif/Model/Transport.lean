/-!
# C10 — certificate checker for the transport linear program (executable, over `Rat`)

`optimal_transport.network_simplex_core` (the pivoting network simplex, ≈900 lines of
threaded-tree surgery) is **not modelled**.  Instead every run of the real solver is
*certified*: the harness reads the primal flow `f` and the node potentials `u` (left
nodes) / `v` (right nodes) out of the solver's arrays, converts the doubles to exact
rationals and hands them to `certify`.  What acceptance means is proved in
`Proofs/Transport.lean` (`certOk_spec`, `weak_duality_gen`) and restated in `Props/C10.lean`.

Conventions (those of the code): the reduced cost of arc `(i, j)` is
`C i j + u i - v j`  (`cost[e] + pi[source[e]] - pi[target[e]]` in `find_entering_arc`).

Marginals: **decision** — the Boolean does *not* compare the marginals of `f` with `a`, `b`
against a built-in tolerance.  Floating-point flows never reproduce the inputs exactly and
any built-in tolerance would be arbitrary; instead

* `gap`   bounds the sub-optimality of `f` among all plans **with `f`'s own marginals**
          (always non-vacuous: `f` itself is such a plan);
* `rowRes` / `colRes` return the exact maximal marginal residuals `|Σ_j f i j - a i|`,
          `|Σ_i f i j - b j|` and the caller states its tolerance on them;
* `gapAB` bounds `⟨C,f⟩ - ⟨C,g⟩` for every plan `g` whose marginals are **exactly** `a`, `b`
          (the residuals enter through the potentials); this is the statement against the exactly
          normalised inputs when the caller passes `a = x/Σx`, `b = y/Σy` as exact rationals.

`a`, `b` fix the dimensions `n = a.size`, `m = b.size`; every shape is checked, so the
defaulting reads (`getD`) below never see a default inside an accepted certificate.
No Mathlib import: the driver links this natively.
-/
namespace Pynn.Transport

/-- `Σ_{k<n} g k` -/
def sumTo : Nat → (Nat → Rat) → Rat
  | 0, _ => 0
  | k+1, g => sumTo k g + g k

/-- `∀ k<n, p k` -/
def allTo : Nat → (Nat → Bool) → Bool
  | 0, _ => true
  | k+1, p => allTo k p && p k

/-- `max(0, max_{k<n} g k)` -/
def maxTo : Nat → (Nat → Rat) → Rat
  | 0, _ => 0
  | k+1, g => if maxTo k g < g k then g k else maxTo k g

def absR (x : Rat) : Rat := if x < 0 then -x else x

def at1 (a : Array Rat) (i : Nat) : Rat := a.getD i 0
def at2 (M : Array (Array Rat)) (i j : Nat) : Rat := (M.getD i #[]).getD j 0

/-- `M` is an `n × m` matrix -/
def shapeOk (n m : Nat) (M : Array (Array Rat)) : Bool :=
  M.size == n && allTo n (fun i => (M.getD i #[]).size == m)

/-- reduced cost of arc `(i, j)` -/
def red (C : Array (Array Rat)) (u v : Array Rat) (i j : Nat) : Rat :=
  at2 C i j + at1 u i - at1 v j

def rowSum (m : Nat) (f : Array (Array Rat)) (i : Nat) : Rat := sumTo m (fun j => at2 f i j)
def colSum (n : Nat) (f : Array (Array Rat)) (j : Nat) : Rat := sumTo n (fun i => at2 f i j)
def total (n m : Nat) (f : Array (Array Rat)) : Rat := sumTo n (fun i => rowSum m f i)
/-- `⟨C, f⟩` -/
def costOf (n m : Nat) (C f : Array (Array Rat)) : Rat :=
  sumTo n (fun i => sumTo m (fun j => at2 C i j * at2 f i j))

/-- The accept/reject part: shapes, `f ≥ 0`, `eps`-dual feasibility of `(u, v)`. -/
def certOk (a b : Array Rat) (C f : Array (Array Rat)) (u v : Array Rat) (eps : Rat) : Bool :=
  let n := a.size; let m := b.size
  shapeOk n m C && shapeOk n m f && u.size == n && v.size == m
    && allTo n (fun i => allTo m (fun j => decide (0 ≤ at2 f i j)))
    && allTo n (fun i => allTo m (fun j => decide (-eps ≤ red C u v i j)))

/-- Complementary-slackness gap of `f` against plans with `f`'s own marginals:
`Σ (C i j + u i - v j) * f i j + eps * Σ f i j`. -/
def certGap (a b : Array Rat) (C f : Array (Array Rat)) (u v : Array Rat) (eps : Rat) : Rat :=
  let n := a.size; let m := b.size
  sumTo n (fun i => sumTo m (fun j => red C u v i j * at2 f i j)) + eps * total n m f

/-- **The checker.** `(accepted, gap)`. -/
def certify (a b : Array Rat) (C f : Array (Array Rat)) (u v : Array Rat) (eps : Rat) : Bool × Rat :=
  (certOk a b C f u v eps, certGap a b C f u v eps)

/-- maximal row residual `max_i |Σ_j f i j - a i|` -/
def rowRes (a b : Array Rat) (f : Array (Array Rat)) : Rat :=
  maxTo a.size (fun i => absR (rowSum b.size f i - at1 a i))
/-- maximal column residual `max_j |Σ_i f i j - b j|` -/
def colRes (a b : Array Rat) (f : Array (Array Rat)) : Rat :=
  maxTo b.size (fun j => absR (colSum a.size f j - at1 b j))

/-- Gap of `f` against plans whose marginals are exactly `(a, b)`:
`Σ r f + eps * Σ a + Σ_i u i * (a i - Σ_j f i j) + Σ_j v j * (Σ_i f i j - b j)`. -/
def gapAB (a b : Array Rat) (C f : Array (Array Rat)) (u v : Array Rat) (eps : Rat) : Rat :=
  let n := a.size; let m := b.size
  sumTo n (fun i => sumTo m (fun j => red C u v i j * at2 f i j))
    + eps * sumTo n (fun i => at1 a i)
    + sumTo n (fun i => at1 u i * (at1 a i - rowSum m f i))
    + sumTo m (fun j => at1 v j * (colSum n f j - at1 b j))

end Pynn.Transport
